import DcVerif.Model.RingMulti
import DcVerif.Model.RingPay
/-!
Payload layer on top of the **multi-producer** pipeline model (`Model/RingMulti.lean`): slot contents and what each handler
saw — the multi-producer counterpart of `Model/RingPay.lean`, in the same ghost-layer style. `stepMPay` performs the system
step `stepM` and, for a writer's slot write or a handler call, its effect on the slot array (`RingBuffer<T, N>`: index =
sequence mod n). Used for the payload clauses of C04 and C13 and by the trace replay of the driver.

Where the written value comes from. With several writer threads the value stored for a sequence is not a function of the
sequence: it is the next item of the *claimant's* own item stream (`Producer::write(items, f)` hands `f` the slot, the sequence
and the item). So the configuration carries `pay writer m seq` — the value writer `writer` stores when it writes its `m`-th
event (counted from 0 over all its `write` calls) to sequence `seq` — which covers "function of (writer, sequence)" as well as
the harness' `((writer+1) << 32) | counter`; the layer keeps the per-writer event counter `cnt`. For the theorems the layer
records, as ghost state, *the value written for a sequence*: `val : Nat → Nat` (updated at every slot write) and the log `wlog`
of all slot writes `(sequence, writer, value)`. The property theorems are then stated against a function of the sequence alone
(`val`), exactly as for the single producer (`c.pay`), and three separate facts tie `val` to the writers: every sequence is
written at most once, by a holder of a claim containing it; `val q` is the value of that one write; and that value is the
`pay` of the writer's `m`-th event (`Lemmas/RingMultiSafe.lean`: `MOnce`; `Lemmas/RingMultiPay.lean`: `MLogInv`).
-/
namespace RingMultiPay
open Ring RingMulti RingPay

/-- what the pipeline does with payloads: the value a writer stores for its `m`-th event when it lands on sequence `q`
(`pay writer m q`), which handlers are mutable, and how a mutable handler transforms the event -/
structure MPCfg where
  pay  : Nat → Nat → Nat → Nat
  mutH : Nat → Nat → Bool
  tf   : Nat → Nat → Nat → Nat

/-- the handler side of the configuration in the shape of `RingPay.PCfg`, so that `expectUpTo` / `expectBelow` / `Topo` and the
consumer-side lemmas of `Lemmas/RingPay.lean` are reused as they are (they never read `pay`) -/
def MPCfg.hc (c : MPCfg) : PCfg := { pay := fun _ => 0, mutH := c.mutH, tf := c.tf }

structure MPaySt where
  x    : MSt
  slot : Nat → Nat := fun _ => 0
  seen : Nat → Nat → List (Nat × Nat) := fun _ _ => []   -- per handler: (sequence, payload seen), in order
  cnt  : Nat → Nat := fun _ => 0                          -- per writer: events written so far (the item stream position)
  val  : Nat → Nat := fun _ => 0                          -- ghost: the value written for a sequence
  wlog : List (Nat × Nat × Nat) := []                     -- ghost: every slot write (sequence, writer, value), in order

/-- one step: the system step of `Model/RingMulti.lean` plus its effect on the slots (a writer's slot write; a handler call,
which for a mutable handler stores the transformed event back) -/
def stepMPay (c : MPCfg) (s : MPaySt) : MTid → MPaySt
  | .writer i =>
    let w := s.x.wr i
    if i < s.x.P ∧ w.pc = .write ∧ w.w ≤ w.hi then
      let v := c.pay i (s.cnt i) w.w
      { s with x := stepM s.x (.writer i), slot := updN s.slot (w.w % s.x.s.n) v,
               cnt := updN s.cnt i (s.cnt i + 1), val := updN s.val w.w v, wlog := s.wlog ++ [(w.w, i, v)] }
    else { s with x := stepM s.x (.writer i) }
  | .drainer => { s with x := stepM s.x .drainer }
  | .cons k j =>
    if k < s.x.s.K ∧ j < s.x.s.h k then
      let cc := s.x.s.cons k j
      if cc.pc = .handle ∧ cc.i ≤ cc.avail then
        let v := s.slot (cc.i % s.x.s.n)
        { s with x := stepM s.x (.cons k j),
                 seen := updL s.seen k j (s.seen k j ++ [(cc.i, v)]),
                 slot := if c.mutH k j then updN s.slot (cc.i % s.x.s.n) (c.tf k j v) else s.slot }
      else { s with x := stepM s.x (.cons k j) }
    else s

def runMPay (c : MPCfg) (s : MPaySt) (sched : List MTid) : MPaySt := sched.foldl (stepMPay c) s

def mkMPay (n K : Nat) (h : Nat → Nat) (blocking : Bool) (batches : List (List Nat)) : MPaySt :=
  { x := mkM n K h blocking batches }

/-- the layer is a ghost: its projection is the system step -/
theorem stepMPay_x (c : MPCfg) (s : MPaySt) (t : MTid) : (stepMPay c s t).x = stepM s.x t := by
  cases t with
  | writer i => simp only [stepMPay]; split <;> rfl
  | drainer => rfl
  | cons k j =>
    simp only [stepMPay]
    split
    · split <;> rfl
    · rename_i h; simp [stepM, h]

/-- rebuild the function-indexed parts from tables and drop the ghost log (for long trace replays) -/
def compactMPay (s : MPaySt) : MPaySt :=
  let arr := ((List.range s.x.s.n).map s.slot).toArray
  let carr := ((List.range s.x.P).map s.cnt).toArray
  { x := compactM s.x, slot := fun i => arr.getD i 0, cnt := fun i => carr.getD i 0 }

end RingMultiPay
