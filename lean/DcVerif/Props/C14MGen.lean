import DcVerif.Gen.MpSeq
import DcVerif.Model.RingMulti
/-!
# The multi-producer sequencer's arithmetic, ranges and decisions, tied to the source (C14; used by C04 / C05 / C06)

`Gen/MpSeq.lean` is regenerated on every run by `tools/rs2lean_mpseq.py` from `producer/multi_producer.rs` (`has_capacity`, `next`,
`publish`, `drain`). Here: every step of a writer thread of `Model/RingMulti.lean` computes exactly the generated expression and branches
on exactly the generated condition — the capacity test, the claimed range and the CAS target of `next`; in `publish` the range of ready
bits set, where the scan starts / what it probes / how it advances / when it stops, whether anything is released, the range of bits
cleared, the expected and the new value of the cursor CAS, when the CAS loop gives up, and what is stored into the low watermark.
(The defects F7 / F13 of the release protocol are faithfully *in* these expressions: the scan stops at the publisher's own `hi`, and
the low watermark is stored unconditionally.)
-/
namespace C14MGen
open Gen.MpSeq RingMulti Ring

theorem updW_same (f : Nat → Writer) (i : Nat) (w : Writer) : updW f i w i = w := by simp [updW]

/-- `publish` is translated fail-open (`tools/rs2lean_mpseq.py`): when its body is not in the shape the translator reads,
`publish_translated` is `false` and the `mp_*` definitions of `publish` are placeholders about which the proofs below would not go
through. They are therefore stated under the hypothesis `hp : publish_translated = true`; `if_translated hp => tac` closes the goal
from `hp` when the flag is `false` and runs `tac` otherwise. -/
macro "if_translated " hp:ident " => " tac:tacticSeq : tactic =>
  `(tactic| first | (exfalso; revert $hp:ident; decide) | ($tac))

/-- `next`: the capacity test -/
theorem model_capCheck (x : MSt) (i : Nat) (h : (x.wr i).pc = .capCheck) :
    ((stepWriter x i).wr i).pc =
      if mp_has_capacity x.s.n (x.wr i).hwSeen (x.wr i).minG (x.wr i).count then .casHw else .readHw := by
  by_cases hc : x.s.n > ((x.wr i).hwSeen - (x.wr i).minG) + (x.wr i).count <;>
    simp [stepWriter, h, hc, mp_has_capacity, updW_same]

/-- one pass of the generated `next` loop in closed form, whatever way round the source nests its tests -/
theorem next_pass_spec (cap cas : Bool) (hw count : Nat) :
    mp_next_pass cap cas hw count = if cap && cas then some (hw + 1, hw + count) else none := by
  unfold mp_next_pass
  cases cap <;> cases cas <;> simp

/-- `next`: the CAS on the high watermark and the range returned -/
theorem model_casHw (x : MSt) (i : Nat) (h : (x.wr i).pc = .casHw) (hcas : x.hw = (x.wr i).hwSeen) :
    (stepWriter x i).hw = mp_next_cas_new (x.wr i).hwSeen (x.wr i).count ∧
    some (((stepWriter x i).wr i).lo, ((stepWriter x i).wr i).hi) = mp_next_pass true true (x.wr i).hwSeen (x.wr i).count := by
  simp [stepWriter, h, hcas, mp_next_cas_new, next_pass_spec, updW_same]

/-- `next`: a failed capacity test or a failed CAS starts the next pass (nothing is claimed) -/
theorem model_next_retry (x : MSt) (i : Nat) :
    ((x.wr i).pc = .casHw → x.hw ≠ (x.wr i).hwSeen →
      ((stepWriter x i).wr i).pc = .readHw ∧ (stepWriter x i).hw = x.hw ∧ mp_next_pass true false (x.wr i).hwSeen (x.wr i).count = none) ∧
    (∀ cas, mp_next_pass false cas (x.wr i).hwSeen (x.wr i).count = none) := by
  constructor
  · intro h hc; simp [stepWriter, h, hc, next_pass_spec, updW_same]
  · intro cas; simp [next_pass_spec]

/-- `publish`: the ready bits set are those of the generated range, from its lower to its upper end -/
theorem model_setBit (hp : publish_translated = true) (x : MSt) (i : Nat) :
    ((x.wr i).pc = .write → ¬ (x.wr i).w ≤ (x.wr i).hi →
      ((stepWriter x i).wr i).nbit = (mp_set_range (x.wr i).lo (x.wr i).hi).1 ∧ ((stepWriter x i).wr i).pc = .setBit) ∧
    ((x.wr i).pc = .setBit →
      ((stepWriter x i).wr i).pc = if (x.wr i).nbit ≤ (mp_set_range (x.wr i).lo (x.wr i).hi).2 then .setBit else .readLw) := by
  if_translated hp =>
    constructor
    · intro h hw; simp [stepWriter, h, hw, mp_set_range, updW_same]
    · intro h
      by_cases hn : (x.wr i).nbit ≤ (x.wr i).hi <;> simp [stepWriter, h, hn, mp_set_range, updW_same]

/-- `publish`: the scan starts at the generated value (the low watermark just read) -/
theorem model_readLw (hp : publish_translated = true) (x : MSt) (i : Nat) (h : (x.wr i).pc = .readLw) :
    ((stepWriter x i).wr i).good = mp_scan_start x.lw ∧ ((stepWriter x i).wr i).lwSeen = x.lw := by
  if_translated hp =>
    simp [stepWriter, h, mp_scan_start, updW_same]

/-- `publish`: one step of the scan -/
theorem model_scan (hp : publish_translated = true) (x : MSt) (i : Nat) (h : (x.wr i).pc = .scan) :
    let w' := (stepWriter x i).wr i
    if mp_scan_continue (x.wr i).good (x.wr i).hi then
      (if bmIsSet x.bm (mp_scan_probe (x.wr i).good) then w'.good = mp_scan_step (x.wr i).good ∧ w'.pc = .scan
       else w'.good = (x.wr i).good ∧ w'.pc = .relCheck)
    else w'.good = (x.wr i).good ∧ w'.pc = .relCheck := by
  if_translated hp =>
    by_cases hc : (x.wr i).good < (x.wr i).hi
    · by_cases hb : bmIsSet x.bm ((x.wr i).good + 1) = true <;>
        simp [stepWriter, h, hc, hb, mp_scan_continue, mp_scan_probe, mp_scan_step, updW_same]
    · simp [stepWriter, h, hc, mp_scan_continue, updW_same]

/-- `publish`: whether anything is released, and the range of ready bits cleared -/
theorem model_release (hp : publish_translated = true) (x : MSt) (i : Nat) :
    ((x.wr i).pc = .relCheck →
      let w' := (stepWriter x i).wr i
      if mp_release_needed (x.wr i).good (x.wr i).lwSeen then
        w'.pc = .unsetBit ∧ w'.u = (mp_unset_range (x.wr i).lwSeen (x.wr i).good (x.wr i).lo (x.wr i).hi).1
      else w'.pc = .start) ∧
    ((x.wr i).pc = .unsetBit →
      let w' := (stepWriter x i).wr i
      if (x.wr i).u ≤ (mp_unset_range (x.wr i).lwSeen (x.wr i).good (x.wr i).lo (x.wr i).hi).2 then w'.pc = .unsetBit ∧ w'.u = (x.wr i).u + 1
      else w'.pc = .casCur ∧ w'.cur = mp_cas_first_expected (x.wr i).lwSeen (x.wr i).good) := by
  if_translated hp =>
    constructor
    · intro h
      by_cases hc : (x.wr i).good > (x.wr i).lwSeen <;> simp [stepWriter, h, hc, mp_release_needed, mp_unset_range, updW_same]
    · intro h
      by_cases hc : (x.wr i).u ≤ (x.wr i).good <;>
        simp [stepWriter, h, hc, mp_unset_range, mp_cas_first_expected, updW_same]

/-- `publish`: the cursor CAS, its retry loop and the low-watermark store -/
theorem model_cursor_cas (hp : publish_translated = true) (x : MSt) (i : Nat) :
    ((x.wr i).pc = .casCur → x.s.cursor = (x.wr i).cur →
      (stepWriter x i).s.cursor = mp_cas_new (x.wr i).lwSeen (x.wr i).good (x.wr i).hi ∧ ((stepWriter x i).wr i).pc = .setLw) ∧
    ((x.wr i).pc = .casCur → x.s.cursor ≠ (x.wr i).cur → ((stepWriter x i).wr i).pc = .reloadCur ∧ (stepWriter x i).s.cursor = x.s.cursor) ∧
    ((x.wr i).pc = .reloadCur →
      ((stepWriter x i).wr i).cur = x.s.cursor ∧
      ((stepWriter x i).wr i).pc = if mp_cas_giveup x.s.cursor (x.wr i).good then .setLw else .casCur) ∧
    ((x.wr i).pc = .setLw → (stepWriter x i).lw = mp_lw_store (x.wr i).lwSeen (x.wr i).good (x.wr i).lo (x.wr i).hi) := by
  if_translated hp =>
    refine ⟨?_, ?_, ?_, ?_⟩
    · intro h hc; simp [stepWriter, h, hc, mp_cas_new, updW_same]
    · intro h hc; simp [stepWriter, h, hc, updW_same]
    · intro h
      by_cases hc : x.s.cursor > (x.wr i).good <;> simp [stepWriter, h, hc, mp_cas_giveup, updW_same]
    · intro h; simp [stepWriter, h, mp_lw_store]

/-- `drain`: the draining thread waits while the generated condition holds -/
theorem model_drain (x : MSt) (h : x.dr.pc = .drainCheck) (hb : x.s.blocking = false) :
    (stepDrainer x).dr.pc = if mp_drain_waiting x.dr.min x.dr.current then .drainLoad else .setDone := by
  by_cases hc : x.dr.min < x.dr.current <;> simp [stepDrainer, h, hb, hc, mp_drain_waiting]

/-- **successive successful claims tile**: the range returned for the high watermark `hw` is `hw+1 … hw+count`, and the next claimant
(who reads the new high watermark) continues right after it -/
theorem c14mgen_claims_tile (hw c1 c2 : Nat) (h1 : 1 ≤ c1) :
    ∃ lo1 hi1 lo2 hi2, mp_next_pass true true hw c1 = some (lo1, hi1) ∧
      mp_next_pass true true (mp_next_cas_new hw c1) c2 = some (lo2, hi2) ∧
      lo1 = hw + 1 ∧ hi1 = hw + c1 ∧ lo1 ≤ hi1 ∧ lo2 = hi1 + 1 ∧ hi2 + 1 = lo2 + c2 := by
  refine ⟨hw + 1, hw + c1, hw + c1 + 1, hw + c1 + c2, ?_, ?_, rfl, rfl, by omega, rfl, by omega⟩
  · simp [next_pass_spec]
  · simp [next_pass_spec, mp_next_cas_new]

/-- **a granted claim stays within one ring of the slowest gating handler**: `has_capacity` ⇒ `end < min + buffer_size` (for a
handler that is not ahead of the watermark read) -/
theorem c14mgen_capacity_bounds_claim (bs hw min count : Nat) (h : mp_has_capacity bs hw min count = true) (hm : min ≤ hw) :
    ∀ lo hi, mp_next_pass true true hw count = some (lo, hi) → hi < min + bs := by
  intro lo hi hr
  simp [next_pass_spec] at hr
  simp [mp_has_capacity] at h
  omega

/-- the scan only ever passes sequences whose ready bit it found set, one at a time, and never goes beyond the publisher's own `hi`
(which is the root of F7) -/
theorem c14mgen_scan_shape (hp : publish_translated = true) (good hi : Nat) :
    mp_scan_probe good = good + 1 ∧ mp_scan_step good = mp_scan_probe good ∧ (mp_scan_continue good hi = true ↔ good < hi) := by
  if_translated hp =>
    simp [mp_scan_probe, mp_scan_step, mp_scan_continue]

/-- what is released: bits `lw … good` are cleared, the cursor is moved to `good`, and `good` is stored as the new low watermark
whether or not this publisher won the cursor race (the root of F13) -/
theorem c14mgen_release_shape (hp : publish_translated = true) (lw good lo hi : Nat) :
    mp_unset_range lw good lo hi = (lw, good) ∧ mp_cas_first_expected lw good = lw ∧ mp_cas_new lw good hi = good ∧
    mp_lw_store lw good lo hi = good ∧ (mp_release_needed good lw = true ↔ good > lw) := by
  if_translated hp =>
    simp [mp_unset_range, mp_cas_first_expected, mp_cas_new, mp_lw_store, mp_release_needed]

example : mp_next_pass true true 7 3 = some (8, 10) ∧ mp_has_capacity 8 10 4 2 = false ∧ mp_has_capacity 8 10 4 1 = true ∧
    mp_next_pass true false 7 3 = none := by decide

end C14MGen
