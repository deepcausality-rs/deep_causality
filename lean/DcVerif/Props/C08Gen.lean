import DcVerif.Gen.UGraphFns
import DcVerif.Props.C08
/-!
# C08 — the hand-written model is what the translator reads from the source

`Gen/UGraphFns.lean` is regenerated on every run by `tools/rs2lean_ugraphfns.py` from the current
`ultragraph/src/storage/matrix_graph/*.rs`: one `do` block in the `Option` monad per Rust function (`none` = the call
panics), written against the vocabulary of `Model/UGraph.lean` (association lists for the hash maps, the assumed petgraph
operations). This file proves, for every generated definition, that on every well-formed state (the invariant `WF` that
`c08_reachable_wf` establishes for every reachable state) it computes exactly what the hand-written model computes —
same result, same final state, panics exactly where the model panics — and transports the statements of `Props/C08.lean`
to the step function assembled from the generated definitions (`genStep`, the way the harness calls the real functions).

The proofs do not match the text of the generated definitions: they unfold both sides and decide the equality by case
analysis on the atoms (`mGet g.indexMap a`, `g.hasCell k l`, `petRemoveEdge …`, `g.ids.len`, …), falling back on the
invariant (`index_map` maps `i ↦ i` exactly on the live indices, `node_count = node_map.len()`) where a rewrite of the
source relies on it. Behaviour-preserving edits regenerate a different `Gen/UGraphFns.lean` and still check; an edit that
changes the behaviour on a reachable state breaks the corresponding `_eq` theorem.
-/
set_option linter.unusedVariables false
namespace C08Gen
open Spec Spec.DiGraph Model Model.UGraph Gen.UGraphFns

/-- a loop that pushes one value per element -/
@[simp] theorem forEach_push {α β : Type} (l : List α) (acc : List β) (c : α → β) :
    forEach l acc (fun s x => some (s ++ [c x])) = some (acc ++ l.map c) := by
  induction l generalizing acc with
  | nil => simp [forEach]
  | cons x xs ih => simp [forEach, ih]

/-- a loop that appends a list per element -/
@[simp] theorem forEach_append {α β : Type} (l : List α) (acc : List β) (c : α → List β) :
    forEach l acc (fun s x => some (s ++ c x)) = some (acc ++ l.flatMap c) := by
  induction l generalizing acc with
  | nil => simp [forEach]
  | cons x xs ih => simp [forEach, ih]

/-- a loop of `graph.remove_edge` calls is `removeCells` -/
theorem forEach_removeCells {α : Type} (l : List α) (g : UGraph) (f : UGraph → α → Option UGraph) (c : α → Nat × Nat)
    (hf : ∀ s x, f s x = petRemoveEdge s (c x).1 (c x).2) : forEach l g f = removeCells g (l.map c) := by
  induction l generalizing g with
  | nil => rfl
  | cons x xs ih =>
    simp only [forEach, List.map, removeCells, hf]
    cases petRemoveEdge g (c x).1 (c x).2 <;> simp [ih]

@[simp] theorem forEach_removeRow (l : List Nat) (g : UGraph) (k : Nat) :
    forEach l g (fun s b => petRemoveEdge s k b) = removeCells g (l.map (fun b => (k, b))) :=
  forEach_removeCells l g _ _ (fun _ _ => rfl)

@[simp] theorem forEach_removeCol (l : List Nat) (g : UGraph) (k : Nat) :
    forEach l g (fun s a => petRemoveEdge s a k) = removeCells g (l.map (fun a => (a, k))) :=
  forEach_removeCells l g _ _ (fun _ _ => rfl)

/-- with the matrix and its counter in step (`EdgesOk`), the cells of column `k` and of row `k` can be removed in either order:
both ways every loop finds its cells, and what is left is the same graph -/
theorem removeIncident_swap {g : UGraph} (h : EdgesOk g) (k : Nat) :
    ((g.removeCells ((g.colOf k).map (fun a => (a, k)))).bind
        fun s => s.removeCells ((s.rowOf k).map (fun b => (k, b)))) =
    ((g.removeCells ((g.rowOf k).map (fun b => (k, b)))).bind
        fun s => s.removeCells ((s.colOf k).map (fun a => (a, k)))) := by
  obtain ⟨hn, hc, hf⟩ := row_cells g h k
  obtain ⟨g1, h1, hok1, hadj1, hids1, hnm1, him1, hroot1⟩ := removeCells_spec _ g h hn hc
  obtain ⟨hn', hc', hf'⟩ := col_cells g1 hok1 k
  obtain ⟨g2, h2, hok2, hadj2, hids2, hnm2, him2, hroot2⟩ := removeCells_spec _ g1 hok1 hn' hc'
  obtain ⟨cn, cc, cf⟩ := col_cells g h k
  obtain ⟨c1, e1, cok1, cadj1, cids1, cnm1, cim1, croot1⟩ := removeCells_spec _ g h cn cc
  obtain ⟨cn', cc', cf'⟩ := row_cells c1 cok1 k
  obtain ⟨c2, e2, cok2, cadj2, cids2, cnm2, cim2, croot2⟩ := removeCells_spec _ c1 cok1 cn' cc'
  rw [h1, e1]
  simp only [Option.bind_some, h2, e2]
  have hadj : c2.adj = g2.adj := by
    rw [cadj2, cf', cadj1, cf, hadj2, hf', hadj1, hf, List.filter_filter, List.filter_filter]
    apply List.filter_congr; intro e _; rw [Bool.and_comm]
  have hnb : c2.nbEdges = g2.nbEdges := by rw [cok2.nb, hok2.nb, hadj]
  congr 1
  cases c2; cases g2
  simp only [UGraph.mk.injEq] at *
  exact ⟨by rw [cids2, cids1, hids2, hids1], hadj, hnb, by rw [cnm2, cnm1, hnm2, hnm1], by rw [cim2, cim1, him2, him1],
    by rw [croot2, croot1, hroot2, hroot1]⟩

/-- the same, in front of whatever follows the two loops -/
theorem removeIncident_swap' {β : Type} {g : UGraph} (h : EdgesOk g) (k : Nat) (f : UGraph → Option β) :
    ((g.removeCells ((g.colOf k).map (fun a => (a, k)))).bind
        fun s => (s.removeCells ((s.rowOf k).map (fun b => (k, b)))).bind f) =
    ((g.removeCells ((g.rowOf k).map (fun b => (k, b)))).bind
        fun s => (s.removeCells ((s.colOf k).map (fun a => (a, k)))).bind f) := by
  have := congrArg (fun o => o.bind f) (removeIncident_swap h k)
  simpa [Option.bind_assoc] using this

@[simp] theorem mInsert_mInsert {β : Type} (m : List (Nat × β)) (k : Nat) (v w : β) :
    mInsert (mInsert m k v) k w = mInsert m k w := by
  simp [mInsert, List.filter_filter]

/-- a `Result<(), _>` mutator of the hand model as the generated definitions answer: a panic loses the state -/
def ofOut (p : UGraph × Out) : Option (UGraph × Res Unit) :=
  match p.2 with
  | .ok => some (p.1, .ok ())
  | .err => some (p.1, .err)
  | _ => none
@[simp] theorem ofOut_ok (g : UGraph) : ofOut (g, .ok) = some (g, .ok ()) := rfl
@[simp] theorem ofOut_err (g : UGraph) : ofOut (g, .err) = some (g, .err) := rfl
@[simp] theorem ofOut_panic (g : UGraph) : ofOut (g, .panic) = none := rfl

/-- `index_map` has one entry per node (`index_map.len()` for `node_map.len()` is the same number) -/
theorem indexMap_length {g : UGraph} (h : WF g) : g.indexMap.length = g.nodeMap.length := by
  rw [h.indexSync]; simp [sync]

/-- the facts of the invariant a proof may fall back on: `index_map` is the identity on the live indices, `node_count()` is
`node_map.len()` -/
macro "ug_wf" h:ident : tactic => `(tactic|
  (simp only [indexMap_length $h, WF.mGet_index $h, WF.len $h, WF.containsNode $h, WF.getNode $h, WF.containsEdge $h,
    removeIncident_swap' (WF.edgesOk $h)] at *))

/-- unfold the hand model and the vocabulary, normalise -/
macro "ug_norm" : tactic => `(tactic|
  try simp [containsNode, containsEdge, getNode, removeNode, removeEdge, addEdgeW, addNode, addRoot, petAddNode, petNodeCount,
      petEdgeCount, petClear, petNew, petWithCapacity, UGraph.clear, UGraph.allEdges, UGraph.shortestPath, init, okOr, assertThat,
      checkedSub, Res.isOk, Res.toOption, List.flatMap_map, Option.isSome_iff_ne_none, contains_node, contains_edge,
      contains_root_node, is_empty, size, number_nodes, number_edges, *])
theorem bind_eq_match {α β : Type} (x : Option α) (f : α → Option β) :
    x.bind f = match x with | some a => f a | none => none := by cases x <;> rfl
theorem map_eq_match {α β : Type} (x : Option α) (f : α → β) :
    x.map f = match x with | some a => some (f a) | none => none := by cases x <;> rfl
/-- decide what is left by cases on every `if` / `match` / bind -/
macro "ug_split" : tactic => `(tactic|
  ((try simp only [bind_eq_match, map_eq_match]) <;> (repeat' (split <;> try simp_all [Option.isSome_iff_ne_none])) <;>
    (try grind)))
macro "ug_auto" h:ident : tactic => `(tactic|
  first
  | (ug_norm <;> ug_split; done)
  | (ug_norm <;> (try ug_wf $h) <;> ug_norm <;> ug_split; done))

theorem new_eq : new = some init := by
  simp [new, petNew, init]

theorem new_with_capacity_eq (c : Nat) : new_with_capacity c = some init := by
  simp [new_with_capacity, petWithCapacity, init]

theorem contains_node_eq {g : UGraph} (h : WF g) (i : Nat) : contains_node g i = some (g.containsNode i) := by
  simp only [contains_node]; ug_auto h

theorem get_node_eq {g : UGraph} (h : WF g) (i : Nat) : get_node g i = some (g.getNode i) := by
  simp only [get_node, contains_node_eq h]; ug_auto h

/-- what the two `contains_node` guards of an edge function find on a well-formed graph -/
inductive EdgeCase (g : UGraph) (a b : Nat) : Prop
  | noA (ha : g.containsNode a = false)
  | noB (ha : g.containsNode a = true) (hb : g.containsNode b = false)
  | both (ha : g.containsNode a = true) (hb : g.containsNode b = true)
      (ka : mGet g.indexMap a = some a) (kb : mGet g.indexMap b = some b)

theorem edgeCase {g : UGraph} (h : WF g) (a b : Nat) : EdgeCase g a b := by
  cases ha : g.containsNode a
  · exact .noA ha
  cases hb : g.containsNode b
  · exact .noB ha hb
  · exact .both ha hb (h.mGet_index_of_contains ha) (h.mGet_index_of_contains hb)

theorem contains_edge_eq {g : UGraph} (h : WF g) (a b : Nat) : contains_edge g a b = some (g.containsEdge a b) := by
  rcases edgeCase h a b with ha | ⟨ha, hb⟩ | ⟨ha, hb, ka, kb⟩ <;>
    simp [contains_edge, contains_node_eq h, containsEdge, *]

theorem add_edge_with_weight_eq {g : UGraph} (h : WF g) (a b w : Nat) :
    add_edge_with_weight g a b w = ofOut (g.addEdgeW a b w) := by
  rcases edgeCase h a b with ha | ⟨ha, hb⟩ | ⟨ha, hb, ka, kb⟩
  · simp [add_edge_with_weight, contains_node_eq h, addEdgeW, *]
  · simp [add_edge_with_weight, contains_node_eq h, addEdgeW, *]
  · cases he : g.containsEdge a b <;> cases hp : g.petAddEdge a b w <;>
      simp [add_edge_with_weight, contains_node_eq h, contains_edge_eq h, addEdgeW, *]

/- `add_edge_with_weight_eq` is there for a source in which `add_edge` delegates instead of repeating the body -/
set_option linter.unusedSimpArgs false in
theorem add_edge_eq {g : UGraph} (h : WF g) (a b : Nat) : add_edge g a b = ofOut (g.addEdgeW a b 0) := by
  rcases edgeCase h a b with ha | ⟨ha, hb⟩ | ⟨ha, hb, ka, kb⟩
  · simp [add_edge, add_edge_with_weight_eq h, contains_node_eq h, addEdgeW, *]
  · simp [add_edge, add_edge_with_weight_eq h, contains_node_eq h, addEdgeW, *]
  · cases he : g.containsEdge a b <;> cases hp : g.petAddEdge a b 0 <;>
      simp [add_edge, add_edge_with_weight_eq h, contains_node_eq h, contains_edge_eq h, addEdgeW, *]

theorem remove_edge_eq {g : UGraph} (h : WF g) (a b : Nat) : remove_edge g a b = ofOut (g.removeEdge .repaired a b) := by
  rcases edgeCase h a b with ha | ⟨ha, hb⟩ | ⟨ha, hb, ka, kb⟩
  · simp [remove_edge, contains_node_eq h, removeEdge, *]
  · simp [remove_edge, contains_node_eq h, removeEdge, *]
  · cases he : g.containsEdge a b <;> cases hp : g.petRemoveEdge a b <;>
      simp [remove_edge, contains_node_eq h, contains_edge_eq h, removeEdge, *]

theorem add_node_eq {g : UGraph} (h : WF g) (v : Nat) : add_node g v = some (g.addNode v) := by
  simp only [add_node]; ug_auto h

theorem add_root_node_eq {g : UGraph} (h : WF g) (v : Nat) : add_root_node g v = some (g.addRoot v) := by
  simp only [add_root_node, add_node_eq h]; ug_auto h

theorem remove_node_eq {g : UGraph} (h : WF g) (i : Nat) : remove_node g i = ofOut (g.removeNode .repaired i) := by
  simp only [remove_node, contains_node_eq h]; ug_auto h

theorem contains_root_node_eq {g : UGraph} (h : WF g) : contains_root_node g = some g.root.isSome := by
  simp only [contains_root_node]; ug_auto h

theorem get_root_node_eq {g : UGraph} (h : WF g) : get_root_node g = some (g.root.bind (mGet g.nodeMap)) := by
  simp only [get_root_node, contains_root_node_eq h]; ug_auto h

theorem get_root_index_eq {g : UGraph} (h : WF g) : get_root_index g = some g.root := by
  simp only [get_root_index, contains_root_node_eq h]; ug_auto h

theorem size_eq {g : UGraph} (h : WF g) : size g = g.ids.len := by
  simp only [size]; ug_auto h

theorem number_nodes_eq {g : UGraph} (h : WF g) : number_nodes g = g.ids.len := by
  simp only [number_nodes]; ug_auto h

theorem is_empty_eq {g : UGraph} (h : WF g) : is_empty g = g.ids.len.map (· == 0) := by
  simp only [is_empty]; ug_auto h

theorem number_edges_eq {g : UGraph} (h : WF g) : number_edges g = some g.nbEdges := by
  simp only [number_edges]; ug_auto h

theorem get_last_index_eq {g : UGraph} (h : WF g) :
    get_last_index g = g.ids.len.map (fun n => if n == 0 then Res.err else Res.ok g.nodeMap.length) := by
  simp only [get_last_index, is_empty_eq h]; ug_auto h

theorem get_all_nodes_eq {g : UGraph} (h : WF g) : get_all_nodes g = g.ids.len.map (fun _ => g.nodeMap.map (·.2)) := by
  simp only [get_all_nodes]; ug_auto h

theorem get_all_edges_eq {g : UGraph} (h : WF g) : get_all_edges g = some g.allEdges := by
  simp only [get_all_edges]; ug_auto h

theorem clear_eq {g : UGraph} (h : WF g) : Gen.UGraphFns.clear g = some (UGraph.clear g, ()) := by
  simp only [Gen.UGraphFns.clear]; ug_auto h

theorem outgoing_edges_eq {g : UGraph} (h : WF g) (a : Nat) :
    outgoing_edges g a = some (if g.containsNode a then Res.ok (g.rowOf a) else Res.err) := by
  simp only [outgoing_edges, contains_node_eq h]; ug_auto h

theorem shortest_path_eq (astar : UGraph → Nat → Nat → Option (Nat × List Nat)) {g : UGraph} (h : WF g) (a b : Nat) :
    shortest_path astar g a b = some (g.shortestPath ((astar g a b).map (·.2)) a b) := by
  simp only [shortest_path, contains_node_eq h]; ug_auto h

/-! ## the step function assembled from the generated definitions

`genStep` calls the generated functions the way the harness (`harness/src/c08.rs`) calls the real ones — one public function per
operation, hash-map iteration orders sorted, errors mapped to `err`, a panic reported as `panic` (state as on entry). -/

/-- an observer's answer -/
def obs {α : Type} (g : UGraph) (f : α → Out) : Option α → UGraph × Out
  | none => (g, .panic)
  | some a => (g, f a)
/-- a mutator's answer and the state it leaves -/
def mutr {α : Type} (g : UGraph) (f : α → Out) : Option (UGraph × α) → UGraph × Out
  | none => (g, .panic)
  | some (g', a) => (g', f a)
def unitOut : Res Unit → Out
  | .ok _ => .ok
  | .err => .err
def natOut : Res Nat → Out
  | .ok n => .nat n
  | .err => .err
def natsOut : Res (List Nat) → Out
  | .ok l => .nats l
  | .err => .err

def genStep (g : UGraph) : Op → UGraph × Out
  | .addNode v => mutr g .idx (add_node g v)
  | .addRoot v => mutr g .idx (add_root_node g v)
  | .removeNode i => mutr g unitOut (remove_node g i)
  | .addEdge a b => mutr g unitOut (add_edge g a b)
  | .addEdgeW a b w => mutr g unitOut (add_edge_with_weight g a b w)
  | .removeEdge a b => mutr g unitOut (remove_edge g a b)
  | .clear => mutr g (fun _ => .ok) (Gen.UGraphFns.clear g)
  | .containsNode i => obs g .bool (contains_node g i)
  | .getNode i => obs g .optNat (get_node g i)
  | .containsEdge a b => obs g .bool (contains_edge g a b)
  | .size => obs g .nat (size g)
  | .isEmpty => obs g .bool (is_empty g)
  | .numNodes => obs g .nat (number_nodes g)
  | .numEdges => obs g .nat (number_edges g)
  | .allNodes => obs g (fun l => .nats (sortNat l)) (get_all_nodes g)
  | .allEdges => obs g (fun l => .pairs (sortPairs l)) (get_all_edges g)
  | .outgoing a => obs g natsOut (outgoing_edges g a)
  | .containsRoot => obs g .bool (contains_root_node g)
  | .getRootNode => obs g .optNat (get_root_node g)
  | .getRootIndex => obs g .optNat (get_root_index g)
  | .getLastIndex => obs g natOut (get_last_index g)

def genRun (g : UGraph) : List Op → UGraph × List Out
  | [] => (g, [])
  | op :: rest =>
    let (g', o) := genStep g op
    let (g'', os) := genRun g' rest
    (g'', o :: os)

/-- on a well-formed graph a `Result<(), _>` mutator fails and leaves the graph as it was, or succeeds; either way the generated
function's answer, read back, is the model's -/
theorem mutr_ofOut (g : UGraph) {p : UGraph × Out} {guards : Prop}
    (hp : p = (g, .err) ∨ guards ∧ ∃ g', p = (g', .ok)) : mutr g unitOut (ofOut p) = p := by
  rcases hp with rfl | ⟨_, g', rfl⟩ <;> rfl

/-- **the hand-written step is the generated step** on every well-formed state -/
theorem gen_step {g : UGraph} (h : WF g) (op : Op) : genStep g op = UGraph.step .repaired g op := by
  cases op with
  | addNode v => simp [genStep, UGraph.step, add_node_eq h, mutr]
  | addRoot v => simp [genStep, UGraph.step, add_root_node_eq h, mutr]
  | removeNode i =>
    simp only [genStep, UGraph.step, remove_node_eq h]
    exact mutr_ofOut g (removeNode_answers h i)
  | addEdge a b =>
    simp only [genStep, UGraph.step, add_edge_eq h]
    exact mutr_ofOut g (addEdgeW_answers h a b 0)
  | addEdgeW a b w =>
    simp only [genStep, UGraph.step, add_edge_with_weight_eq h]
    exact mutr_ofOut g (addEdgeW_answers h a b w)
  | removeEdge a b =>
    simp only [genStep, UGraph.step, remove_edge_eq h]
    exact mutr_ofOut g (removeEdge_answers h a b)
  | clear => simp [genStep, UGraph.step, clear_eq h, mutr]
  | containsNode i => simp [genStep, UGraph.step, contains_node_eq h, obs]
  | getNode i => simp [genStep, UGraph.step, get_node_eq h, obs]
  | containsEdge a b => simp [genStep, UGraph.step, contains_edge_eq h, obs]
  | size => simp only [genStep, UGraph.step, size_eq h]; cases g.ids.len <;> rfl
  | isEmpty => simp only [genStep, UGraph.step, is_empty_eq h]; cases g.ids.len <;> rfl
  | numNodes => simp only [genStep, UGraph.step, number_nodes_eq h]; cases g.ids.len <;> rfl
  | numEdges => simp [genStep, UGraph.step, number_edges_eq h, obs]
  | allNodes => simp only [genStep, UGraph.step, get_all_nodes_eq h]; cases g.ids.len <;> rfl
  | allEdges => simp [genStep, UGraph.step, get_all_edges_eq h, obs]
  | outgoing a =>
    simp only [genStep, UGraph.step, outgoing_edges_eq h, obs]
    cases g.containsNode a <;> rfl
  | containsRoot => simp [genStep, UGraph.step, contains_root_node_eq h, obs]
  | getRootNode =>
    simp only [genStep, UGraph.step, get_root_node_eq h, obs]
    cases g.root <;> rfl
  | getRootIndex => simp [genStep, UGraph.step, get_root_index_eq h, obs]
  | getLastIndex =>
    simp only [genStep, UGraph.step, get_last_index_eq h]
    cases g.ids.len with
    | none => rfl
    | some n => simp only [Option.map, obs]; cases n == 0 <;> rfl

/-- histories: the generated functions, called one after the other on the state the previous call left, answer what the
hand-written model answers and leave the same state -/
theorem gen_run (ops : List Op) : ∀ {g : UGraph}, WF g → genRun g ops = UGraph.run .repaired g ops := by
  induction ops with
  | nil => intro g _; rfl
  | cons op rest ih =>
    intro g h
    have hwf := (C08.c08_step_refines h op).1
    simp only [genRun, UGraph.run, gen_step h, ih hwf]

/-- **C08 for the generated definitions.** For every operation history on the graph built by the generated `new`: every answer
of the generated functions is allowed by the plain directed-graph specification, and the final states correspond. -/
theorem c08gen_refinement (ops : List Op) :
    new = some init ∧
    Spec.DiGraph.run empty (ops.zip (genRun init ops).2) = some (abs (genRun init ops).1) := by
  rw [gen_run ops wf_init]
  exact ⟨new_eq, C08.c08_refinement ops⟩

/-- every state the generated functions reach is well-formed -/
theorem c08gen_reachable_wf (ops : List Op) : WF (genRun init ops).1 := by
  rw [gen_run ops wf_init]; exact C08.c08_reachable_wf ops

/-- no generated function panics on a reachable state (no `unwrap`/`expect` on `None`, no failed petgraph `assert!`, no
underflow) -/
theorem c08gen_never_panics (ops : List Op) (op : Op) : (genStep (genRun init ops).1 op).2 ≠ .panic := by
  rw [gen_step (c08gen_reachable_wf ops)]
  exact C08.c08_never_panics (c08gen_reachable_wf ops) op

/-- a generated function that answers `Err(..)` leaves the state as it found it -/
theorem c08gen_failed_ops_change_nothing (ops : List Op) (op : Op)
    (he : (genStep (genRun init ops).1 op).2 = .err) : (genStep (genRun init ops).1 op).1 = (genRun init ops).1 := by
  rw [gen_step (c08gen_reachable_wf ops)] at he ⊢
  exact C08.c08_failed_ops_change_nothing .repaired _ op he

/-- non-vacuity: the generated functions themselves, executed on a concrete history with index reuse, a self-loop, the removal
of a node with incident edges and root handling -/
example :
    (genRun init [.addRoot 5, .addNode 6, .addNode 7, .addEdge 0 1, .addEdgeW 1 2 9, .addEdge 2 2, .addEdge 2 0,
      .removeNode 1, .numEdges, .allEdges, .addNode 8, .getNode 1, .outgoing 2, .removeEdge 2 2, .containsNode 2,
      .removeNode 0, .getRootNode, .getRootIndex, .getLastIndex]).2 =
      [.idx 0, .idx 1, .idx 2, .ok, .ok, .ok, .ok, .ok, .nat 2, .pairs [(2, 0), (2, 2)], .idx 1, .optNat (some 8),
       .nats [0, 2], .ok, .bool true, .ok, .optNat none, .optNat (some 0), .nat 2] := by decide

end C08Gen
