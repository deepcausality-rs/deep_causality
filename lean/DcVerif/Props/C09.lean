import DcVerif.Lemmas.Ctx
import DcVerif.Props.C08
/-!
# C09 — Context keeps base and extra contexts as isolated, faithful contextoid stores

`Model.Ctx` mirrors `deep_causality/src/types/context_types/context_graph/*.rs` (base `UltraGraph`, optional map of
extra `UltraGraph`s with a selected one, two index maps) over `Model.UGraph` (C08, repaired version).
`Spec.Context` is: a base directed-graph store, a family of extra stores by id, a selection, two plain maps.

* `c09_refinement` — for **every** history interleaving base operations, creation of extra contexts, switching,
  extra-context operations and index-map operations, every output of the implementation model is one the
  specification allows and the final states correspond; in particular every store is a faithful directed-graph
  store in the sense of C08 (`Spec.Context.step` acts through `Spec.DiGraph.step` on the addressed store only).
* frame properties `c09_base_ops_frame`, `c09_extra_ops_frame`, `c09_mgmt_ops_frame`: what an operation does not
  address it does not change.
-/
namespace C09
open Spec Spec.Context Model Model.UGraph Model.Ctx
open Spec.DiGraph (Out)

theorem spec_base (s : Context) (op : Op) (gop : DiGraph.Op) (hg : op.graphOp = some (.base, gop)) (out : Out)
    (b' : DiGraph) (hst : DiGraph.step s.base gop out = some b') :
    Spec.Context.step s op out = some { s with base := b' } := by
  cases op <;> simp only [Op.graphOp, Option.some.injEq, Prod.mk.injEq, reduceCtorEq, false_and, true_and] at hg
  all_goals subst hg
  case addNode v =>
    show (DiGraph.step s.base (.addNode v) out).map _ = _
    rw [hst]; rfl
  all_goals
    obtain ⟨h1, h2⟩ := C08.step_nonadd rfl hst
    simp only [Spec.Context.step, Spec.Context.det, Op.graphOp, h1, h2, if_true]

theorem spec_extra_sel (s : Context) (e : DiGraph) (hsel : s.selected = some e) (op : Op) (gop : DiGraph.Op)
    (hg : op.graphOp = some (.extra, gop)) (out : Out) (e' : DiGraph) (hst : DiGraph.step e gop out = some e') :
    Spec.Context.step s op (wrapX gop out) = some (s.putSelected e') := by
  cases op <;> simp only [Op.graphOp, Option.some.injEq, Prod.mk.injEq, reduceCtorEq, false_and, true_and] at hg
  all_goals subst hg
  case xAddNode v =>
    cases out <;> first
      | (simp only [DiGraph.step] at hst; done)
      | (simp only [Spec.Context.step, hsel, wrapX, hst]; rfl)
  all_goals
    obtain ⟨h1, h2⟩ := C08.step_nonadd rfl hst
    simp only [Spec.Context.step, Spec.Context.det, Op.graphOp, hsel, h1, h2, if_true]

theorem spec_extra_nosel (s : Context) (hsel : s.selected = none) (op : Op) (gop : DiGraph.Op)
    (hg : op.graphOp = some (.extra, gop)) : Spec.Context.step s op (noSel gop) = some s := by
  cases op <;> simp only [Op.graphOp, Option.some.injEq, Prod.mk.injEq, reduceCtorEq, false_and, true_and] at hg
  all_goals subst hg
  all_goals simp only [Spec.Context.step, Spec.Context.det, Op.graphOp, hsel, noSel, if_true]

theorem c09_step_refines {c : Ctx} (h : Inv c) (op : Op) :
    Inv (Ctx.step c op).1 ∧ Spec.Context.step (absCtx c) op (Ctx.step c op).2 = some (absCtx (Ctx.step c op).1) := by
  cases hg : op.graphOp with
  | some tg =>
    obtain ⟨t, gop⟩ := tg
    cases t with
    | base =>
      obtain ⟨hwf, hst⟩ := C08.c08_step_refines h.baseWF gop
      rw [base_step h.baseWF op gop hg]
      refine ⟨h.congr hwf rfl rfl h.cur, ?_⟩
      exact spec_base (absCtx c) op gop hg _ _ hst
    | extra =>
      rcases getCurrent_spec h with ⟨h0, ⟨r, hr, hre⟩, hsel⟩ | ⟨_, g, hcur, hsel, hget, hwf, hex⟩
      · rw [hre] at hr
        rw [extra_step_nosel hr op gop hg]
        exact ⟨h, spec_extra_nosel (absCtx c) hsel op gop hg⟩
      · obtain ⟨hwf', hst⟩ := C08.c08_step_refines hwf gop
        rw [extra_step_sel h g hwf hcur hget hex op gop hg]
        refine ⟨inv_putCurrent h _ hwf', ?_⟩
        rw [absCtx_putCurrent]
        exact spec_extra_sel (absCtx c) (abs g) hsel op gop hg _ _ hst
  | none =>
    have hlen : (absCtx c).extras.length = c.count := by
      show (c.extrasList.map _).length = _
      rw [List.length_map]; exact h.len
    cases op <;> simp only [Op.graphOp, reduceCtorEq] at hg
    case xCheckExists k =>
      refine ⟨h, ?_⟩
      show (if Out.bool (decide (k ≤ (absCtx c).extras.length)) = Out.bool (decide (k ≤ c.count))
        then some (absCtx c) else none) = some (absCtx c)
      rw [hlen]; exact if_pos rfl
    case xGetCurrent => exact ⟨h, if_pos rfl⟩
    case xUnset => exact ⟨h.congr h.baseWF rfl rfl (Nat.zero_le _), rfl⟩
    case getIndex key cur => exact ⟨h, if_pos rfl⟩
    case setIndex key idx cur =>
      cases cur <;> exact ⟨h.congr h.baseWF rfl rfl h.cur, rfl⟩
    case xSetCurrent k =>
      rw [step_xSetCurrent]
      by_cases hk : k ≤ c.count
      · rw [if_pos hk]
        refine ⟨h.congr h.baseWF rfl rfl hk, ?_⟩
        show (if ((absCtx c).mgmt (.xSetCurrent k)).2 = Out.ok then some ((absCtx c).mgmt (.xSetCurrent k)).1 else none) = _
        simp only [mgmt, hlen, hk, if_true]; rfl
      · rw [if_neg hk]
        refine ⟨h, ?_⟩
        show (if ((absCtx c).mgmt (.xSetCurrent k)).2 = Out.err then some ((absCtx c).mgmt (.xSetCurrent k)).1 else none) = _
        simp only [mgmt, hlen, hk, if_false, if_true]
    case xAddNew d =>
      have hfresh : has c.extrasList (c.count + 1) = false := by rw [h.keys]; simp
      have hm : c.extras.getD [] = c.extrasList := rfl
      have hins := mInsert_fresh c.extrasList (c.count + 1) UGraph.init hfresh
      have hinv : ∀ cur', cur' ≤ c.count + 1 →
          Inv { c with extras := some ((c.count + 1, UGraph.init) :: c.extrasList), count := c.count + 1, current := cur' } := by
        intro cur' hc
        refine ⟨h.baseWF, (fun hn => by cases hn), ?_, ?_, ?_, ?_, hc⟩
        · show (((c.count + 1, UGraph.init) :: c.extrasList).map (·.1)).Nodup
          rw [List.map_cons, List.nodup_cons]
          exact ⟨(has_false_iff _ _).1 hfresh, h.keysNodup⟩
        · intro k
          show has ((c.count + 1, UGraph.init) :: c.extrasList) k = _
          rw [has_cons, h.keys, Bool.eq_iff_iff]
          simp only [Bool.or_eq_true, Bool.and_eq_true, beq_iff_eq, decide_eq_true_eq]
          omega
        · show ((c.count + 1, UGraph.init) :: c.extrasList).length = c.count + 1
          rw [List.length_cons, h.len]
        · intro x hx
          rcases List.mem_cons.1 hx with rfl | hx
          · exact wf_init
          · exact h.allWF x hx
      have e : Ctx.step c (.xAddNew d) =
          ({ c with extras := some ((c.count + 1, UGraph.init) :: c.extrasList), count := c.count + 1,
                    current := if d then c.count + 1 else c.current }, .nat (c.count + 1)) := by
        simp only [Ctx.step, hm, hins]; cases d <;> rfl
      rw [e]
      refine ⟨hinv _ (by cases d; exact Nat.le_succ_of_le h.cur; exact Nat.le_refl _), ?_⟩
      show (if ((absCtx c).mgmt (.xAddNew d)).2 = Out.nat (c.count + 1)
        then some ((absCtx c).mgmt (.xAddNew d)).1 else none) = _
      simp only [mgmt, hlen, if_true]; rfl

theorem c09_run_refines (ops : List Op) : ∀ {c : Ctx}, Inv c →
    Inv (Ctx.run c ops).1 ∧
    Spec.Context.run (absCtx c) (ops.zip (Ctx.run c ops).2) = some (absCtx (Ctx.run c ops).1) := by
  induction ops with
  | nil => intro c h; exact ⟨h, rfl⟩
  | cons op rest ih =>
    intro c h
    obtain ⟨hinv, hst⟩ := c09_step_refines h op
    obtain ⟨hinv', hrun⟩ := ih hinv
    refine ⟨hinv', ?_⟩
    show Spec.Context.run (absCtx c) ((op, (Ctx.step c op).2) :: rest.zip (Ctx.run (Ctx.step c op).1 rest).2) = _
    simp only [Spec.Context.run, hst]
    exact hrun

/-- **C09, main statement.** For every history interleaving base-context operations, creation of extra contexts,
switching, extra-context operations and index-map operations, started on a fresh context: every output of the
implementation model is allowed by the specification (each store answers as a plain directed-graph store, an
operation touches only the store it addresses) and the final states correspond. -/
theorem c09_refinement (ops : List Op) :
    Spec.Context.run {} (ops.zip (Ctx.run Ctx.init ops).2) = some (absCtx (Ctx.run Ctx.init ops).1) :=
  (c09_run_refines ops inv_init).2

/-- every reachable context satisfies the invariant: base and all extra graphs are well-formed `UltraGraph`s
(so every theorem of C08 applies to each of them), the extra contexts are exactly the ids `1 … count`, the
selection is `0` or one of them -/
theorem c09_reachable_inv (ops : List Op) : Inv (Ctx.run Ctx.init ops).1 := (c09_run_refines ops inv_init).1

/-- a base-context operation changes nothing but the base context -/
theorem c09_base_ops_frame {c : Ctx} (h : Inv c) (op : Op) (gop : DiGraph.Op) (hg : op.graphOp = some (.base, gop)) :
    (Ctx.step c op).1.extras = c.extras ∧ (Ctx.step c op).1.count = c.count ∧ (Ctx.step c op).1.current = c.current ∧
    (Ctx.step c op).1.curMap = c.curMap ∧ (Ctx.step c op).1.prevMap = c.prevMap := by
  rw [base_step h.baseWF op gop hg]; exact ⟨rfl, rfl, rfl, rfl, rfl⟩

theorem mGet_map_put_ne (m : List (Nat × UGraph)) (k j : Nat) (g : UGraph) (hjk : j ≠ k) :
    mGet (m.map (fun e => if e.1 == k then (e.1, g) else e)) j = mGet m j := by
  induction m with
  | nil => rfl
  | cons e m ih =>
    rw [List.map_cons, mGet_cons, mGet_cons, ih]
    by_cases he : e.1 = k
    · have hb : (e.1 == k) = true := by simpa using he
      have : ¬ e.1 = j := by omega
      simp only [hb, if_true, if_neg this]
    · have hb : (e.1 == k) = false := by simpa using he
      simp only [hb, Bool.false_eq_true, if_false]

/-- an operation addressed to the selected extra context changes nothing but that extra context: the base context,
**every other extra context**, the selection, the number of contexts and both index maps stay as they were -/
theorem c09_extra_ops_frame {c : Ctx} (h : Inv c) (op : Op) (gop : DiGraph.Op) (hg : op.graphOp = some (.extra, gop)) :
    (Ctx.step c op).1.base = c.base ∧ (Ctx.step c op).1.count = c.count ∧ (Ctx.step c op).1.current = c.current ∧
    (Ctx.step c op).1.curMap = c.curMap ∧ (Ctx.step c op).1.prevMap = c.prevMap ∧
    ∀ k, k ≠ c.current → (Ctx.step c op).1.component k = c.component k := by
  rcases getCurrent_spec h with ⟨_, ⟨r, hr, hre⟩, _⟩ | ⟨_, g, hcur, _, hget, hwf, hex⟩
  · rw [hre] at hr
    rw [extra_step_nosel hr op gop hg]
    exact ⟨rfl, rfl, rfl, rfl, rfl, fun _ _ => rfl⟩
  · rw [extra_step_sel h g hwf hcur hget hex op gop hg]
    refine ⟨rfl, rfl, rfl, rfl, rfl, ?_⟩
    intro k hk
    rw [component_eq, component_eq, extrasList_putCurrent, mGet_map_put_ne _ _ _ _ hk]
    rfl

/-- management and index operations change no existing graph at all (a new extra context starts empty) -/
theorem c09_mgmt_ops_frame {c : Ctx} (h : Inv c) (op : Op) (hg : op.graphOp = none) :
    (Ctx.step c op).1.base = c.base ∧
    ∀ k g, c.component k = some g → (Ctx.step c op).1.component k = some g := by
  have hfr : has c.extrasList (c.count + 1) = false := by rw [h.keys]; simp
  cases op <;> simp only [Op.graphOp, reduceCtorEq] at hg
  case xAddNew d =>
    refine ⟨by cases d <;> rfl, ?_⟩
    intro k g hk
    have hl : (Ctx.step c (.xAddNew d)).1.extrasList = (c.count + 1, UGraph.init) :: c.extrasList := by
      cases d <;> exact mInsert_fresh c.extrasList _ _ hfr
    rw [component_eq] at hk ⊢
    cases hk0 : k == 0
    · rw [hk0] at hk
      simp only [Bool.false_eq_true, if_false] at hk ⊢
      rw [hl, mGet_cons, if_neg, hk]
      intro e
      have : has c.extrasList k = true := by rw [← mGet_isSome, hk]; rfl
      rw [← e, hfr] at this; cases this
    · rw [hk0] at hk
      rw [← hk]; cases d <;> rfl
  case xCheckExists k => exact ⟨rfl, fun _ _ h => h⟩
  case xGetCurrent => exact ⟨rfl, fun _ _ h => h⟩
  case xUnset => exact ⟨rfl, fun _ _ h => h⟩
  case getIndex key cur => exact ⟨rfl, fun _ _ h => h⟩
  case setIndex key idx cur => cases cur <;> exact ⟨rfl, fun _ _ h => h⟩
  case xSetCurrent k =>
    simp only [Ctx.step]
    split
    · exact ⟨rfl, fun _ _ h => h⟩
    · exact ⟨rfl, fun _ _ h => h⟩

/-- **extra-context operations fail cleanly when no extra context is selected**: the answer is `err`
(`false` for the two `contains` queries) and the whole context is unchanged — in any state, reachable or not -/
theorem c09_extra_ops_without_selection_fail_clean (c : Ctx) (h0 : c.current = 0) (op : Op) (gop : DiGraph.Op)
    (hg : op.graphOp = some (.extra, gop)) : Ctx.step c op = (c, noSel gop) := by
  apply extra_step_nosel _ op gop hg
  unfold getCurrent; simp [h0]

/-- **`extra_ctx_set_current_id k` is refused iff `k` is unknown**, i.e. `k` is not `0` (= deselect) and not
the id of an existing extra context; a refusal changes nothing, an acceptance changes only the selection -/
theorem c09_set_current_refused_iff {c : Ctx} (h : Inv c) (k : Nat) :
    ((Ctx.step c (.xSetCurrent k)).2 = .err ↔ (k ≠ 0 ∧ c.component k = none)) ∧
    ((Ctx.step c (.xSetCurrent k)).2 = .err → (Ctx.step c (.xSetCurrent k)).1 = c) ∧
    ((Ctx.step c (.xSetCurrent k)).2 ≠ .err →
      (Ctx.step c (.xSetCurrent k)) = ({ c with current := k }, .ok)) := by
  have hcomp : (k ≠ 0 ∧ c.component k = none) ↔ ¬ k ≤ c.count := by
    rw [component_eq]
    by_cases hk0 : k = 0
    · simp [hk0]
    · rw [if_neg (by simpa using hk0), mGet_eq_none_iff, h.keys]
      simp; omega
  rw [step_xSetCurrent, hcomp]
  by_cases hk : k ≤ c.count
  · rw [if_pos hk]
    exact ⟨⟨(fun h => by cases h), (fun h => absurd hk h)⟩, (fun h => by cases h), (fun _ => rfl)⟩
  · rw [if_neg hk]
    exact ⟨⟨fun _ => hk, fun _ => rfl⟩, fun _ => rfl, fun h => absurd rfl h⟩

/-- `get_index` after `set_index` on the same key and map returns the index just set -/
theorem c09_index_get_after_set (c : Ctx) (key idx : Nat) (cur : Bool) :
    (Ctx.step (Ctx.step c (.setIndex key idx cur)).1 (.getIndex key cur)).2 = .optNat (some idx) := by
  cases cur <;> simp [Ctx.step, mInsert, mGet]

/-- the maps are independent key ↦ index maps: `set_index` on one key of one map leaves every other key of that
map and the whole other map as they were (so a lookup returns the index most recently set for that key there) -/
theorem c09_index_maps_independent (c : Ctx) (key idx : Nat) (cur : Bool) (key' : Nat) (cur' : Bool)
    (h : key' ≠ key ∨ cur' ≠ cur) :
    (Ctx.step (Ctx.step c (.setIndex key idx cur)).1 (.getIndex key' cur')).2 = (Ctx.step c (.getIndex key' cur')).2 := by
  cases cur <;> cases cur' <;> simp only [Ctx.step, Bool.false_eq_true, if_false, if_true] <;>
    first
      | rfl
      | (congr 1; rw [mGet_mInsert, if_neg]; rcases h with h | h; exact h; exact absurd rfl h)

/-- `set_index` changes nothing but the addressed map; no other operation changes an index map (reachable states) -/
theorem c09_index_maps_frame {c : Ctx} (h : Inv c) (op : Op) :
    (∀ key idx cur, op = .setIndex key idx cur →
      (Ctx.step c op).1.base = c.base ∧ (Ctx.step c op).1.extras = c.extras ∧ (Ctx.step c op).1.current = c.current ∧
      (Ctx.step c op).1.count = c.count ∧ (if cur then (Ctx.step c op).1.prevMap = c.prevMap else (Ctx.step c op).1.curMap = c.curMap)) ∧
    ((∀ key idx cur, op ≠ .setIndex key idx cur) →
      (Ctx.step c op).1.curMap = c.curMap ∧ (Ctx.step c op).1.prevMap = c.prevMap) := by
  constructor
  · intro key idx cur he; subst he
    cases cur <;> exact ⟨rfl, rfl, rfl, rfl, rfl⟩
  · intro hne
    cases hg : op.graphOp with
    | some tg =>
      obtain ⟨t, gop⟩ := tg
      cases t with
      | base => have := c09_base_ops_frame h op gop hg; exact ⟨this.2.2.2.1, this.2.2.2.2⟩
      | extra => have := c09_extra_ops_frame h op gop hg; exact ⟨this.2.2.2.1, this.2.2.2.2.1⟩
    | none =>
      cases op <;> simp only [Op.graphOp, reduceCtorEq] at hg
      case xAddNew d => cases d <;> exact ⟨rfl, rfl⟩
      case xCheckExists k => exact ⟨rfl, rfl⟩
      case xGetCurrent => exact ⟨rfl, rfl⟩
      case xUnset => exact ⟨rfl, rfl⟩
      case getIndex key cur => exact ⟨rfl, rfl⟩
      case setIndex key idx cur => exact absurd rfl (hne key idx cur)
      case xSetCurrent k => simp only [Ctx.step]; split <;> exact ⟨rfl, rfl⟩

/-! ## non-vacuity: two extra contexts and the base context holding *the same indices*, edge and node removals in
one of them, switching, a refused selection — accepted by the specification step by step -/
example :
    let ops : List Op := [.addNode 4, .addNode 5, .addEdge 0 1 2, .xAddNode 7, .xAddNew true, .xAddNode 7, .xAddNode 8,
      .xAddEdge 0 1 3, .xAddNew false, .xSetCurrent 2, .xAddNode 9, .xSetCurrent 3, .xGetCurrent, .removeEdge 0 1,
      .getNode 0, .xGetNode 0, .xSetCurrent 1, .xRemoveNode 1, .xEdgeCount, .xGetNode 0, .getNode 1, .xSetCurrent 0,
      .xGetNode 0, .setIndex 1 5 true, .setIndex 1 6 false, .getIndex 1 true, .getIndex 1 false, .getIndex 2 true]
    (Ctx.run Ctx.init ops).2 =
      [.idx 0, .idx 1, .ok, .err, .nat 1, .idx 0, .idx 1, .ok, .nat 2, .ok, .idx 0, .err, .nat 2, .ok,
       .optNat (some 4), .optNat (some 9), .ok, .ok, .nat 0, .optNat (some 7), .optNat (some 5), .ok,
       .err, .ok, .ok, .optNat (some 5), .optNat (some 6), .optNat none] ∧
    (Spec.Context.run {} (ops.zip (Ctx.run Ctx.init ops).2)).isSome = true := by decide

end C09
