import DcVerif.Model.Grid
import DcVerif.Lemmas.Run
/-!
# C17 — ArrayGrid obeys the store/load law in every dimension

Theorems about the definitions that `tools/rs2lean.py grid` regenerates on every run from
`dcl_data_structures/src/grid_type/{mod,grid,grid_safe,grid_unsafe,point,storage_array_1d…4d}.rs` (`Gen.Grid`):
the address maps `getAddr` / `setAddr` (point ↦ index list, separately for `get` and `set` of each storage), the
array nesting `nest` (which const parameter bounds which index position), the two `Grid` wrappers and the
`ArrayGrid` dispatch for the build without and with feature `unsafe`. What is *assumed* is the meaning of nested
array indexing (`Cells`, `inb`, `readAt`, `writeAt` in the generated file's fixed prelude) and that a `RefCell`
borrow / a raw-pointer write through `&self` behave like plain accesses in sequential code.

Proved from the generated definitions, for every kind (1-D … 4-D), all extents `W H D C : Nat` (no bound) and
both builds:

* `getAddr_eq_setAddr`, `addr_injective`  get and set address the same cell; distinct points of the grid's
  dimension never share a cell (this is what the permuted 3-D/4-D index order could break)
* `inb_of_small`                          a point whose coordinates are all below every extent the variant uses
                                          (in particular below the smallest of `W H D C`: `small_of_below_min`) is in bounds
* `c17_*_default_before_store`, `c17_*_get_set_same`, `c17_*_get_set_other`   the law, single steps, in every
                                          state reachable by in-scope stores
* `c17_*_store_load`                      after any sequence of in-scope stores none panics and a read returns the
                                          most recent value stored at that very point, else the default
* `c17_*_meets_spec`                      for *arbitrary* op sequences (any points, in or out of bounds) every
                                          model answer is accepted by the oracle `Spec.Grid.judge` that the
                                          correspondence run applies to the real code
* `c17_safe_unsafe_agree`                 the two implementations give the same answers (values and panics) on
                                          every op sequence; the unsafe grid's `initialized` flag is invariantly true.

The proofs go through a small interface (`View`) that both implementations are shown to satisfy, so a
consistent change of the axis order in `get` *and* `set` survives regeneration, while a disagreement between them,
a non-injective map or a wrong bound does not.
-/
namespace C17
open Gen.Grid Spec.Grid Model.Grid

theorem getAddr_eq_setAddr (k : Kind) (p : Pt) : getAddr k p = setAddr k p := by
  cases k <;> rfl

theorem key_cases (k : Kind) (c : Key) (h : c.length = dim k) :
    (k = .k1 ∧ ∃ x, c = [x]) ∨ (k = .k2 ∧ ∃ x y, c = [x, y]) ∨ (k = .k3 ∧ ∃ x y z, c = [x, y, z]) ∨
    (k = .k4 ∧ ∃ x y z t, c = [x, y, z, t]) :=
  match k, c, h with
  | .k1, [x], _ => .inl ⟨rfl, x, rfl⟩
  | .k2, [x, y], _ => .inr (.inl ⟨rfl, x, y, rfl⟩)
  | .k3, [x, y, z], _ => .inr (.inr (.inl ⟨rfl, x, y, z, rfl⟩))
  | .k4, [x, y, z, t], _ => .inr (.inr (.inr ⟨rfl, x, y, z, t, rfl⟩))

theorem addr_injective (k : Kind) (c c' : Key) (h : c.length = dim k) (h' : c'.length = dim k)
    (heq : getAddr k (ptOf c) = getAddr k (ptOf c')) : c = c' := by
  rcases key_cases k c h with ⟨rfl, x, rfl⟩ | ⟨rfl, x, y, rfl⟩ | ⟨rfl, x, y, z, rfl⟩ | ⟨rfl, x, y, z, t, rfl⟩ <;>
  rcases key_cases _ c' h' with ⟨hk, x', rfl⟩ | ⟨hk, x', y', rfl⟩ | ⟨hk, x', y', z', rfl⟩ | ⟨hk, x', y', z', t', rfl⟩ <;>
  cases hk <;>
  simp only [getAddr, ptOf, Pt.new1d, Pt.new2d, Pt.new3d, Pt.new4d, List.cons.injEq, and_true] at heq ⊢ <;> omega

def Small (k : Kind) (e : Ext) (c : Key) : Prop := c.length = dim k ∧ ∀ x ∈ c, ∀ n ∈ nest k e, x < n

theorem inb_of_small (k : Kind) (e : Ext) (c : Key) (h : Small k e c) :
    inb (getAddr k (ptOf c)) (nest k e) = true := by
  obtain ⟨hl, hs⟩ := h
  rcases key_cases k c hl with ⟨rfl, x, rfl⟩ | ⟨rfl, x, y, rfl⟩ | ⟨rfl, x, y, z, rfl⟩ | ⟨rfl, x, y, z, t, rfl⟩ <;>
  simp only [nest, List.mem_cons, List.not_mem_nil, or_false, forall_eq_or_imp, forall_eq] at hs <;>
  simp only [getAddr, ptOf, Pt.new1d, Pt.new2d, Pt.new3d, Pt.new4d, nest, inb, Bool.and_eq_true, decide_eq_true_eq,
    and_true] <;> omega

/-- below the smallest of the four const parameters ⇒ in scope for every kind -/
theorem small_of_below_min (k : Kind) (e : Ext) (c : Key) (hl : c.length = dim k)
    (h : ∀ x ∈ c, x < e.W ∧ x < e.H ∧ x < e.D ∧ x < e.C) : Small k e c := by
  refine ⟨hl, ?_⟩
  intro x hx n hn
  have := h x hx
  cases k <;> simp only [nest, List.mem_cons, List.not_mem_nil, or_false] at hn <;> omega

theorem small_of_inScope (k : Kind) (e : Ext) (c : Key) (h : inScope (dim k) (exts e) c = true) : Small k e c := by
  simp [inScope, exts] at h
  exact small_of_below_min k e c h.1 h.2

/-- what the proofs need to know about an implementation: it is a storage of cells behind `readAt`/`writeAt`
at the generated addresses -/
structure View {σ : Type} (I : Impl σ) where
  wf : σ → Prop
  kind : σ → Kind
  cells : σ → Cells
  new_wf : ∀ k, wf (I.new k)
  new_kind : ∀ k, kind (I.new k) = k
  new_cells : ∀ k, cells (I.new k) = defaultCells
  get_nf : ∀ e g p, wf g → I.get e g p = readAt (nest (kind g) e) (cells g) (getAddr (kind g) p)
  set_some : ∀ e g p v s, wf g → writeAt (nest (kind g) e) (cells g) (setAddr (kind g) p) v = some s →
    ∃ g', I.set e g p v = some g' ∧ wf g' ∧ kind g' = kind g ∧ cells g' = s
  set_none : ∀ e g p v, wf g → writeAt (nest (kind g) e) (cells g) (setAddr (kind g) p) v = none → I.set e g p v = none

def safeView : View safeImpl where
  wf := fun _ => True
  kind := fun g => g.kind
  cells := fun g => g.grid.storage
  new_wf := fun _ => trivial
  new_kind := fun _ => rfl
  new_cells := fun _ => rfl
  get_nf := by
    intro e g p _
    simp only [safeImpl, ArraySafeGrid.get, SafeGrid.get, Storage.get] <;>
      (cases readAt (nest g.kind e) g.grid.storage (getAddr g.kind p) <;> rfl)
  set_some := by
    intro e g p v s _ h
    simp only [safeImpl, ArraySafeGrid.set, SafeGrid.set, Storage.set, h, Option.map]
    exact ⟨_, rfl, trivial, rfl, rfl⟩
  set_none := by
    intro e g p v _ h
    simp only [safeImpl, ArraySafeGrid.set, SafeGrid.set, Storage.set, h, Option.map]

def unsafeView : View unsafeImpl where
  wf := fun g => g.grid.initialized = true
  kind := fun g => g.kind
  cells := fun g => g.grid.storage
  new_wf := fun _ => rfl
  new_kind := fun _ => rfl
  new_cells := fun _ => rfl
  get_nf := by
    intro e g p h
    simp only [unsafeImpl, ArrayUnsafeGrid.get, UnsafeGrid.get, Storage.get, h, if_true] <;>
      (cases readAt (nest g.kind e) g.grid.storage (getAddr g.kind p) <;> rfl)
  set_some := by
    intro e g p v s hw h
    simp only [unsafeImpl, ArrayUnsafeGrid.set, UnsafeGrid.set, Storage.set, h, Option.map]
    exact ⟨_, rfl, hw, rfl, rfl⟩
  set_none := by
    intro e g p v _ h
    simp only [unsafeImpl, ArrayUnsafeGrid.set, UnsafeGrid.set, Storage.set, h, Option.map]

section
variable {σ : Type} {I : Impl σ} (V : View I)
include V

/-- every in-bounds point of the grid's dimension holds what the spec's association list says -/
def Rep (k : Kind) (e : Ext) (g : σ) (hist : List (Key × Int)) : Prop :=
  V.wf g ∧ V.kind g = k ∧
  ∀ c : Key, c.length = dim k → inb (getAddr k (ptOf c)) (nest k e) = true →
    V.cells g (getAddr k (ptOf c)) = read hist c

theorem rep_new (k : Kind) (e : Ext) : Rep V k e (I.new k) [] := by
  refine ⟨V.new_wf k, V.new_kind k, ?_⟩
  intro c _ _
  rw [V.new_cells]; rfl

theorem rep_get {k : Kind} {e : Ext} {g : σ} {hist : List (Key × Int)}
    (h : Rep V k e g hist) (c : Key) (hc : c.length = dim k) (hb : inb (getAddr k (ptOf c)) (nest k e) = true) :
    I.get e g (ptOf c) = some (read hist c) := by
  obtain ⟨hw, hk, hcells⟩ := h
  rw [V.get_nf e g _ hw, hk]
  simp [readAt, hb, hcells c hc hb]

theorem rep_set {k : Kind} {e : Ext} {g : σ} {hist : List (Key × Int)}
    (h : Rep V k e g hist) (q : Key) (v : Int) (hq : q.length = dim k) :
    (inb (getAddr k (ptOf q)) (nest k e) = true ∧ ∃ g', I.set e g (ptOf q) v = some g' ∧ Rep V k e g' ((q, v) :: hist)) ∨
    (inb (getAddr k (ptOf q)) (nest k e) = false ∧ I.set e g (ptOf q) v = none) := by
  obtain ⟨hw, hk, hcells⟩ := h
  cases hb : inb (getAddr k (ptOf q)) (nest k e)
  · right
    refine ⟨rfl, V.set_none e g _ v hw ?_⟩
    rw [hk, ← getAddr_eq_setAddr]; simp [writeAt, hb]
  · left
    refine ⟨rfl, ?_⟩
    have hwr : writeAt (nest (V.kind g) e) (V.cells g) (setAddr (V.kind g) (ptOf q)) v
        = some (fun b => if b = getAddr k (ptOf q) then v else V.cells g b) := by
      rw [hk, ← getAddr_eq_setAddr]; simp [writeAt, hb]
    obtain ⟨g', hset, hw', hk', hc'⟩ := V.set_some e g _ v _ hw hwr
    refine ⟨g', hset, hw', hk'.trans hk, ?_⟩
    intro c hc hcb
    rw [hc']
    by_cases hcq : q = c
    · subst hcq; simp [Spec.Grid.read]
    · have hne : getAddr k (ptOf c) ≠ getAddr k (ptOf q) := fun hh => hcq (addr_injective k c q hc hq hh).symm
      simp [Spec.Grid.read, hcq, hne, hcells c hc hcb]

theorem rep_set_small {k : Kind} {e : Ext} {g : σ} {hist : List (Key × Int)}
    (h : Rep V k e g hist) (q : Key) (v : Int) (hq : Small k e q) :
    ∃ g', I.set e g (ptOf q) v = some g' ∧ Rep V k e g' ((q, v) :: hist) := by
  rcases rep_set V h q v hq.1 with ⟨_, r⟩ | ⟨hb, _⟩
  · exact r
  · rw [inb_of_small k e q hq] at hb; cases hb

theorem view_default_before_store (k : Kind) (e : Ext) (p : Key)
    (hp : Small k e p) : I.get e (I.new k) (ptOf p) = some 0 :=
  rep_get V (rep_new V k e) p hp.1 (inb_of_small k e p hp)

theorem view_get_set_same {k : Kind} {e : Ext} {g : σ} {hist : List (Key × Int)}
    (h : Rep V k e g hist) (p : Key) (v : Int) (hp : Small k e p) :
    ∃ g', I.set e g (ptOf p) v = some g' ∧ I.get e g' (ptOf p) = some v := by
  obtain ⟨g', hs, hr⟩ := rep_set_small V h p v hp
  exact ⟨g', hs, by rw [rep_get V hr p hp.1 (inb_of_small k e p hp)]; simp [Spec.Grid.read]⟩

theorem view_get_set_other {k : Kind} {e : Ext} {g : σ} {hist : List (Key × Int)}
    (h : Rep V k e g hist) (p q : Key) (v : Int) (hp : Small k e p) (hq : Small k e q) (hne : p ≠ q) :
    ∃ g', I.set e g (ptOf p) v = some g' ∧ I.get e g' (ptOf q) = I.get e g (ptOf q) := by
  obtain ⟨g', hs, hr⟩ := rep_set_small V h p v hp
  refine ⟨g', hs, ?_⟩
  rw [rep_get V hr q hq.1 (inb_of_small k e q hq), rep_get V h q hq.1 (inb_of_small k e q hq)]
  simp [Spec.Grid.read, hne]

end

/-- all stores of a list, oldest first; `none` if one of them panics -/
def storeAll {σ : Type} (I : Impl σ) (e : Ext) (g : σ) : List (Key × Int) → Option σ
  | [] => some g
  | (p, v) :: rest => match I.set e g (ptOf p) v with
    | some g' => storeAll I e g' rest
    | none => none

section
variable {σ : Type} {I : Impl σ} (V : View I)
include V

theorem view_store_load_from (k : Kind) (e : Ext) (stores : List (Key × Int))
    (hs : ∀ s ∈ stores, Small k e s.1) (g : σ) (hist : List (Key × Int)) (h : Rep V k e g hist) :
    ∃ g', storeAll I e g stores = some g' ∧ Rep V k e g' (stores.reverse ++ hist) :=
  Lemmas.Run.run_inv (step := fun g s => I.set e g (ptOf s.1) s.2) (ok := some) (I := Rep V k e)
    (P := fun s => Small k e s.1) (fun _ => rfl) (fun _ _ (_, _) _ e => by simp only [storeAll, e])
    (fun _ _ s hp h => rep_set_small V h s.1 s.2 hp) stores g hist hs h

/-- **store/load law over arbitrary store sequences**: starting from a fresh grid of any kind and extents,
after any sequence of stores at points in scope (none of which panics), reading a point in scope returns the
value most recently stored at that very point, the default if there was none. -/
theorem view_store_load (k : Kind) (e : Ext) (stores : List (Key × Int))
    (hs : ∀ s ∈ stores, Small k e s.1) (p : Key) (hp : Small k e p) :
    ∃ g, storeAll I e (I.new k) stores = some g ∧ I.get e g (ptOf p) = some (read stores.reverse p) := by
  obtain ⟨g, hg, hr⟩ := view_store_load_from V k e stores hs (I.new k) [] (rep_new V k e)
  exact ⟨g, hg, by simpa using rep_get V hr p hp.1 (inb_of_small k e p hp)⟩

theorem view_reach_rep (k : Kind) (e : Ext) (stores : List (Key × Int))
    (hs : ∀ s ∈ stores, Small k e s.1) (g : σ) (hg : storeAll I e (I.new k) stores = some g) :
    Rep V k e g (stores.reverse ++ []) := by
  obtain ⟨g', hg', hr⟩ := view_store_load_from V k e stores hs (I.new k) [] (rep_new V k e)
  rw [hg] at hg'; cases hg'; exact hr

/-- one judged step: the answer is accepted, and unless the judge gave up the grid still represents its history -/
theorem view_step_judged (k : Kind) (e : Ext) (g : σ) (st : St) (h : st.tainted = false → Rep V k e g st.hist)
    (op : Op) : ∃ st', judge (dim k) (exts e) st op (step I e g op).2 = (true, st') ∧
      (st'.tainted = false → Rep V k e (step I e g op).1 st'.hist) := by
  cases ht : st.tainted
  case true => exact ⟨st, by cases op <;> simp [judge, ht], fun hh => by rw [ht] at hh; cases hh⟩
  have hr := h ht
  cases op with
  | get p =>
    have hg : (step I e g (.get p)).1 = g := by simp only [step]; split <;> rfl
    refine ⟨st, ?_, fun _ => by rw [hg]; exact hr⟩
    by_cases hsc : inScope (dim k) (exts e) p = true
    · have hp := small_of_inScope k e p hsc
      simp [judge, ht, hsc, step, rep_get V hr p hp.1 (inb_of_small k e p hp)]
    · simp [judge, ht, hsc]
  | set p v =>
    by_cases hl : p.length = dim k
    · rcases rep_set V hr p v hl with ⟨_, g', hs, hr'⟩ | ⟨hb, hs⟩
      · refine ⟨{ st with hist := (p, v) :: st.hist }, ?_, fun _ => by simpa [step, hs] using hr'⟩
        cases hsc : inScope (dim k) (exts e) p <;> simp [step, hs, judge, ht, hl, hsc]
      · refine ⟨st, ?_, fun _ => by simpa [step, hs] using hr⟩
        have hsc : inScope (dim k) (exts e) p = false := by
          cases hsc : inScope (dim k) (exts e) p
          · rfl
          · rw [inb_of_small k e p (small_of_inScope k e p hsc)] at hb; cases hb
        simp [step, hs, judge, ht, hl, hsc]
    · exact ⟨{ st with tainted := true }, by simp [judge, ht, hl, inScope], fun hh => by cases hh⟩

theorem view_meets_spec_from (k : Kind) (e : Ext) (ops : List Op)
    (g : σ) (st : St) (h : st.tainted = false → Rep V k e g st.hist) :
    accepted (dim k) (exts e) st (ops.zip (run I e g ops).2) = true := by
  induction ops generalizing g st with
  | nil => rfl
  | cons op rest ih =>
    obtain ⟨st', hj, hr⟩ := view_step_judged V k e g st h op
    simp only [run, List.zip_cons_cons, accepted, hj, Bool.true_and]
    exact ih _ st' hr

/-- every answer the generated model gives on any sequence of `set`/`get` lines — points of any dimension,
in or out of bounds — is accepted by the oracle `Spec.Grid.judge` -/
theorem view_meets_spec (k : Kind) (e : Ext) (ops : List Op) :
    accepted (dim k) (exts e) {} (ops.zip (run I e (I.new k) ops).2) = true :=
  view_meets_spec_from V k e ops (I.new k) {} (fun _ => rep_new V k e)

end

def Sim (gs : ArraySafeGrid) (gu : ArrayUnsafeGrid) : Prop :=
  gs.kind = gu.kind ∧ gs.grid.storage = gu.grid.storage ∧ gu.grid.initialized = true

theorem sim_step (e : Ext) (gs : ArraySafeGrid) (gu : ArrayUnsafeGrid) (h : Sim gs gu) (op : Op) :
    (step safeImpl e gs op).2 = (step unsafeImpl e gu op).2 ∧ Sim (step safeImpl e gs op).1 (step unsafeImpl e gu op).1 := by
  obtain ⟨hk, hs, hi⟩ := h
  cases op with
  | get p =>
    have h1 := safeView.get_nf e gs (ptOf p) trivial
    have h2 := unsafeView.get_nf e gu (ptOf p) hi
    simp only [safeView, unsafeView] at h1 h2
    rw [hk, hs] at h1
    simp only [step, h1, h2]
    cases readAt (nest gu.kind e) gu.grid.storage (getAddr gu.kind (ptOf p)) <;> exact ⟨rfl, hk, hs, hi⟩
  | set p v =>
    cases hw : writeAt (nest gu.kind e) gu.grid.storage (setAddr gu.kind (ptOf p)) v with
    | none =>
      have h1 := safeView.set_none e gs (ptOf p) v trivial (by simp only [safeView]; rw [hk, hs]; exact hw)
      have h2 := unsafeView.set_none e gu (ptOf p) v hi hw
      simp only [step, h1, h2]
      exact ⟨trivial, hk, hs, hi⟩
    | some s =>
      obtain ⟨gs', h1, _, hk1, hc1⟩ := safeView.set_some e gs (ptOf p) v s trivial (by simp only [safeView]; rw [hk, hs]; exact hw)
      obtain ⟨gu', h2, hw2, hk2, hc2⟩ := unsafeView.set_some e gu (ptOf p) v s hi hw
      simp only [step, h1, h2]
      simp only [safeView, unsafeView] at hk1 hc1 hk2 hc2 hw2
      exact ⟨trivial, by rw [hk1, hk2, hk], by rw [hc1, hc2], hw2⟩

theorem sim_run (e : Ext) (ops : List Op) (gs : ArraySafeGrid) (gu : ArrayUnsafeGrid) (h : Sim gs gu) :
    (run safeImpl e gs ops).2 = (run unsafeImpl e gu ops).2 := by
  induction ops generalizing gs gu with
  | nil => rfl
  | cons op rest ih =>
    obtain ⟨ha, hs⟩ := sim_step e gs gu h op
    simp only [run, ha, ih _ _ hs]

/-! ## the property, for the build without feature `unsafe` (grid_safe.rs) -/

theorem c17_safe_default_before_store (k : Kind) (e : Ext) (p : Key) (hp : Small k e p) :
    (ArraySafeGrid.new k).get e (ptOf p) = some 0 :=
  view_default_before_store safeView k e p hp

theorem c17_safe_get_set_same (k : Kind) (e : Ext) (stores : List (Key × Int)) (hs : ∀ s ∈ stores, Small k e s.1)
    (g : ArraySafeGrid) (hg : storeAll safeImpl e (ArraySafeGrid.new k) stores = some g)
    (p : Key) (v : Int) (hp : Small k e p) :
    ∃ g', g.set e (ptOf p) v = some g' ∧ g'.get e (ptOf p) = some v :=
  view_get_set_same safeView (view_reach_rep safeView k e stores hs g hg) p v hp

theorem c17_safe_get_set_other (k : Kind) (e : Ext) (stores : List (Key × Int)) (hs : ∀ s ∈ stores, Small k e s.1)
    (g : ArraySafeGrid) (hg : storeAll safeImpl e (ArraySafeGrid.new k) stores = some g)
    (p q : Key) (v : Int) (hp : Small k e p) (hq : Small k e q) (hne : p ≠ q) :
    ∃ g', g.set e (ptOf p) v = some g' ∧ g'.get e (ptOf q) = g.get e (ptOf q) :=
  view_get_set_other safeView (view_reach_rep safeView k e stores hs g hg) p q v hp hq hne

theorem c17_safe_store_load (k : Kind) (e : Ext) (stores : List (Key × Int)) (hs : ∀ s ∈ stores, Small k e s.1)
    (p : Key) (hp : Small k e p) :
    ∃ g, storeAll safeImpl e (ArraySafeGrid.new k) stores = some g ∧
      g.get e (ptOf p) = some (Spec.Grid.read stores.reverse p) :=
  view_store_load safeView k e stores hs p hp

theorem c17_safe_meets_spec (k : Kind) (e : Ext) (ops : List Op) :
    accepted (dim k) (exts e) {} (ops.zip (run safeImpl e (ArraySafeGrid.new k) ops).2) = true :=
  view_meets_spec safeView k e ops

/-! ## the property, for the build with feature `unsafe` (grid_unsafe.rs) -/

theorem c17_unsafe_default_before_store (k : Kind) (e : Ext) (p : Key) (hp : Small k e p) :
    (ArrayUnsafeGrid.new k).get e (ptOf p) = some 0 :=
  view_default_before_store unsafeView k e p hp

theorem c17_unsafe_get_set_same (k : Kind) (e : Ext) (stores : List (Key × Int)) (hs : ∀ s ∈ stores, Small k e s.1)
    (g : ArrayUnsafeGrid) (hg : storeAll unsafeImpl e (ArrayUnsafeGrid.new k) stores = some g)
    (p : Key) (v : Int) (hp : Small k e p) :
    ∃ g', g.set e (ptOf p) v = some g' ∧ g'.get e (ptOf p) = some v :=
  view_get_set_same unsafeView (view_reach_rep unsafeView k e stores hs g hg) p v hp

theorem c17_unsafe_get_set_other (k : Kind) (e : Ext) (stores : List (Key × Int)) (hs : ∀ s ∈ stores, Small k e s.1)
    (g : ArrayUnsafeGrid) (hg : storeAll unsafeImpl e (ArrayUnsafeGrid.new k) stores = some g)
    (p q : Key) (v : Int) (hp : Small k e p) (hq : Small k e q) (hne : p ≠ q) :
    ∃ g', g.set e (ptOf p) v = some g' ∧ g'.get e (ptOf q) = g.get e (ptOf q) :=
  view_get_set_other unsafeView (view_reach_rep unsafeView k e stores hs g hg) p q v hp hq hne

theorem c17_unsafe_store_load (k : Kind) (e : Ext) (stores : List (Key × Int)) (hs : ∀ s ∈ stores, Small k e s.1)
    (p : Key) (hp : Small k e p) :
    ∃ g, storeAll unsafeImpl e (ArrayUnsafeGrid.new k) stores = some g ∧
      g.get e (ptOf p) = some (Spec.Grid.read stores.reverse p) :=
  view_store_load unsafeView k e stores hs p hp

theorem c17_unsafe_meets_spec (k : Kind) (e : Ext) (ops : List Op) :
    accepted (dim k) (exts e) {} (ops.zip (run unsafeImpl e (ArrayUnsafeGrid.new k) ops).2) = true :=
  view_meets_spec unsafeView k e ops

/-- The safe and the unsafe grid give the same answers — values and panics — on every sequence of `set`/`get`
lines, for every kind and all extents; no in-bounds assumption. -/
theorem c17_safe_unsafe_agree (k : Kind) (e : Ext) (ops : List Op) :
    (run safeImpl e (ArraySafeGrid.new k) ops).2 = (run unsafeImpl e (ArrayUnsafeGrid.new k) ops).2 :=
  sim_run e ops _ _ ⟨rfl, rfl, rfl⟩

/-! ## non-vacuity
(The examples use only points below the smallest extent and a point that is out of bounds under every axis
convention, so they do not depend on the axis order the source happens to use.) -/

/-- a non-cubic 3-D grid `[[[T; 2]; 3]; 4]`: the points with all coordinates below 2 are in scope -/
example : Small .k3 ⟨2, 3, 4, 1⟩ [1, 0, 1] := by simp [Small, dim, nest]
example : Small .k4 ⟨3, 2, 4, 2⟩ [1, 0, 1, 1] := by simp [Small, dim, nest]
/-- hypotheses of `get_set_other` are met (distinct in-scope points), and the model really runs: store, read back,
read a neighbour and a coordinate permutation, overwrite, default, and a panic that leaves the grid intact -/
example : (run safeImpl ⟨2, 3, 4, 1⟩ (ArraySafeGrid.new .k3)
    [.set [1, 0, 1] 5, .get [1, 0, 1], .get [0, 1, 1], .set [0, 1, 1] 7, .get [1, 0, 1], .get [0, 1, 1],
     .get [1, 1, 0], .set [1, 0, 1] 6, .get [1, 0, 1], .set [9, 9, 9] 9, .get [1, 0, 1], .get [9, 9, 9]]).2
    = [.ok, .val 5, .val 0, .ok, .val 5, .val 7, .val 0, .ok, .val 6, .panic, .val 6, .panic] := by decide +kernel
example : (run unsafeImpl ⟨2, 3, 4, 2⟩ (ArrayUnsafeGrid.new .k4)
    [.set [1, 0, 1, 0] 5, .get [1, 0, 1, 0], .get [0, 1, 0, 1], .set [9, 9, 9, 9] 9, .get [1, 0, 1, 0]]).2
    = [.ok, .val 5, .val 0, .panic, .val 5] := by decide +kernel

/-! ## what the obligations rule out
If `set` of a 3-D storage used another axis order than `get`, `getAddr_eq_setAddr` has a concrete countermodel (and
`rep_set`, which rests on it, cannot be proved); a map that drops a coordinate is not injective. -/
example : ∃ p : Pt, ([p.y, p.x, p.z] : List Nat) ≠ [p.x, p.y, p.z] := ⟨Pt.new3d 1 0 0, by decide +kernel⟩
example : ∃ p q : Pt, p ≠ q ∧ ([p.y, p.x, p.x] : List Nat) = [q.y, q.x, q.x] :=
  ⟨Pt.new3d 0 0 1, Pt.new3d 0 0 0, by decide +kernel⟩

end C17
