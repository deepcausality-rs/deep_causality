import DcVerif.Lemmas.Causaloid
/-!
# C11 — activation state mirrors the latest evaluation and aggregate counts agree

Model: `Model/Causaloid.lean` — activation cells (`Cells`, one per `Arc<RwLock<bool>>`, shared by clones), the evaluation log
of every call (`opLog`: which singletons were evaluated, in order, with which outcome; the flag is written only after the
causal function returned `Ok`), histories (`run ops` = the cells after any sequence of `verify_single_cause`,
`verify_all_causes`, collection and graph `reason_all_causes` calls with arbitrary data), `is_active` (`isActive`: singleton =
its cell, wrapper = `number_active() > 0` over the wrapped members), the aggregates `countActive`, `percentActive`, `allActive`.
Spec: `Spec/Causaloid.lean` — `lastOutcome`, `activeSpec`, `recount`, `percent`, `opCells`.

All theorems hold for every history `ops` (any length, any mix of calls, any data), every model shape (nesting depth and
fan-out unbounded), every `fuel`.
-/
namespace C11
open Causal Dfs Spec.Nest

theorem run_cell (mk : Nat → Nat) (fuel : Nat) (ops : List Op) (cell : Nat) :
    run mk fuel ops cell = (lastOutcome cell (events mk fuel ops) == some true) := by
  simp only [run, applyLog_eq_lastOutcome, Cells.init]
  cases lastOutcome cell (events mk fuel ops) with
  | none => rfl
  | some b => cases b <;> rfl

/-- a singleton is active exactly when its most recent evaluation that did not err returned true — after every history;
    in particular it is inactive before any evaluation, and an evaluation that errs changes nothing -/
theorem single_active_iff_last_ok_true (mk : Nat → Nat) (fuel : Nat) (ops : List Op) (cell cid : Nat) (fn : Fn) :
    isActive (run mk fuel ops) (.single cell cid fn) = true ↔ lastOutcome cell (events mk fuel ops) = some true := by
  simp only [isActive, run_cell, beq_iff_eq]

theorem single_inactive_initially (mk : Nat → Nat) (fuel : Nat) (cell cid : Nat) (fn : Fn) :
    isActive (run mk fuel []) (.single cell cid fn) = false := rfl

/-- one more `verify_single_cause` on a singleton: `Ok(b)` makes its flag `b`; `Err` (and a panic) leaves every flag alone -/
theorem single_after_evaluation (mk : Nat → Nat) (fuel : Nat) (ops : List Op) (cell cid : Nat) (fn : Fn) (obs : Nat) :
    isActive (run mk fuel (ops ++ [.single (.single cell cid fn) obs])) (.single cell cid fn) =
      match fn.apply mk obs with
      | some .t => true
      | some .f => false
      | _ => isActive (run mk fuel ops) (.single cell cid fn) := by
  rw [run_append]
  simp only [opLog, singleLog, isActive]
  cases h : fn.apply mk obs with
  | none => rfl
  | some v => cases v <;> simp [applyLog, applyEvent]

theorem errored_evaluation_changes_nothing (mk : Nat → Nat) (fuel : Nat) (ops : List Op) (cell cid : Nat) (fn : Fn) (obs : Nat)
    (h : fn.apply mk obs = some .e) : run mk fuel (ops ++ [.single (.single cell cid fn) obs]) = run mk fuel ops := by
  rw [run_append]; simp [opLog, singleLog, h, applyLog, applyEvent]

/-- clones share the activation cell: singletons with the same cell always agree, whatever their id or function -/
theorem clones_share_activation (s : Cells) (cell cid cid' : Nat) (fn fn' : Fn) :
    isActive s (.single cell cid fn) = isActive s (.single cell cid' fn') := rfl

theorem countActive_eq_filter (s : Cells) : ∀ cs : List Causaloid, countActive s cs = (cs.filter (isActive s)).length := by
  intro cs
  induction cs with
  | nil => rfl
  | cons c cs ih => cases h : isActive s c <;> simp [countActive, ih, h] <;> omega

theorem countActive_pos_iff (s : Cells) : ∀ cs : List Causaloid, 0 < countActive s cs ↔ ∃ c ∈ cs, isActive s c = true := by
  intro cs
  rw [countActive_eq_filter, List.length_pos_iff_exists_mem]
  simp only [List.mem_filter]

/-- a causaloid wrapping a collection or a graph is active exactly when at least one contained causaloid is -/
theorem wrapper_active_iff_exists_member (s : Cells) (w : Causaloid) (hw : w.isSingleton = false) :
    isActive s w = true ↔ ∃ c ∈ (match w with
      | .coll _ items => items
      | .graph _ nodes _ _ => nodes
      | .single .. => []), isActive s c = true := by
  cases w with
  | single => simp [Causaloid.isSingleton] at hw
  | coll cid items => simp only [isActive, decide_eq_true_eq]; exact countActive_pos_iff s items
  | graph gid nodes edges root => simp only [isActive, decide_eq_true_eq]; exact countActive_pos_iff s nodes

theorem isActive_eq_activeBy (s : Cells) :
    (∀ c : Causaloid, isActive s c = activeBy s c) ∧
    (∀ cs : List Causaloid, decide (0 < countActive s cs) = anyActive s cs) := by
  apply Causaloid.induct2
  · intro cell cid fn; rfl
  · intro cid items ih; simp only [isActive, activeBy]; exact ih
  · intro gid nodes edges root ih; simp only [isActive, activeBy]; exact ih
  · simp [countActive, anyActive]
  · intro c cs ihc ihcs
    simp only [countActive, anyActive, ← ihc, ← ihcs]
    by_cases hc : isActive s c = true
    · simp [hc]; omega
    · simp [hc]

/-- after every history, `is_active` of every causaloid (any nesting) is what the property says: a singleton mirrors the
    latest non-erring evaluation of its cell, a wrapper is active iff some member is -/
theorem active_eq_spec (mk : Nat → Nat) (fuel : Nat) (ops : List Op) (c : Causaloid) :
    isActive (run mk fuel ops) c = activeSpec (events mk fuel ops) c := by
  rw [(isActive_eq_activeBy _).1 c]
  exact congrArg (activeBy · c) (funext (run_cell mk fuel ops))

/-- `number_active` (collections: `protocols/causable/mod.rs`, graphs: `causable_graph.rs`) = recount over the members -/
theorem number_active_eq_recount (mk : Nat → Nat) (fuel : Nat) (ops : List Op) (members : List Causaloid) :
    countActive (run mk fuel ops) members = recount (events mk fuel ops) members := by
  rw [countActive_eq_filter]
  unfold recount
  congr 1
  apply List.filter_congr
  intro c _
  exact active_eq_spec mk fuel ops c

/-- `percent_active = (number_active / total) * 100` is the exact rational `100·k/n` of the recount -/
theorem percent_active_eq_recount (mk : Nat → Nat) (fuel : Nat) (ops : List Op) (members : List Causaloid) :
    percentActive (run mk fuel ops) members = percent (events mk fuel ops) members := by
  unfold percentActive percent
  rw [number_active_eq_recount]
  grind

/-- `all_active` / `get_all_causes_true` ⇔ the recount equals the number of members -/
theorem all_active_iff_recount (mk : Nat → Nat) (fuel : Nat) (ops : List Op) (members : List Causaloid) :
    allActive (run mk fuel ops) members = true ↔ recount (events mk fuel ops) members = members.length := by
  rw [← number_active_eq_recount, countActive_eq_filter]
  unfold allActive
  rw [List.all_eq_true]
  exact List.length_filter_eq_length_iff.symm

/-- the active / inactive member lists partition the members -/
theorem active_inactive_partition (s : Cells) (members : List Causaloid) :
    (members.filter (isActive s)).length + (members.filter (fun c => !isActive s c)).length = members.length := by
  simpa using (List.filter_append_perm (isActive s) members).length_eq

theorem applyLog_frame (log : List Event) (s : Cells) (cell : Nat) (h : ∀ e ∈ log, e.1 ≠ cell) :
    applyLog s log cell = s cell := by
  rw [applyLog_eq_lastOutcome, lastOutcome_none h]; rfl

/-- every evaluation a call performs concerns a singleton of the structure the call was made on -/
theorem opLog_cells (mk : Nat → Nat) (fuel : Nat) (op : Op) : ∀ e ∈ opLog mk fuel op, e.1 ∈ opCells op := by
  cases op with
  | single c obs =>
    cases c with
    | single cell cid fn => exact (singleLog_ok mk cell cid fn obs).cells
    | coll => intro e he; simp [opLog, singleLog] at he
    | graph => intro e he; simp [opLog, singleLog] at he
  | all c data idx => exact (log_ok mk fuel c data idx).cells
  | coll items data => exact (logFrom_ok items (fun c _ => log_ok mk fuel c) data 0).cells
  | graph nodes edges root data idx => exact (log_ok mk fuel (.graph 0 nodes edges root) data idx).cells

theorem frame_cell (mk : Nat → Nat) (fuel : Nat) (ops : List Op) (op : Op) (cell : Nat) (h : cell ∉ opCells op) :
    run mk fuel (ops ++ [op]) cell = run mk fuel ops cell := by
  rw [run_append]
  apply applyLog_frame
  intro e he heq
  exact h (heq ▸ opLog_cells mk fuel op e he)

theorem isActive_congr (s s' : Cells) :
    (∀ c : Causaloid, (∀ x ∈ leafCells c, s x = s' x) → isActive s c = isActive s' c) ∧
    (∀ cs : List Causaloid, (∀ x ∈ leafCellsL cs, s x = s' x) → countActive s cs = countActive s' cs) := by
  apply Causaloid.induct2
  · intro cell cid fn h; exact h cell (by simp [leafCells])
  · intro cid items ih h; simp only [isActive, ih h]
  · intro gid nodes edges root ih h; simp only [isActive, ih h]
  · intro _; rfl
  · intro c cs ihc ihcs h
    simp only [countActive]
    rw [ihc (fun x hx => h x (by simp [leafCellsL, hx])), ihcs (fun x hx => h x (by simp [leafCellsL, hx]))]

/-- a causaloid (singleton or wrapper, any depth) that shares no cell with the evaluated structure keeps its activation,
    and so do all aggregates over such causaloids -/
theorem frame (mk : Nat → Nat) (fuel : Nat) (ops : List Op) (op : Op) (c : Causaloid)
    (h : ∀ x ∈ leafCells c, x ∉ opCells op) :
    isActive (run mk fuel (ops ++ [op])) c = isActive (run mk fuel ops) c :=
  (isActive_congr _ _).1 c (fun x hx => frame_cell mk fuel ops op x (h x hx))

theorem frame_aggregate (mk : Nat → Nat) (fuel : Nat) (ops : List Op) (op : Op) (members : List Causaloid)
    (h : ∀ x ∈ leafCellsL members, x ∉ opCells op) :
    countActive (run mk fuel (ops ++ [op])) members = countActive (run mk fuel ops) members :=
  (isActive_congr _ _).2 members (fun x hx => frame_cell mk fuel ops op x (h x hx))

/-- within the evaluated structure only singletons that were actually evaluated (they appear in the log) can change -/
theorem unevaluated_unchanged (mk : Nat → Nat) (fuel : Nat) (ops : List Op) (op : Op) (cell : Nat)
    (h : ∀ e ∈ opLog mk fuel op, e.1 ≠ cell) : run mk fuel (ops ++ [op]) cell = run mk fuel ops cell := by
  rw [run_append]; exact applyLog_frame _ _ _ h

def a : Causaloid := .single 0 0 .plain
def b : Causaloid := .single 1 1 .inv
def w : Causaloid := .coll 5 [a, b]
def g : Causaloid := .graph 6 [a, w, .single 2 2 .plain] [(0, 1), (1, 2)] (some 0)
def other : Causaloid := .single 3 0 .plain
/-- evaluate the graph (all true), then the collection with data that makes `a` err and then `b` … not evaluated -/
def hist : List Op := [.all g [1, 3, 1, 0, 0, 1] none, .single other 2, .coll [a, b] [2, 1], .single b 1]

example : (List.range 4).map (run (fun _ => 0) 20 hist) = [true, false, true, false] := by decide
example : lastOutcome 0 (events (fun _ => 0) 20 hist) = some true ∧ lastOutcome 3 (events (fun _ => 0) 20 hist) = none := by
  decide
example : isActive (run (fun _ => 0) 20 hist) w = true ∧ countActive (run (fun _ => 0) 20 hist) [a, w, b] = 2 := by decide
example : ∀ x ∈ leafCells other, x ∉ opCells (.all g [1, 3, 1, 0, 0, 1] none) := by decide

end C11
