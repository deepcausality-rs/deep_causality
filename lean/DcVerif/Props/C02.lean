import DcVerif.Lemmas.Causaloid
/-!
# C02 — nested causal structures evaluate like the conjunction of what they contain

Model: `Model/Causaloid.lean` (`verifyAll` = `Causable::verify_all_causes`, `reasonColl` / `reasonAllGraph` = reasoning directly
over a collection / graph, `Option V` with `none` = panic or — cyclic graphs only — no answer within `fuel`).
Spec: `Spec/Causaloid.lean` (`contained` = the verdicts of every singleton a nested model can reach, each on the observation the
code routes to it; `conj` = their conjunction; `Acyclic` = every graph of the nesting tree is acyclic).

All statements hold for every nesting tree (depth and fan-out unbounded), every observation vector, every data index, every
assignment of contexts and every `fuel`; proofs are by structural induction over the nesting tree (`Causaloid.induct_mem`) with
the stack-machine lemmas of `Lemmas/GraphDfs.lean` at every graph level.

Quirks of the code that the statements carry as hypotheses:
* a wrapper in *root* position of a graph panics (`verify_single_cause` finds no `causal_fn`): `root_wrapper_panics`;
* a wrapper that is a non-root node of a graph still needs an observation for its own id (`get_obs` runs before the
  singleton/wrapper dispatch and panics when the id has no slot), although that observation is discarded:
  `wrapper_eq_direct_in_graph` (hypothesis `getObs … = some o`) and `wrapper_in_graph_needs_own_slot`.
-/
namespace C02
open Causal Dfs Spec.Nest

/-- reasoning directly over the structure a wrapper encapsulates -/
def direct (mk : Nat → Nat) (fuel : Nat) : Causaloid → List Nat → Idx → Option V
  | .single .., _, _ => some .e
  | .coll _ items, data, _ => reasonColl mk fuel items data
  | .graph _ nodes edges root, data, idx => reasonAllGraph mk fuel nodes edges root data idx

/-- alone: `verify_all_causes(data, idx)` on the wrapper = reasoning over the wrapped collection (positional data, index
    ignored) / the wrapped graph (same data, same index) -/
theorem wrapper_eq_direct_alone (mk : Nat → Nat) (fuel : Nat) (w : Causaloid) (data : List Nat) (idx : Idx) :
    verifyAll mk fuel w data idx = direct mk fuel w data idx := by
  cases w <;> simp [verifyAll, direct, reasonColl, reasonAllGraph]

theorem dispatch_wrapper (mk : Nat → Nat) (fuel : Nat) {w : Causaloid} (hw : w.isSingleton = false) (obs : Option Nat)
    (data : List Nat) (idx : Idx) : dispatch mk w obs (verifyAll mk fuel w data idx) = direct mk fuel w data idx := by
  rw [← wrapper_eq_direct_alone]
  cases w with
  | single => simp [Causaloid.isSingleton] at hw
  | coll => rfl
  | graph => rfl

theorem reasonFrom_append (mk : Nat → Nat) (fuel : Nat) (rest : List Causaloid) (data : List Nat) :
    ∀ (pre : List Causaloid) (i : Nat), reasonFrom mk fuel (pre ++ rest) data i =
      match reasonFrom mk fuel pre data i with
      | some .t => reasonFrom mk fuel rest data (i + pre.length)
      | x => x := by
  intro pre
  induction pre with
  | nil => intro i; simp [reasonFrom]
  | cons c cs ih =>
    intro i
    simp only [List.cons_append, reasonFrom]
    cases hd : dispatch mk c data[i]? (verifyAll mk fuel c data none) with
    | none => rfl
    | some x =>
      cases x with
      | e => rfl
      | f => rfl
      | t =>
        simp only [ih (i + 1), List.length_cons]
        have : i + 1 + cs.length = i + (cs.length + 1) := by omega
        rw [this]

/-- as item of a collection (at any position, after items that evaluated true): the item's contribution is the direct
    verdict over the wrapped structure on the *whole* data without index; non-true stops the collection with that verdict -/
theorem wrapper_eq_direct_in_collection (mk : Nat → Nat) (fuel : Nat) (pre post : List Causaloid) (w : Causaloid)
    (data : List Nat) (i : Nat) (hw : w.isSingleton = false) (hpre : reasonFrom mk fuel pre data i = some .t) :
    reasonFrom mk fuel (pre ++ w :: post) data i =
      match direct mk fuel w data none with
      | some .t => reasonFrom mk fuel post data (i + pre.length + 1)
      | x => x := by
  rw [reasonFrom_append, hpre]
  simp only [reasonFrom, dispatch_wrapper mk fuel hw]
  cases direct mk fuel w data none with
  | none => rfl
  | some x => cases x <;> rfl

/-- as non-root node `v` of a graph: the verdict the traversal uses for `v` is the direct verdict over the wrapped structure
    on the same data and the same data index — provided the wrapper's own id has an observation slot -/
theorem wrapper_eq_direct_in_graph (mk : Nat → Nat) (fuel : Nat) (nodes : List Causaloid) (v : Nat) (w : Causaloid)
    (data : List Nat) (idx : Idx) (o : Nat) (hv : nodes[v]? = some w) (hw : w.isSingleton = false)
    (hobs : getObs w.id data idx = some o) :
    ((nodeTable mk fuel nodes data idx)[v]?).bind id = direct mk fuel w data idx := by
  rw [nodeTable_get, hv]
  simp only [Option.bind_some, hobs, dispatch_wrapper mk fuel hw]

/-- the three placements in one statement: alone, as item of a collection, as non-root node of a graph — always the direct
    verdict over the wrapped structure, with the data routed as the code routes it (whole data; no index inside a collection,
    the caller's index inside a graph) -/
theorem wrapper_eq_direct (mk : Nat → Nat) (fuel : Nat) (w : Causaloid) (hw : w.isSingleton = false) (data : List Nat) :
    (∀ idx, verifyAll mk fuel w data idx = direct mk fuel w data idx) ∧
    (∀ pre post i, reasonFrom mk fuel pre data i = some .t →
      reasonFrom mk fuel (pre ++ w :: post) data i =
        match direct mk fuel w data none with
        | some .t => reasonFrom mk fuel post data (i + pre.length + 1)
        | x => x) ∧
    (∀ nodes (v : Nat) idx o, nodes[v]? = some w → getObs w.id data idx = some o →
      ((nodeTable mk fuel nodes data idx)[v]?).bind id = direct mk fuel w data idx) :=
  ⟨fun idx => wrapper_eq_direct_alone mk fuel w data idx,
   fun pre post i hpre => wrapper_eq_direct_in_collection mk fuel pre post w data i hw hpre,
   fun nodes v idx o hv hobs => wrapper_eq_direct_in_graph mk fuel nodes v w data idx o hv hw hobs⟩

/-- … and without such a slot the code panics before it looks at the wrapped structure -/
theorem wrapper_in_graph_needs_own_slot (mk : Nat → Nat) (fuel : Nat) (nodes : List Causaloid) (v : Nat) (w : Causaloid)
    (data : List Nat) (idx : Idx) (hv : nodes[v]? = some w) (hobs : getObs w.id data idx = none) :
    ((nodeTable mk fuel nodes data idx)[v]?).bind id = none := by
  rw [nodeTable_get, hv]
  simp [hobs]

/-- a wrapper in root position: the start node always goes through `verify_single_cause`, which panics on a wrapper -/
theorem root_wrapper_panics (mk : Nat → Nat) (fuel : Nat) (gid : Nat) (nodes : List Causaloid) (edges : List (Nat × Nat))
    (r : Nat) (w : Causaloid) (data : List Nat) (idx : Idx) (hr : nodes[r]? = some w) (hw : w.isSingleton = false)
    (hdata : data ≠ []) : verifyAll mk fuel (.graph gid nodes edges (some r)) data idx = none := by
  have hlt : r < nodes.length := by
    rcases Nat.lt_or_ge r nodes.length with h | h
    · exact h
    · rw [List.getElem?_eq_none h] at hr; cases hr
  have hd : data.isEmpty = false := by cases data <;> simp_all
  have hsv : startVerdict mk w data idx = none := by
    cases w with
    | single => simp [Causaloid.isSingleton] at hw
    | coll => simp only [startVerdict]; cases getObs _ data idx <;> simp [verifySingle]
    | graph => simp only [startVerdict]; cases getObs _ data idx <;> simp [verifySingle]
  simp only [verifyAll, reasonGraph, hd, Option.bind_some, hr, hsv]
  simp [Nat.not_le.2 hlt]

/-- verdict `true` ⇔ every singleton the nested model reaches evaluates to `true` on the observation routed to it
    (and no structural fault: empty collection, missing root, empty data, failed lookup) -/
theorem nested_true_iff (mk : Nat → Nat) (fuel : Nat) (m : Causaloid) (data : List Nat) (idx : Idx) (r : V)
    (hac : Acyclic m) (h : verifyAll mk fuel m data idx = some r) :
    r = .t ↔ ∀ l ∈ contained mk m data idx, l = some .t :=
  (verdict_agrees mk fuel m hac data idx r h).true_iff

/-- a `false` verdict is the verdict of a contained singleton -/
theorem nested_false_cause (mk : Nat → Nat) (fuel : Nat) (m : Causaloid) (data : List Nat) (idx : Idx)
    (hac : Acyclic m) (h : verifyAll mk fuel m data idx = some .f) : some .f ∈ contained mk m data idx :=
  (verdict_agrees mk fuel m hac data idx .f h).2 (by simp)

/-- an error verdict is the error of a contained singleton (or a structural fault) -/
theorem nested_err_cause (mk : Nat → Nat) (fuel : Nat) (m : Causaloid) (data : List Nat) (idx : Idx)
    (hac : Acyclic m) (h : verifyAll mk fuel m data idx = some .e) : some .e ∈ contained mk m data idx :=
  (verdict_agrees mk fuel m hac data idx .e h).2 (by simp)

/-- nothing contained errs or panics and something is false ⇒ the verdict is `false` -/
theorem nested_false (mk : Nat → Nat) (fuel : Nat) (m : Causaloid) (data : List Nat) (idx : Idx) (r : V)
    (hac : Acyclic m) (h : verifyAll mk fuel m data idx = some r)
    (hne : ∀ l ∈ contained mk m data idx, l = some .t ∨ l = some .f) (hf : some .f ∈ contained mk m data idx) :
    r = .f := by
  have hag := verdict_agrees mk fuel m hac data idx r h
  cases r with
  | f => rfl
  | t => have := hag.1 rfl _ hf; cases this
  | e => rcases hne _ (hag.2 (by simp)) with h | h <;> cases h

/-- if anything contained is not `true` (false, error, panic) the verdict is never `true` -/
theorem nested_err_never_true (mk : Nat → Nat) (fuel : Nat) (m : Causaloid) (data : List Nat) (idx : Idx) (r : V)
    (hac : Acyclic m) (h : verifyAll mk fuel m data idx = some r)
    (hex : ∃ l ∈ contained mk m data idx, l ≠ some .t) : r ≠ .t := by
  intro hr
  obtain ⟨l, hl, hne⟩ := hex
  exact hne ((nested_true_iff mk fuel m data idx r hac h).1 hr l hl)

/-- the executable oracle the driver applies to the implementation's answers accepts every answer of the model -/
theorem verdict_is_conjunction (mk : Nat → Nat) (fuel : Nat) (m : Causaloid) (data : List Nat) (idx : Idx) (r : V)
    (hac : Acyclic m) (h : verifyAll mk fuel m data idx = some r) :
    conj (contained mk m data idx) (some r) = true :=
  conj_of_agrees (verdict_agrees mk fuel m hac data idx r h)

/-- a contextual causaloid evaluates its function against exactly the context it was built with -/
theorem contextual_uses_own_ctx (mk : Nat → Nat) (cell cid k obs : Nat) :
    verifySingle mk (.single cell cid (.ctx (some k))) obs = some (decode (obs + mk k)) := rfl

/-- … and against nothing else: changing every other context changes no verdict -/
theorem contextual_ignores_other_ctx (mk mk' : Nat → Nat) (cell cid k obs : Nat) (h : mk k = mk' k) :
    verifySingle mk (.single cell cid (.ctx (some k))) obs = verifySingle mk' (.single cell cid (.ctx (some k))) obs := by
  simp [verifySingle, Fn.apply, h]

/-- at nested level: the verdict of a whole model depends on the environment of contexts only through the contexts its own
    singletons were built with -/
theorem nested_uses_own_ctxs (mk mk' : Nat → Nat) (fuel : Nat) (m : Causaloid) (data : List Nat) (idx : Idx)
    (h : ∀ k ∈ ctxsOf m, mk k = mk' k) : verifyAll mk fuel m data idx = verifyAll mk' fuel m data idx :=
  verdict_congr_ctx mk mk' fuel m h data idx

/-- verdict `true` ⇒ every singleton that was evaluated on the way returned `true` (and, by `nested_true_iff`, these are all
    singletons the model contains) -/
theorem true_all_evaluated_true (mk : Nat → Nat) (fuel : Nat) (m : Causaloid) (data : List Nat) (idx : Idx)
    (h : verifyAll mk fuel m data idx = some .t) : ∀ e ∈ logAll mk fuel m data idx, e.2 = .t :=
  (log_ok mk fuel m data idx).allTrue h

/-- verdict `false` ⇒ some evaluated singleton returned `false` -/
theorem false_some_evaluated_false (mk : Nat → Nat) (fuel : Nat) (m : Causaloid) (data : List Nat) (idx : Idx)
    (h : verifyAll mk fuel m data idx = some .f) : ∃ e ∈ logAll mk fuel m data idx, e.2 = .f :=
  (log_ok mk fuel m data idx).someFalse h

theorem verdict_fuel_independent (mk : Nat → Nat) (m : Causaloid) (data : List Nat) (idx : Idx) (f f' : Nat) (r r' : V)
    (h : verifyAll mk f m data idx = some r) (h' : verifyAll mk f' m data idx = some r') : r = r' := by
  rcases Nat.le_total f f' with hle | hle
  · exact Option.some.inj ((verdict_mono mk hle m data idx r h).symm.trans h')
  · exact Option.some.inj (h.symm.trans (verdict_mono mk hle m data idx r' h'))

theorem nested_terminates (mk : Nat → Nat) (m : Causaloid) (data : List Nat) (idx : Idx) (hac : Acyclic m)
    (hdef : ∀ l ∈ contained mk m data idx, l ≠ none) : ∃ fuel r, verifyAll mk fuel m data idx = some r :=
  verdict_terminates mk m hac data idx hdef

/-- total form of `nested_true_iff`: everything contained evaluates true ⇒ (with enough fuel) the verdict is `true` -/
theorem nested_true_total (mk : Nat → Nat) (m : Causaloid) (data : List Nat) (idx : Idx) (hac : Acyclic m)
    (hall : ∀ l ∈ contained mk m data idx, l = some .t) : ∃ fuel, verifyAll mk fuel m data idx = some .t := by
  obtain ⟨fuel, r, hr⟩ := nested_terminates mk m data idx hac (fun l hl => by rw [hall l hl]; simp)
  have := (nested_true_iff mk fuel m data idx r hac hr).2 hall
  subst this
  exact ⟨fuel, hr⟩

/-- total form of `nested_false`: no error or panic inside and something false ⇒ the verdict is `false` -/
theorem nested_false_total (mk : Nat → Nat) (m : Causaloid) (data : List Nat) (idx : Idx) (hac : Acyclic m)
    (hne : ∀ l ∈ contained mk m data idx, l = some .t ∨ l = some .f) (hf : some .f ∈ contained mk m data idx) :
    ∃ fuel, verifyAll mk fuel m data idx = some .f := by
  obtain ⟨fuel, r, hr⟩ := nested_terminates mk m data idx hac
    (fun l hl => by rcases hne l hl with h | h <;> rw [h] <;> simp)
  have := nested_false mk fuel m data idx r hac hr hne hf
  subst this
  exact ⟨fuel, hr⟩

/-- contexts: marker 1 in context 0, marker 2 in context 1 -/
def mk0 : Nat → Nat := fun k => if k = 0 then 1 else 2
/-- depth 3: a graph with a diamond whose interior node wraps a collection that wraps a graph -/
def inner : Causaloid := .graph 2 [.single 0 0 .plain, .single 1 1 .inv] [(0, 1)] (some 0)
def mid : Causaloid := .coll 3 [.single 2 0 .plain, inner, .single 3 2 (.ctx (some 1))]
def top : Causaloid :=
  .graph 9 [.single 4 0 .plain, mid, .single 5 3 .plain, .single 6 1 .inv] [(0, 1), (0, 3), (1, 2), (3, 2)] (some 0)

theorem inner_acyclic : Acyclic inner :=
  ⟨⟨fun a => if a = 0 then 1 else 0, rank_of_edges _ _ _ (by decide), by intro a; dsimp only [inner]; split <;> simp⟩,
    trivial, trivial, trivial⟩

theorem top_acyclic : Acyclic top :=
  ⟨⟨fun a => if a = 0 then 2 else if a = 2 then 0 else 1, rank_of_edges _ _ _ (by decide),
      by intro a; dsimp only [top]; split <;> (try split) <;> simp⟩,
    trivial, ⟨trivial, inner_acyclic, trivial, trivial⟩, trivial, trivial, trivial⟩

example : verifyAll mk0 50 top [1, 3, 5, 1] none = some .t := by decide
example : ∀ l ∈ contained mk0 top [1, 3, 5, 1] none, l = some .t := by decide
example : verifyAll mk0 50 top [1, 3, 4, 1] none = some .f ∧ some .f ∈ contained mk0 top [1, 3, 4, 1] none := by decide
example : verifyAll mk0 50 top [1, 3, 3, 1] none = some .e ∧ some .e ∈ contained mk0 top [1, 3, 3, 1] none := by decide
-- the same wrapper alone, as item 1 of a collection, as interior node 1 of a graph: always the direct verdict
example : verifyAll mk0 50 mid [1, 3, 3, 1] none = direct mk0 50 mid [1, 3, 3, 1] none := by decide
example : reasonFrom mk0 50 [.single 7 0 .plain, mid, .single 8 0 .plain] [1, 3, 3, 1] 0 = direct mk0 50 mid [1, 3, 3, 1] none := by
  decide
-- a wrapper in root position panics; a wrapper whose own id has no observation slot panics
example : verifyAll mk0 50 (.graph 0 [mid, .single 7 0 .plain] [(0, 1)] (some 0)) [1, 3, 5, 1] none = none := by decide
example : verifyAll mk0 50 (.graph 0 [.single 7 0 .plain, mid] [(0, 1)] (some 0)) [1, 3, 5] none = none ∧
    direct mk0 50 mid [1, 3, 5] none = some .t := by decide
-- the two contexts give different verdicts on the same observation: the stored one is used
example : verifySingle mk0 (.single 0 0 (.ctx (some 0))) 3 = some .t ∧ verifySingle mk0 (.single 0 0 (.ctx (some 1))) 3 = some .e := by
  decide

end C02
