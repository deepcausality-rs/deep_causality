import DcVerif.Model.BitMap
import DcVerif.Lemmas.Run
/-!
# C19 — BitMap tracks each sequence residue independently

Theorems about the definitions that `tools/rs2lean.py` regenerates from
`dcl_data_structures/src/ring_buffer/utils/{bit_map,logarithm}.rs` on every run (`Gen.BitMap`).

Statement (for every power-of-two capacity `c = 2^k`, `k` arbitrary — below, at and above one machine
word —, every history of `set`/`unset` calls and every sequence number `s`): no call ever indexes out of
bounds, and `is_set s` answers exactly "the last call addressed to the residue class of `s` modulo `c`
was a `set`" (`Spec.BitMap.isSet`). Independence of residues and commutation of calls on distinct
residues are corollaries; `c19_concurrent_distinct_residues` states the concurrent clause for every interleaving of two
threads whose calls are atomic read-modify-writes (that each call of the real code is exactly one `fetch_or` / `fetch_and` is checked
under the deterministic scheduler by the correspondence run).
-/
set_option linter.unusedSimpArgs false
namespace C19
open Gen.BitMap Spec.BitMap Model.BitMap

theorem and_one_shl_ne_zero (v b : Nat) : ((v &&& (1 <<< b)) != 0) = v.testBit b := by
  rw [Nat.one_shiftLeft]
  cases h : v.testBit b
  · have : v &&& 2 ^ b = 0 := by
      apply Nat.eq_of_testBit_eq; intro i
      simp only [Nat.testBit_and, Nat.testBit_two_pow, Nat.zero_testBit]
      by_cases hb : b = i
      · subst hb; simp [h]
      · simp [hb]
    simp [this]
  · have : (v &&& 2 ^ b).testBit b = true := by simp [Nat.testBit_and, h]
    have : v &&& 2 ^ b ≠ 0 := by intro h0; rw [h0] at this; simp at this
    simp [this]

theorem testBit_set (w b j : Nat) : (w ||| 2 ^ b).testBit j = if b = j then true else w.testBit j := by
  rw [Nat.testBit_or, Nat.testBit_two_pow]
  by_cases hb : b = j <;> simp [hb]

theorem testBit_clear (w b j : Nat) (hj : j < 64) :
    (w &&& (2 ^ b ^^^ (2 ^ 64 - 1))).testBit j = if b = j then false else w.testBit j := by
  rw [Nat.testBit_and, Nat.testBit_xor, Nat.testBit_two_pow, Nat.testBit_two_pow_sub_one]
  by_cases hb : b = j <;> simp [hb, hj]

/-- `(v >> b) & 1 == 1`, the other spelling of the bit test -/
theorem shr_and_one_eq_one (v b : Nat) : (((v >>> b) &&& 1) == 1) = v.testBit b := by
  simp [Nat.testBit, Nat.and_comm]
theorem shr_mod_two_eq_one (v b : Nat) : ((v >>> b) % 2 == 1) = v.testBit b := by
  simp [Nat.testBit, Nat.and_comm]

theorem masked_eq (k s : Nat) : s &&& (2 ^ k - 1) = s % 2 ^ k := Nat.and_two_pow_sub_one_eq_mod s k
theorem log2_64 : log2 64 = 6 := by decide
theorem and_63 (m : Nat) : m &&& 63 = m % 64 := Nat.and_two_pow_sub_one_eq_mod m 6
theorem shr_6 (m : Nat) : m >>> 6 = m / 64 := by simp [Nat.shiftRight_eq_div_pow]

/-- the cell (slot, bit) a sequence number is mapped to, as plain arithmetic -/
def slotOf (c s : Nat) : Nat := (s % c) / 64
def bitOf (c s : Nat) : Nat := (s % c) % 64

theorem cell_eq_iff (c a b : Nat) :
    (slotOf c a = slotOf c b ∧ bitOf c a = bitOf c b) ↔ a % c = b % c := by
  unfold slotOf bitOf; omega

theorem bitOf_lt (c s : Nat) : bitOf c s < 64 := by unfold bitOf; omega

theorem slotOf_lt (c s : Nat) (hc : 0 < c) : slotOf c s < (c + 63) / 64 := by
  unfold slotOf
  have := Nat.mod_lt s hc
  omega

/-! ## the generated functions in normal form

The lemmas of this section are the only place where the *shape* of the generated definitions matters. They are stated for
"a bit map built for capacity `2^k`, with any word list in place of the fresh one" (`{ build (2^k) with slots := sl }`), which
mentions no field but `slots` and no constant of the source, and they are proved by unfolding and `simp` with the value
lemmas `NAME_val` the translator emits for every constant of bit_map.rs. So the field names, the order of the `let`s, whether
shift and mask are fields computed in `build` or constants, a helper that the translator inlined and the spelling of the bit
test do not matter; a wrong mask, shift, word index or bit does. -/

theorem is_set_build (k : Nat) (sl : List Nat) (s : Nat) :
    is_set { build (2 ^ k) with slots := sl } s = (sl[slotOf (2 ^ k) s]?).map (fun w => w.testBit (bitOf (2 ^ k) s)) := by
  unfold is_set slotOf bitOf
  simp [build, log2_64, masked_eq, and_63, shr_6, and_one_shl_ne_zero, shr_and_one_eq_one, shr_mod_two_eq_one]
  split <;> simp_all

theorem set_build (k : Nat) (sl : List Nat) (s : Nat) :
    Gen.BitMap.set { build (2 ^ k) with slots := sl } s = (sl[slotOf (2 ^ k) s]?).map
      (fun w => { build (2 ^ k) with slots := sl.set (slotOf (2 ^ k) s) (w ||| 2 ^ bitOf (2 ^ k) s) }) := by
  unfold Gen.BitMap.set slotOf bitOf
  simp [build, log2_64, masked_eq, and_63, shr_6, Nat.one_shiftLeft]
  split <;> simp_all

theorem unset_build (k : Nat) (sl : List Nat) (s : Nat) :
    unset { build (2 ^ k) with slots := sl } s = (sl[slotOf (2 ^ k) s]?).map
      (fun w => { build (2 ^ k) with slots := sl.set (slotOf (2 ^ k) s) (w &&& (2 ^ bitOf (2 ^ k) s ^^^ (2 ^ 64 - 1))) }) := by
  unfold unset slotOf bitOf
  simp [build, log2_64, masked_eq, and_63, shr_6, Nat.one_shiftLeft]
  split <;> simp_all

/-- the word index the three generated index functions compute (used by the happens-before model of the ring) -/
theorem index_build (k : Nat) (sl : List Nat) (s : Nat) :
    is_set_index { build (2 ^ k) with slots := sl } s = slotOf (2 ^ k) s ∧
    set_index { build (2 ^ k) with slots := sl } s = slotOf (2 ^ k) s ∧
    unset_index { build (2 ^ k) with slots := sl } s = slotOf (2 ^ k) s := by
  unfold is_set_index set_index unset_index slotOf
  simp [build, log2_64, masked_eq, and_63, shr_6]

theorem build_slots (c : Nat) : (build c).slots = List.replicate ((c + 63) / 64) 0 := by
  simp [build]

/-- shape of a bit map built for capacity `c`: everything except the words is as `build c` made it -/
def Shape (c : Nat) (bm : BitMap) : Prop :=
  bm.slots.length = (c + 63) / 64 ∧ bm = { build c with slots := bm.slots }

theorem build_shape (c : Nat) : Shape c (build c) := ⟨by simp [build_slots], rfl⟩

theorem shape_with_slots {c : Nat} {bm : BitMap} (h : Shape c bm) (sl : List Nat) (hl : sl.length = bm.slots.length) :
    Shape c { bm with slots := sl } :=
  ⟨hl.trans h.1, congrArg (fun b : BitMap => { b with slots := sl }) h.2⟩

theorem is_set_nf {k : Nat} {bm : BitMap} (h : Shape (2 ^ k) bm) (s : Nat) :
    is_set bm s = (bm.slots[slotOf (2 ^ k) s]?).map (fun w => w.testBit (bitOf (2 ^ k) s)) := by
  rw [h.2]; exact is_set_build k bm.slots s

theorem set_nf {k : Nat} {bm : BitMap} (h : Shape (2 ^ k) bm) (s : Nat) :
    Gen.BitMap.set bm s = (bm.slots[slotOf (2 ^ k) s]?).map
      (fun w => { bm with slots := bm.slots.set (slotOf (2 ^ k) s) (w ||| 2 ^ bitOf (2 ^ k) s) }) := by
  rw [h.2]; exact set_build k bm.slots s

theorem unset_nf {k : Nat} {bm : BitMap} (h : Shape (2 ^ k) bm) (s : Nat) :
    unset bm s = (bm.slots[slotOf (2 ^ k) s]?).map
      (fun w => { bm with slots := bm.slots.set (slotOf (2 ^ k) s) (w &&& (2 ^ bitOf (2 ^ k) s ^^^ (2 ^ 64 - 1))) }) := by
  rw [h.2]; exact unset_build k bm.slots s

theorem index_nf {k : Nat} {bm : BitMap} (h : Shape (2 ^ k) bm) (s : Nat) :
    is_set_index bm s = slotOf (2 ^ k) s ∧ set_index bm s = slotOf (2 ^ k) s ∧ unset_index bm s = slotOf (2 ^ k) s := by
  rw [h.2]; exact index_build k bm.slots s

theorem isSet_cons_set (c s' s : Nat) (hist : List Op) :
    isSet c (.set s' :: hist) s = if s' % c = s % c then true else isSet c hist s := rfl
theorem isSet_cons_unset (c s' s : Nat) (hist : List Op) :
    isSet c (.unset s' :: hist) s = if s' % c = s % c then false else isSet c hist s := rfl

/-- `hist` newest first -/
structure Inv (c : Nat) (bm : BitMap) (hist : List Op) : Prop where
  shape : Shape c bm
  cells : ∀ s, ∃ w, bm.slots[slotOf c s]? = some w ∧ w.testBit (bitOf c s) = isSet c hist s

theorem inv_build (k : Nat) : Inv (2 ^ k) (build (2 ^ k)) [] := by
  refine ⟨build_shape _, fun s => ⟨0, ?_, by simp [isSet]⟩⟩
  have := slotOf_lt (2 ^ k) s (Nat.two_pow_pos k)
  rw [build_slots, List.getElem?_replicate, if_pos (by omega)]

/-- The step both calls take: the word of the addressed cell is replaced by one that differs from it in the addressed
bit only, which now tells whether the call was a `set`. -/
theorem inv_update {k : Nat} {bm : BitMap} {hist : List Op} (h : Inv (2 ^ k) bm hist) (op : Op) (f : Nat → Nat)
    (hf : ∀ w j, j < 64 → (f w).testBit j = if bitOf (2 ^ k) op.seq = j then op.isSetOp else w.testBit j) :
    ∃ w, bm.slots[slotOf (2 ^ k) op.seq]? = some w ∧
      Inv (2 ^ k) { bm with slots := bm.slots.set (slotOf (2 ^ k) op.seq) (f w) } (op :: hist) := by
  obtain ⟨w, hw, _⟩ := h.cells op.seq
  have hlt : slotOf (2 ^ k) op.seq < bm.slots.length := by
    rw [h.shape.1]; exact slotOf_lt _ _ (Nat.two_pow_pos k)
  refine ⟨w, hw, shape_with_slots h.shape _ List.length_set, fun s => ?_⟩
  obtain ⟨v, hv, hvb⟩ := h.cells s
  show ∃ u, (bm.slots.set _ (f w))[slotOf (2 ^ k) s]? = some u ∧
    u.testBit (bitOf (2 ^ k) s) = if op.seq % 2 ^ k = s % 2 ^ k then op.isSetOp else isSet (2 ^ k) hist s
  rw [List.getElem?_set]
  by_cases hs : slotOf (2 ^ k) op.seq = slotOf (2 ^ k) s
  · rw [if_pos hs, if_pos hlt]
    cases (hs ▸ hw).symm.trans hv
    refine ⟨_, rfl, ?_⟩
    rw [hf _ _ (bitOf_lt _ s), hvb]
    simp only [← cell_eq_iff (2 ^ k) op.seq s, hs, true_and]
  · rw [if_neg hs, if_neg (fun e => hs ((cell_eq_iff _ _ _).2 e).1)]
    exact ⟨v, hv, hvb⟩

theorem inv_step {k : Nat} {bm : BitMap} {hist : List Op} (h : Inv (2 ^ k) bm hist) (op : Op) :
    ∃ bm', apply bm op = some bm' ∧ Inv (2 ^ k) bm' (op :: hist) := by
  cases op with
  | set s' =>
    obtain ⟨w, hw, hi⟩ := inv_update h (.set s') _ (fun w j _ => testBit_set w _ j)
    exact ⟨_, (set_nf h.shape s').trans (congrArg (Option.map _) hw), hi⟩
  | unset s' =>
    obtain ⟨w, hw, hi⟩ := inv_update h (.unset s') _ (fun w j hj => testBit_clear w _ j hj)
    exact ⟨_, (unset_nf h.shape s').trans (congrArg (Option.map _) hw), hi⟩

theorem inv_run {k : Nat} (ops : List Op) {bm : BitMap} {hist : List Op} (h : Inv (2 ^ k) bm hist) :
    ∃ bm', run bm ops = some bm' ∧ Inv (2 ^ k) bm' (ops.reverse ++ hist) :=
  Lemmas.Run.run_inv (step := apply) (ok := some) (I := Inv (2 ^ k)) (P := fun _ => True) (fun _ => rfl)
    (fun _ _ _ _ e => by simp only [run, e]) (fun _ _ op _ hi => inv_step hi op) ops bm hist (fun _ _ => trivial) h

/-- **C19, main statement.** For every power-of-two capacity, every call history (oldest first) and every
sequence number: the history runs without an out-of-bounds access and `is_set` answers what the
residue-set specification says. -/
theorem c19_bitmap_is_residue_set (k : Nat) (ops : List Op) (s : Nat) :
    ∃ bm, run (build (2 ^ k)) ops = some bm ∧
      is_set bm s = some (isSet (2 ^ k) ops.reverse s) := by
  obtain ⟨bm, hrun, hinv⟩ := inv_run ops (inv_build k)
  refine ⟨bm, hrun, ?_⟩
  obtain ⟨w, hw, hb⟩ := hinv.cells s
  rw [is_set_nf hinv.shape, hw]
  simpa using hb

/-- a fresh bit map has nothing set -/
theorem c19_fresh_unset (k s : Nat) : is_set (build (2 ^ k)) s = some false := by
  simpa [run, isSet] using c19_bitmap_is_residue_set k [] s

/-- a call for one residue class never affects the answer for another one -/
theorem c19_other_residue_unaffected (k : Nat) (ops : List Op) (op : Op) (s : Nat)
    (hne : op.seq % 2 ^ k ≠ s % 2 ^ k) :
    isSet (2 ^ k) (ops ++ [op]).reverse s = isSet (2 ^ k) ops.reverse s := by
  simp [isSet, hne]

/-- calls addressed to distinct residue classes commute (the sequential content of "concurrent calls on
distinct residues": either order yields the same observable map) -/
theorem c19_distinct_residues_commute (k : Nat) (ops : List Op) (a b : Op) (s : Nat)
    (hne : a.seq % 2 ^ k ≠ b.seq % 2 ^ k) :
    isSet (2 ^ k) (ops ++ [a, b]).reverse s = isSet (2 ^ k) (ops ++ [b, a]).reverse s := by
  simp only [List.reverse_append, List.reverse_cons, List.reverse_nil, List.nil_append,
    List.cons_append, isSet]
  by_cases h1 : a.seq % 2 ^ k = s % 2 ^ k
  · rw [if_neg (fun e => hne (h1.trans e.symm)), if_pos h1, if_pos h1]
  · rw [if_neg h1, if_neg h1]

/-- two sequence numbers share a cell iff they are congruent modulo the capacity -/
theorem c19_cell_eq_iff_residue_eq (k a b : Nat) :
    (slotOf (2 ^ k) a = slotOf (2 ^ k) b ∧ bitOf (2 ^ k) a = bitOf (2 ^ k) b) ↔ a % 2 ^ k = b % 2 ^ k :=
  cell_eq_iff _ a b

def sameRes (c s : Nat) (op : Op) : Bool := op.seq % c == s % c

theorem isSet_filter (c : Nat) (hist : List Op) (s : Nat) :
    isSet c hist s = isSet c (hist.filter (sameRes c s)) s := by
  induction hist with
  | nil => rfl
  | cons op rest ih =>
    by_cases h : op.seq % c = s % c
    · have hb : sameRes c s op = true := by simp [sameRes, h]
      rw [List.filter_cons_of_pos hb]
      simp only [isSet, h, if_true]
    · have hb : ¬ sameRes c s op = true := by simp [sameRes, h]
      rw [List.filter_cons_of_neg hb]
      simp only [isSet, h, if_false]
      exact ih

/-- `m` is an interleaving of the two call sequences `a` and `b` (each in its own program order) -/
inductive Interleave : List Op → List Op → List Op → Prop
  | nil : Interleave [] [] []
  | left {a b m} (x : Op) : Interleave a b m → Interleave (x :: a) b (x :: m)
  | right {a b m} (y : Op) : Interleave a b m → Interleave a (y :: b) (y :: m)

theorem Interleave.filter_left {a b m : List Op} (h : Interleave a b m) (p : Op → Bool)
    (hb : ∀ y, y ∈ b → p y = false) : m.filter p = a.filter p := by
  induction h with
  | nil => rfl
  | left x _ ih => simp only [List.filter]; cases p x <;> simp [ih hb]
  | right y _ ih =>
    have hy := hb y (by simp)
    simp only [List.filter, hy]
    exact ih (fun z hz => hb z (by simp [hz]))

/-- **concurrent calls on distinct residues**: two threads issue `set`/`unset` calls, each call one atomic
read-modify-write of a word (that each call *is* exactly one `fetch_or`/`fetch_and` is checked on the real code by the
scheduler harness); thread A's calls address residue classes that thread B never touches. Then for every interleaving
and every sequence number in one of A's classes the bit map answers as if A had run alone. -/
theorem c19_concurrent_distinct_residues (k : Nat) (a b m : List Op) (hm : Interleave a b m)
    (hd : ∀ x, x ∈ a → ∀ y, y ∈ b → x.seq % 2 ^ k ≠ y.seq % 2 ^ k) (s : Nat)
    (hs : ∃ x, x ∈ a ∧ x.seq % 2 ^ k = s % 2 ^ k) :
    ∃ bm, run (build (2 ^ k)) m = some bm ∧ is_set bm s = some (isSet (2 ^ k) a.reverse s) := by
  obtain ⟨bm, hrun, his⟩ := c19_bitmap_is_residue_set k m s
  refine ⟨bm, hrun, ?_⟩
  rw [his, isSet_filter, isSet_filter (2 ^ k) a.reverse]
  congr 1
  rw [List.filter_reverse, List.filter_reverse]
  congr 2
  apply hm.filter_left
  intro y hy
  obtain ⟨x, hx, hxs⟩ := hs
  have := hd x hx y hy
  simp only [sameRes, beq_eq_false_iff_ne, ne_eq]
  intro h; exact this (by omega)

example : Interleave [.set 1, .unset 1] [.set 2] [.set 1, .set 2, .unset 1] :=
  .left _ (.right _ (.left _ .nil))

/-! ## non-vacuity: concrete histories, below / at / above one machine word -/
example : ∃ bm, run (build 8) [.set 3, .set 11, .unset 3] = some bm ∧ is_set bm 11 = some false ∧
    is_set bm 4 = some false := by decide +kernel
example : ∃ bm, run (build 64) [.set 0] = some bm ∧ is_set bm 0 = some true ∧ is_set bm 1 = some false := by
  decide +kernel
example : ∃ bm, run (build 1024) [.set 3] = some bm ∧ is_set bm 3 = some true ∧ is_set bm 19 = some false ∧
    is_set bm 1027 = some true := by decide +kernel

end C19
