import DcVerif.Lemmas.CausalSpec
/-!
# C10 — shortest-path reasoning evaluates exactly one minimum-weight path

Model: `CausalGraph.reasonShortest g s t data idx path` (`Model/CausalGraph.lean`), a transcription of
`reason_shortest_path_between_causes` + `get_shortest_path`; `path` is what `UltraGraph::shortest_path` (petgraph `astar`,
not translated) answered — the tie-break between equally short paths is external nondeterminism. The driver accepts a
reported path only through `CausalSpec.pathAccepted` (a real `s → t` path whose weight equals the Floyd–Warshall distance;
"no path" only if the distance is `none`), which is sound by `accepted_path_minimal` / `FW.dist_correct`.

The statements are for every add-only graph of singleton causaloids (cycles, self-loops, zero weights allowed), every pair
`s, t`, every data vector / data index, every assignment of causal functions and every admissible `path`.
Note (quirk, mirrored): unlike `reason_from_to_cause`, this function does not reject empty `data`; it panics in `get_obs`.
-/
namespace C10
open CausalGraph CausalSpec
open Dfs (V)

theorem evalPrefix_is_prefix (ev : Nat → Option V) : ∀ p, ∃ r, p = evalPrefix ev p ++ r := by
  intro p
  fun_induction evalPrefix ev p <;> simp_all

theorem evalPrefix_append (ev : Nat → Option V) (l rest : List Nat) (hl : ∀ x, x ∈ l → ev x = some .t) :
    evalPrefix ev (l ++ rest) = l ++ evalPrefix ev rest := by
  induction l <;> simp_all [evalPrefix]

theorem pathEval_append (ev : Nat → Option V) (l rest : List Nat) (hl : ∀ x, x ∈ l → ev x = some .t) :
    pathEval ev (l ++ rest) = ((pathEval ev rest).1, l ++ (pathEval ev rest).2) := by
  induction l <;> simp_all [pathEval]

theorem evalPrefix_all_true (ev : Nat → Option V) : ∀ p, (∀ c, c ∈ p → ev c = some .t) → evalPrefix ev p = p := by
  intro p h
  simpa [evalPrefix] using evalPrefix_append ev p [] h

theorem evalPrefix_first_nontrue (ev : Nat → Option V) : ∀ (l : List Nat) (c : Nat) (r : List Nat),
    (∀ x, x ∈ l → ev x = some .t) → ev c ≠ some .t → evalPrefix ev (l ++ c :: r) = l ++ [c] := by
  intro l c r hl hc
  rw [evalPrefix_append ev l _ hl, evalPrefix, if_neg hc]

/-- the model's loop against the spec: it answers the conjunction along the path, having evaluated the prefix up to the first
    causaloid that is not true — but for that one itself when it lacks an observation (`get_obs` panics first) -/
theorem pathEval_eq (ev : Nat → Option V) (p : List Nat) : pathEval ev p =
    match conjAlong ev p with
    | some r => (r, evalPrefix ev p)
    | none => (.panic, (evalPrefix ev p).filter fun c => (ev c).isSome) := by
  fun_induction pathEval ev p <;> simp_all [conjAlong, evalPrefix]
  split <;> simp_all

theorem evaluated_eq_prefix (ev : Nat → Option V) : ∀ p r, conjAlong ev p = some r → pathEval ev p = (r, evalPrefix ev p) := by
  intro p r h
  rw [pathEval_eq, h]

/-- a missing observation met while every causaloid before it is true is a panic (`get_obs`) -/
theorem pathEval_panic (ev : Nat → Option V) : ∀ p, conjAlong ev p = none → (pathEval ev p).1 = .panic := by
  intro p h
  rw [pathEval_eq, h]

/-- whatever happens, only causaloids of the evaluated prefix are evaluated -/
theorem nothing_else_evaluated (ev : Nat → Option V) : ∀ p v, v ∈ (pathEval ev p).2 → v ∈ evalPrefix ev p := by
  intro p v h
  rw [pathEval_eq] at h
  split at h
  · exact h
  · exact (List.mem_filter.1 h).1

/-- activation flags of everything off the evaluated prefix (in particular off the path) are unchanged -/
theorem flags_off_prefix (ev : Nat → Option V) (p : List Nat) (flags : List Bool) (v : Nat) (hv : v ∉ evalPrefix ev p) :
    (applyLog ev flags (pathEval ev p).2)[v]? = flags[v]? :=
  applyLog_not_mem ev v _ flags (fun h => hv (nothing_else_evaluated ev p v h))

/-- `Ok(true)` iff every causaloid of the path is true -/
theorem verdict_true_iff (ev : Nat → Option V) : ∀ p, (pathEval ev p).1 = .ok true ↔ ∀ c, c ∈ p → ev c = some .t := by
  intro p
  fun_induction pathEval ev p <;> simp_all

/-- otherwise the result is the verdict of the first non-true causaloid -/
theorem verdict_first_nontrue (ev : Nat → Option V) : ∀ (l : List Nat) (c : Nat) (r : List Nat),
    (∀ x, x ∈ l → ev x = some .t) → ev c ≠ some .t →
    (pathEval ev (l ++ c :: r)).1 = match ev c with | some .f => .ok false | some .e => .err | _ => .panic := by
  intro l c r hl hc
  rw [pathEval_append ev l _ hl, pathEval]
  match h : ev c with
  | none => rfl
  | some .e => rfl
  | some .f => rfl
  | some .t => exact absurd h hc

/-- the result is the conjunction of the verdicts along the path, stopping at the first false / error -/
theorem verdict_eq_conj (ev : Nat → Option V) (p : List Nat) (r : Res) (h : conjAlong ev p = some r) :
    (pathEval ev p).1 = r := by rw [evaluated_eq_prefix ev p r h]

/-- what the driver demands of the externally chosen path -/
def Admissible (g : CG) (s t : Nat) (path : Option (List Nat)) : Prop :=
  (path = none → ¬ ∃ is c, FW.Walk (weight g) s t is c) ∧
  (∀ p, path = some p → ∃ is c, p = s :: is ++ [t] ∧ FW.Walk (weight g) s t is c)

/-- **errors iff**: the call returns `Err` without having evaluated anything exactly when the graph is empty, an endpoint
    is absent, start = stop, or stop is unreachable from start. (An `Err` *with* evaluations is a causal function's error.) -/
theorem errors_iff (g : CG) (s t : Nat) (data : List Nat) (idx : Option (List (Nat × Nat))) (path : Option (List Nat))
    (hadm : Admissible g s t path) :
    reasonShortest g s t data idx path = (.err, []) ↔
      (nodeCount g = 0 ∨ contains g s = false ∨ contains g t = false ∨ s = t ∨ ¬ ∃ is c, FW.Walk (weight g) s t is c) := by
  unfold reasonShortest
  by_cases h0 : nodeCount g = 0
  · simp [h0]
  by_cases hs : contains g s = true
  · by_cases ht : contains g t = true
    · by_cases hst : s = t
      · simp [h0, ht, hst]
      · simp only [h0, hs, ht, hst, if_false, Bool.not_true, Bool.false_eq_true, false_or]
        cases path with
        | none => simp [hadm.1 rfl]
        | some p =>
          obtain ⟨is, c, hp, hwalk⟩ := hadm.2 p rfl
          have hw : ∃ is c, FW.Walk (weight g) s t is c := ⟨is, c, hwalk⟩
          simp only [hw, not_true_eq_false]
          subst hp
          simp only [List.cons_append, pathEval]
          cases evalAt g data idx s with
          | none => simp
          | some x => cases x <;> simp
    · simp [h0, hs, ht]
  · simp [h0, hs]

theorem get_table (g : CG) (s t : Nat) : (CausalSpec.table g).get s t = FW.dist (weight g) g.upper s t := rfl

/-- the error condition the driver computes (`CausalSpec.spErr`) is the one of `errors_iff` -/
theorem spErr_iff (g : CG) (hw : WF g) (s t : Nat) :
    spErr g (CausalSpec.table g) s t = true ↔
      (nodeCount g = 0 ∨ contains g s = false ∨ contains g t = false ∨ s = t ∨ ¬ ∃ is c, FW.Walk (weight g) s t is c) := by
  have hd := (FW.dist_correct (weight g) g.upper s t (weight_bounded g hw)).2
  have hcs : contains g s = false ↔ ¬ s < g.upper := by
    rw [← hw.idx s]; cases contains g s <;> simp
  have hct : contains g t = false ↔ ¬ t < g.upper := by
    rw [← hw.idx t]; cases contains g t <;> simp
  unfold spErr
  rw [get_table, hcs, hct, ← hd]
  simp only [Bool.or_eq_true, beq_iff_eq, Bool.not_eq_true', decide_eq_false_iff_not, Option.isNone_iff_eq_none, nodeCount]
  constructor
  · rintro ((((h | h) | h) | h) | h) <;> simp [h]
  · rintro (h | h | h | h | h) <;> simp [h]

/-- a path accepted by the driver is a real `s → t` path (`p = s :: intermediates ++ [t]`, every step an edge) whose weight
    is minimal among **all** walks from `s` to `t` — by `FW.checkPath_minimal` (which rests on `FW.dist_correct`) -/
theorem accepted_path_minimal (g : CG) (hw : WF g) (s t : Nat) (p : List Nat)
    (h : isMinPath g (CausalSpec.table g) s t p = true) :
    ∃ is c, p = s :: is ++ [t] ∧ FW.Walk (weight g) s t is c ∧ ∀ is' c', FW.Walk (weight g) s t is' c' → c ≤ c' := by
  unfold isMinPath at h
  cases hc : FW.checkPath (weight g) s t p with
  | none => rw [hc] at h; simp at h
  | some c =>
    rw [hc, get_table] at h
    simp only [beq_iff_eq] at h
    obtain ⟨⟨is, hp, hwalk⟩, hmin⟩ := FW.checkPath_minimal (weight g) g.upper s t (weight_bounded g hw) p c hc h
    exact ⟨is, c, hp, hwalk, hmin⟩

/-- **ties**: two paths the driver accepts for one query have the same total weight — which of several minimum-weight paths
    the external search reports is the only freedom left, and the statement "exactly one minimum-weight path" holds for each -/
theorem accepted_paths_same_weight (g : CG) (hw : WF g) (s t : Nat) (p q : List Nat)
    (hp : isMinPath g (CausalSpec.table g) s t p = true) (hq : isMinPath g (CausalSpec.table g) s t q = true) :
    ∃ is js c, p = s :: is ++ [t] ∧ q = s :: js ++ [t] ∧ FW.Walk (weight g) s t is c ∧ FW.Walk (weight g) s t js c := by
  obtain ⟨is, c, hp1, hp2, hpmin⟩ := accepted_path_minimal g hw s t p hp
  obtain ⟨js, c', hq1, hq2, hqmin⟩ := accepted_path_minimal g hw s t q hq
  have : c = c' := Nat.le_antisymm (hpmin js c' hq2) (hqmin is c hp2)
  subst this
  exact ⟨is, js, c, hp1, hq1, hp2, hq2⟩

theorem accepted_admissible (g : CG) (hw : WF g) (s t : Nat) (path : Option (List Nat))
    (h : pathAccepted g (CausalSpec.table g) s t path = true) : Admissible g s t path := by
  constructor
  · intro hp; subst hp
    simp only [pathAccepted, get_table, Option.isNone_iff_eq_none] at h
    exact ((FW.dist_correct (weight g) g.upper s t (weight_bounded g hw)).2).1 h
  · intro p hp; subst hp
    obtain ⟨is, c, h1, h2, _⟩ := accepted_path_minimal g hw s t p h
    exact ⟨is, c, h1, h2⟩

/-- error side: when the statement's error condition holds, the model answers `Err`, nothing evaluated -/
theorem model_sp_error (ops : List Op) (s t : Nat) (data : List Nat) (idx : Option (List (Nat × Nat)))
    (path : Option (List Nat)) (hacc : pathAccepted (build ops) (CausalSpec.table (build ops)) s t path = true)
    (h : spErr (build ops) (CausalSpec.table (build ops)) s t = true) :
    reasonShortest (build ops) s t data idx path = (.err, []) :=
  (errors_iff _ s t data idx path (accepted_admissible _ (wf_build ops) s t path hacc)).2
    ((spErr_iff _ (wf_build ops) s t).1 h)

/-- success side: otherwise the model evaluates exactly `evalPrefix` of the reported path and answers `conjAlong` -/
theorem model_sp_spec (ops : List Op) (s t : Nat) (data : List Nat) (idx : Option (List (Nat × Nat))) (p : List Nat)
    (h : spErr (build ops) (CausalSpec.table (build ops)) s t = false) (r : Res)
    (hr : conjAlong (verdictAt (build ops) data idx) p = some r) :
    reasonShortest (build ops) s t data idx (some p) = (r, evalPrefix (verdictAt (build ops) data idx) p) := by
  have hw := wf_build ops
  have hev : verdictAt (build ops) data idx = evalAt (build ops) data idx := funext (verdictAt_eq_evalAt _ hw data idx)
  rw [hev] at hr ⊢
  have hne : ¬ (spErr (build ops) (CausalSpec.table (build ops)) s t = true) := by rw [h]; simp
  rw [spErr_iff _ hw] at hne
  simp only [not_or] at hne
  obtain ⟨h0, hs, ht, hst, _⟩ := hne
  have hs' : contains (build ops) s = true := by simpa using hs
  have ht' : contains (build ops) t = true := by simpa using ht
  unfold reasonShortest
  simp only [h0, hs', ht', hst, if_false, Bool.not_true, Bool.false_eq_true]
  exact evaluated_eq_prefix _ p r hr

-- direct edge 0→1 of weight 5 against the chain 0→2→3→1 of weight 3; node 4 off the route
def detour : List Op :=
  [.add ⟨0, .plain⟩, .add ⟨1, .plain⟩, .add ⟨2, .inv⟩, .add ⟨3, .plain⟩, .add ⟨4, .plain⟩,
   .edge 0 1 5, .edge 0 2 1, .edge 2 3 1, .edge 3 1 1, .edge 0 4 0, .edge 4 0 0]

/-- the chain is accepted, the direct edge is not -/
example : isMinPath (build detour) (CausalSpec.table (build detour)) 0 1 [0, 2, 3, 1] = true ∧
    isMinPath (build detour) (CausalSpec.table (build detour)) 0 1 [0, 1] = false ∧
    spErr (build detour) (CausalSpec.table (build detour)) 0 1 = false ∧
    spErr (build detour) (CausalSpec.table (build detour)) 1 0 = true := by decide

example : ∃ is c, [0, 2, 3, 1] = 0 :: is ++ [1] ∧ FW.Walk (weight (build detour)) 0 1 is c ∧
    ∀ is' c', FW.Walk (weight (build detour)) 0 1 is' c' → c ≤ c' :=
  accepted_path_minimal _ (wf_build detour) 0 1 _ (by decide)

example : reasonShortest (build detour) 0 1 [0, 3, 7, 10, 14] none (some [0, 2, 3, 1]) =
    (.ok false, evalPrefix (verdictAt (build detour) [0, 3, 7, 10, 14] none) [0, 2, 3, 1]) :=
  model_sp_spec detour 0 1 _ none _ (by decide) _ (by decide)

/-- node 3 false: evaluated 0, 2, 3 — not 1 (behind the false one), not 4 (off the path, although it errs) -/
example : reasonShortest (build detour) 0 1 [0, 3, 7, 10, 14] none (some [0, 2, 3, 1]) = (.ok false, [0, 2, 3]) := by decide

end C10
