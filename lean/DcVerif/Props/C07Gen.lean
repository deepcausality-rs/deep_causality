import DcVerif.Lemmas.Window
/-!
# C07, the tie to the source: what the *generated* storage functions do on a state that represents a history

`Gen/Window.lean` is regenerated from `dcl_data_structures/src/window_type/**` on every check run
(`tools/rs2lean_window.py`). The theorems below are about those generated definitions, for every state that satisfies
the representation invariant `Inv n c w xs` ("`w` is a window of size `n` in `c` cells after the pushes `xs`"), for every
element type and element size `tsz`:

* every `push` returns normally (no `.panic`, no `.ub`) with the canonical next state `next n c w xs v`
  (today's safe vector storage only while it has room: defect F1);
* every accessor returns the specification's answer for the history `xs`.

They are proved by case analysis over the generated decision trees (`grind`), not by matching their text, so
that a rewrite of the Rust code that keeps the behaviour on represented states keeps them provable.
`Props/C07.lean` lifts them to all histories.
-/
namespace C07
open Spec.Window Model.Window Lemmas.Window Gen.Window

variable {α : Type}

/-- `get_slice` of the storage a `SlidingWindow` of kind `k` holds (not reachable through `SlidingWindow` itself) -/
def getSlice (k : Kind) (w : St α) : Out (List α) :=
  match k with
  | .arr => arrGetSlice w
  | .vec => vecGetSlice w
  | .uarr => uarrGetSlice w
  | .uvec => uvecGetSlice w
  | .vecFixed => vecFixedGetSlice w

/-! ## push

Stated about the dispatch `push k tsz`, i.e. about the *result* of the generated function on a represented state,
whatever the decision tree that computes it looks like (how the rewind computes its source index, in how many copies
it moves the window, whether `head` is updated by a branch, a saturating difference or a cast flag). -/

theorem gen_push_arr {n c : Nat} (tsz : Nat) (w : St α) (xs : List α) (v : α) (h : Inv n c w xs) :
    push .arr tsz w v = .ok (next n c w xs v) := by
  have ⟨hsz, hcp, h1, h2, h3, h4, h5, h6, h7⟩ := h
  have hf := inv_full_of_tail_cap h
  simp only [Gen.Window.push, arrPush, next, appended, rewound]
  grind [memmove_length]

theorem gen_push_uarr {n c : Nat} (tsz : Nat) (w : St α) (xs : List α) (v : α) (h : Inv n c w xs) :
    push .uarr tsz w v = .ok (next n c w xs v) := by
  have ⟨hsz, hcp, h1, h2, h3, h4, h5, h6, h7⟩ := h
  have hf := inv_full_of_tail_cap h
  simp only [Gen.Window.push, uarrPush, next, appended, rewound]
  grind [memmove_length]

/-- `UnsafeVectorStorage::push` rewinds with `copy_nonoverlapping` of `size` cells from `head = capacity - size` to 0, which is
undefined behaviour when the two ranges overlap: hence `2 * n ≤ c`; the other storages rewind with `copy_within` / `ptr::copy` -/
theorem gen_push_uvec {n c : Nat} (tsz : Nat) (w : St α) (xs : List α) (v : α) (h : Inv n c w xs) (h2n : 2 * n ≤ c) :
    push .uvec tsz w v = .ok (next n c w xs v) := by
  have ⟨hsz, hcp, h1, h2, h3, h4, h5, h6, h7⟩ := h
  have hf := inv_full_of_tail_cap h
  simp only [Gen.Window.push, uvecPush, next, appended, rewound]
  grind [memmove_length]

theorem gen_push_vecFixed {n c : Nat} (tsz : Nat) (w : St α) (xs : List α) (v : α) (h : Inv n c w xs) :
    push .vecFixed tsz w v = .ok (next n c w xs v) := by
  have ⟨hsz, hcp, h1, h2, h3, h4, h5, h6, h7⟩ := h
  have hf := inv_full_of_tail_cap h
  simp only [Gen.Window.push, vecFixedPush, next, appended, rewound]
  grind [memmove_length]

/-- today's safe vector storage agrees with the others as long as its fast path is taken -/
theorem gen_push_vec_room {n c : Nat} (tsz : Nat) (w : St α) (xs : List α) (v : α) (h : Inv n c w xs)
    (hroom : w.tail < c) :
    push .vec tsz w v = .ok (next n c w xs v) := by
  have ⟨hsz, hcp, h1, h2, h3, h4, h5, h6, h7⟩ := h
  simp only [Gen.Window.push, vecPush, next, appended, rewound]
  grind [memmove_length]

/-! ## the accessors, for every storage kind

Every proof has the same shape: take from the invariant what it says about the cells the accessor looks at, unfold *all*
generated accessors (whatever they call among themselves) and the specification's answer, and let `grind` walk what is left of
the decision tree. -/

section
variable {n c : Nat} {w : St α} {xs : List α}

/-! ### the required methods of `trait WindowStorage`

Only names that exist for *every* source the translator accepts are unfolded: the dispatch and, per storage, the methods of
the trait (all of them: a required method may be written through a default one). Private helpers of a storage (`rewind`, an inherent `filled`, whatever a refactoring extracts) are inlined by the
translator at their call sites, so no theorem has to know their names, and whether a function takes `tsz` (it does when its
body reaches `size_of::<T>()`) is invisible here because every statement is about the dispatch, which always does. -/
section
attribute [local simp] Gen.Window.first Gen.Window.last Gen.Window.size Gen.Window.filled getSlice
  arrFirst arrLast arrTail arrSize arrGetSlice arrFilled arrEmpty arrArr arrSlice arrVec
  vecFirst vecLast vecTail vecSize vecGetSlice vecFilled vecEmpty vecArr vecSlice vecVec
  uarrFirst uarrLast uarrTail uarrSize uarrGetSlice uarrFilled uarrEmpty uarrArr uarrSlice uarrVec
  uvecFirst uvecLast uvecTail uvecSize uvecGetSlice uvecFilled uvecEmpty uvecArr uvecSlice uvecVec
  vecFixedFirst vecFixedLast vecFixedTail vecFixedSize vecFixedGetSlice vecFixedFilled vecFixedEmpty vecFixedArr
  vecFixedSlice vecFixedVec Spec.Window.filled Spec.Window.first Spec.Window.last Model.Window.ofSpec

theorem gen_size (k : Kind) (tsz : Nat) (h : Inv n c w xs) : size k tsz w = .ok n := by
  cases k <;> simp [h.sz]

theorem gen_filled (k : Kind) (tsz : Nat) (h : Inv n c w xs) : filled k tsz w = .ok (Spec.Window.filled n xs) := by
  obtain ⟨hsz, -, -, hht, hw⟩ := inv_bounds h
  have hge := inv_tail_ge h
  cases k <;> simp <;> grind

theorem gen_first (k : Kind) (tsz : Nat) (h : Inv n c w xs) : first k tsz w = ofSpec (Spec.Window.first n xs) := by
  have h0 := inv_tail_zero h
  have hhd := inv_head h
  have hl := lastN_length n xs
  cases k <;> simp <;> grind

theorem gen_last (k : Kind) (tsz : Nat) (h : Inv n c w xs) : last k tsz w = ofSpec (Spec.Window.last n xs) := by
  obtain ⟨hsz, -, -, hht, hw⟩ := inv_bounds h
  have hge := inv_tail_ge h
  have hnw := inv_newest h
  cases k <;> simp <;> grind

theorem gen_getSlice (k : Kind) (h : Inv n c w xs) : getSlice k w = .ok (lastN n xs) := by
  obtain ⟨hsz, hlen, htc, hht, hw⟩ := inv_bounds h
  rw [← h.vw]
  cases k <;> simp <;> grind
end

/-! ### the default methods of the trait (`slice`, `vec`, `arr`, … through the required `filled` / `get_slice`; `empty` reads `tail`) -/
section
attribute [local simp] Gen.Window.empty Gen.Window.slice Gen.Window.vec Gen.Window.arr
  arrTail arrEmpty arrArr arrSlice arrVec vecTail vecEmpty vecArr vecSlice vecVec uarrTail uarrEmpty uarrArr uarrSlice uarrVec
  uvecTail uvecEmpty uvecArr uvecSlice uvecVec vecFixedTail vecFixedEmpty vecFixedArr vecFixedSlice vecFixedVec
  Spec.Window.empty Spec.Window.filled Spec.Window.view Model.Window.ofSpec

theorem gen_empty (k : Kind) (tsz : Nat) (h : Inv n c w xs) : empty k tsz w = .ok (Spec.Window.empty xs) := by
  have h0 := inv_tail_zero h
  cases k <;> simp <;> grind

theorem gen_slice (k : Kind) (tsz : Nat) (h : Inv n c w xs) : slice k tsz w = ofSpec (Spec.Window.view n xs) := by
  have hf := gen_filled k tsz h
  have hg := gen_getSlice k h
  cases k <;> simp only [Gen.Window.filled, getSlice] at hf hg <;> simp [hf, hg] <;> grind

theorem gen_vec (k : Kind) (tsz : Nat) (h : Inv n c w xs) : vec k tsz w = ofSpec (Spec.Window.view n xs) := by
  have hf := gen_filled k tsz h
  have hg := gen_getSlice k h
  cases k <;> simp only [Gen.Window.filled, getSlice] at hf hg <;> simp [hf, hg] <;> grind

/-- `arr::<s>()` for any width `s`: too narrow panics, wider pads with the default value -/
theorem gen_arr_width (k : Kind) (tsz : Nat) (h : Inv n c w xs) (s : Nat) (d : α) :
    arr k tsz w s d = if n ≤ xs.length then (if s < n then .panic else .ok (lastN n xs ++ List.replicate (s - n) d))
                      else .err := by
  have hs := gen_size k tsz h
  have hf := gen_filled k tsz h
  have hg := gen_getSlice k h
  have hge := inv_tail_ge h
  have hl := lastN_length n xs
  cases k <;> simp only [Gen.Window.size, Gen.Window.filled, getSlice] at hs hf hg <;> simp [hs, hf, hg] <;> grind
end

theorem gen_arr (k : Kind) (tsz : Nat) (h : Inv n c w xs) (d : α) :
    arr k tsz w w.size d = ofSpec (Spec.Window.view n xs) := by
  rw [gen_arr_width k tsz h, h.sz]
  unfold Spec.Window.view
  by_cases hf : n ≤ xs.length <;> simp [hf, ofSpec]

theorem gen_observe (k : Kind) (tsz : Nat) (h : Inv n c w xs) (d : α) :
    observe k tsz w d = Obs.ofSpec (Spec.Window.observe n xs) := by
  unfold Model.Window.observe Obs.ofSpec Spec.Window.observe
  simp only [gen_size k tsz h, gen_empty k tsz h, gen_filled k tsz h, gen_first k tsz h, gen_last k tsz h,
    gen_slice k tsz h, gen_vec k tsz h, gen_arr k tsz h d]
end

end C07
