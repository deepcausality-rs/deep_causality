import DcVerif.Gen.SpinWait
import DcVerif.Model.Ring
/-!
# What a handler waits for, tied to the source (C13, C04; used by every ring property)

`Gen/SpinWait.lean` is regenerated on every run by `tools/rs2lean_spinwait.py` from `utils/cursor_sequence.rs`
(`get_min_cursor_sequence`) and `wait_strategy/spinlock_wait_strategy.rs` (`wait_for`: one pass of the loop as a decision tree).
The consumer of `Model/Ring.lean` (shared by `RingMulti`) does the same thing in its program-counter form: `waitLoad` loads the
dependencies one by one into a running minimum, `checkAvail` compares it with the wanted sequence, `checkAlert` reads `is_done`.
Here: the running minimum is `get_min_cursor_sequence` of the observed values, and the two decisions are `spin_step`.
-/
namespace C13WaitGen
open Gen.SpinWait Ring

/-- the model's running minimum (`minOpt` folded over the observed values) is the generated `get_min_cursor_sequence` -/
theorem foldl_minOpt (vals : List Nat) (a : Option Nat) :
    (vals.foldl minOpt a) = match a with
      | none => vals.min?
      | some m => some (vals.foldl Nat.min m) := by
  induction vals generalizing a with
  | nil => cases a <;> rfl
  | cons v vs ih =>
    cases a with
    | none => simp only [List.foldl_cons, minOpt, ih, List.min?_cons']
    | some m => simp only [List.foldl_cons, minOpt, ih]

theorem min_fold_eq (vals : List Nat) : (vals.foldl minOpt none).getD 0 = get_min_cursor_sequence vals := by
  simp [foldl_minOpt, get_min_cursor_sequence]

/-- **one pass of the generated loop, in closed form** — whatever way round the source tests things: enough ⇒ `Some(available)`,
not enough and alerted ⇒ `None`, otherwise another pass -/
theorem spin_step_spec (sq av : Nat) (al : Bool) :
    spin_step sq av al = if av ≥ sq then some (some av) else if al then some none else none := by
  unfold spin_step
  by_cases h : av ≥ sq <;> cases al <;> simp [h] <;> omega

/-- the generated `wait_for` never returns a value below the wanted sequence, and what it returns is the minimum it observed in
its last pass -/
theorem spin_wait_for_sound (sq : Nat) (obs : Nat → List Nat) (alert : Nat → Bool) :
    ∀ fuel it a, spin_wait_for sq obs alert fuel it = some (some a) →
      a ≥ sq ∧ ∃ it', it ≤ it' ∧ a = get_min_cursor_sequence (obs it') := by
  intro fuel
  induction fuel with
  | zero => intro it a h; simp [spin_wait_for] at h
  | succ fuel ih =>
    intro it a h
    simp only [spin_wait_for, spin_step_spec] at h
    by_cases h1 : get_min_cursor_sequence (obs it) ≥ sq
    · simp only [h1, if_true, Option.some.injEq] at h
      subst h
      exact ⟨h1, it, Nat.le_refl it, rfl⟩
    · simp only [h1, if_false] at h
      cases hal : alert it
      · simp only [hal, Bool.false_eq_true, if_false] at h
        obtain ⟨h2, it', hle, h3⟩ := ih (it + 1) a h
        exact ⟨h2, it', by omega, h3⟩
      · simp [hal] at h

/-- **the model's consumer takes the generated decision** (spin strategy): from `checkAvail`, with the running minimum in `avail`
and the wanted sequence in `next`, the next one or two steps of `stepCons` go where `spin_step` says — to `handle` with the batch
starting at `next`, to `done` when alerted, back to a fresh round of loads otherwise -/
theorem model_spin_step (s : St) (hb : s.blocking = false) (k j : Nat) (c : Cons) (hpc : c.pc = .checkAvail) :
    match spin_step c.next c.avail s.isDone with
    | some (some a) => a = c.avail ∧ stepCons s k j c = { c with pc := .handle, i := c.next }
    | some none => stepCons s k j (stepCons s k j c) = { c with pc := .done }
    | none => stepCons s k j (stepCons s k j c) = { c with pc := .waitLoad, acc := none, idx := 0 } := by
  rw [spin_step_spec]
  by_cases h : c.avail ≥ c.next
  · simp [h, stepCons, hpc, hb]
  · cases hd : s.isDone <;> simp [h, hd, stepCons, hpc, hb]

/-- the loads: at `waitLoad` the model folds the next dependency into the running minimum, and leaves with `avail` = the minimum
so far (0 when there is no dependency) — together with `min_fold_eq`: `avail = get_min_cursor_sequence` of the values it loaded -/
theorem model_waitLoad (s : St) (k j : Nat) (c : Cons) (hpc : c.pc = .waitLoad) :
    stepCons s k j c =
      if c.idx < ndeps s k then { c with acc := minOpt c.acc (dep s k c.idx), idx := c.idx + 1 }
      else { c with avail := c.acc.getD 0, pc := .checkAvail } := by
  simp [stepCons, hpc]

def iter {α : Type} (f : α → α) : Nat → α → α
  | 0, a => a
  | n + 1, a => iter f n (f a)

/-- a whole round of loads in a state whose cursors do not move meanwhile: `avail` ends as `get_min_cursor_sequence` of the
dependencies' values, in dependency order (the interleaved case is the same fold over the values observed at each load) -/
theorem model_round_frozen (s : St) (k j : Nat) :
    ∀ (n : Nat) (c : Cons), c.pc = .waitLoad → c.idx + n = ndeps s k →
      ∃ c', iter (stepCons s k j) (n + 1) c = c' ∧ c'.pc = .checkAvail ∧
        c'.avail = (((List.range n).map (fun d => dep s k (c.idx + d))).foldl minOpt c.acc).getD 0 := by
  intro n
  induction n with
  | zero =>
    intro c hpc hn
    refine ⟨_, rfl, ?_, ?_⟩ <;> simp [iter, model_waitLoad s k j c hpc, show ¬ c.idx < ndeps s k by omega]
  | succ n ih =>
    intro c hpc hn
    have hlt : c.idx < ndeps s k := by omega
    have hstep := model_waitLoad s k j c hpc
    simp only [hlt, if_true] at hstep
    obtain ⟨c', h1, h2, h3⟩ := ih { c with acc := minOpt c.acc (dep s k c.idx), idx := c.idx + 1 } hpc (by simp; omega)
    refine ⟨c', ?_, h2, ?_⟩
    · rw [iter, hstep]; exact h1
    · rw [h3]
      simp only [List.range_succ_eq_map, List.map_cons, List.foldl_cons, List.map_map, Nat.add_zero]
      congr 2
      apply List.map_congr_left
      intro d _
      simp only [Function.comp_apply]
      congr 1
      omega

example : spin_step 5 7 false = some (some 7) ∧ spin_step 5 3 true = some none ∧ spin_step 5 3 false = none ∧
    get_min_cursor_sequence [9, 4, 6] = 4 ∧ get_min_cursor_sequence [] = 0 := by decide

/-- **one pass of the generated blocking loop, in closed form**: the alert is read first, under the lock; the decision and the
operations performed, in program order -/
theorem block_step_spec (sq av : Nat) (al : Bool) :
    block_step sq av al =
      if al then (some none, [.lock, .alert, .unlock])
      else if av ≥ sq then (some (some av), [.lock, .alert, .loads, .unlock])
      else (none, [.lock, .alert, .loads, .wait, .unlock]) := by
  unfold block_step
  by_cases h : av ≥ sq <;> cases al <;> simp [h] <;> omega

theorem block_signal_spec : block_signal = [.lock, .notify, .unlock] := by decide

/-- the operation a consumer program counter of `Model/Ring.lean` stands for (`none`: an internal step; `bRelock` is the second half
of the condvar wait — the re-acquisition of the mutex) -/
def pcOp : CPc → Option Op
  | .bLock => some .lock
  | .bAlert => some .alert
  | .waitLoad => some .loads
  | .bWait => some .wait
  | .bUnlockGo | .bUnlockRetry | .bUnlockExit => some .unlock
  | .sLock => some .lock
  | .sNotify => some .notify
  | .sUnlock => some .unlock
  | _ => none

/-- consecutive duplicates removed (a round of loads is several `waitLoad` steps) -/
def squash : List Op → List Op
  | a :: b :: r => if a = b then squash (b :: r) else a :: squash (b :: r)
  | l => l

def opsOf (pcs : List CPc) : List Op := squash (pcs.filterMap pcOp)

/-- **the model's blocking consumer takes the generated decisions, in the generated order**: under the blocking strategy, from
`bLock` (mutex free) the model goes to `bAlert`; there `is_done` decides between the exit path and a round of loads; after the
loads `checkAvail` decides between `bUnlockGo → handle` and `bWait → bRelock → bUnlockRetry → bLock` -/
theorem model_block_edges (s : St) (hb : s.blocking = true) (k j : Nat) (c : Cons) :
    (c.pc = .bLock → s.mtx = none → (stepCons s k j c).pc = .bAlert) ∧
    (c.pc = .bAlert → (stepCons s k j c).pc = if s.isDone then .bUnlockExit else .waitLoad) ∧
    (c.pc = .waitLoad → (stepCons s k j c).pc = if c.idx < ndeps s k then .waitLoad else .checkAvail) ∧
    (c.pc = .checkAvail → (stepCons s k j c).pc = if c.avail ≥ c.next then .bUnlockGo else .bWait) ∧
    (c.pc = .bUnlockGo → (stepCons s k j c).pc = .handle) ∧
    (c.pc = .bWait → (stepCons s k j c).pc = .bRelock) ∧
    (c.pc = .bRelock → s.woken k j = true → s.mtx = none → (stepCons s k j c).pc = .bUnlockRetry) ∧
    (c.pc = .bUnlockRetry → (stepCons s k j c).pc = .bLock) ∧
    (c.pc = .bUnlockExit → (stepCons s k j c).pc = .done) := by
  refine ⟨?_, ?_, ?_, ?_, ?_, ?_, ?_, ?_, ?_⟩ <;> intro h <;> (try intro h2) <;> (try intro h3) <;>
    simp [stepCons, h, hb, *] <;> split <;> simp_all

/-- the three ways through one pass of the model, as program-counter paths -/
def pathAlerted : List CPc := [.bLock, .bAlert, .bUnlockExit]
def pathEnough : List CPc := [.bLock, .bAlert, .waitLoad, .waitLoad, .checkAvail, .bUnlockGo]
def pathWait : List CPc := [.bLock, .bAlert, .waitLoad, .waitLoad, .checkAvail, .bWait, .bRelock, .bUnlockRetry]
def pathSignal : List CPc := [.sLock, .sNotify, .sUnlock]

/-- **the operations along the model's paths are the generated operation lists** (whatever the wanted sequence and the observed
minimum): alerted, enough, wait again; and `signal` -/
theorem model_paths_spell_generated (sq av : Nat) :
    opsOf pathAlerted = (block_step sq av true).2 ∧
    (av ≥ sq → opsOf pathEnough = (block_step sq av false).2) ∧
    (¬ av ≥ sq → opsOf pathWait = (block_step sq av false).2) ∧
    opsOf pathSignal = block_signal := by
  have ha : opsOf pathAlerted = [.lock, .alert, .unlock] := by decide
  have he : opsOf pathEnough = [.lock, .alert, .loads, .unlock] := by decide
  have hw : opsOf pathWait = [.lock, .alert, .loads, .wait, .unlock] := by decide
  have hs : opsOf pathSignal = [.lock, .notify, .unlock] := by decide
  refine ⟨?_, ?_, ?_, ?_⟩
  · rw [block_step_spec, ha]; rfl
  · intro h; rw [block_step_spec, he]; simp only [Bool.false_eq_true, if_false, h, if_true]
  · intro h; rw [block_step_spec, hw]; simp only [Bool.false_eq_true, if_false, h]
  · rw [block_signal_spec, hs]

example : block_step 5 7 false = (some (some 7), [.lock, .alert, .loads, .unlock]) ∧
    block_step 5 3 false = (none, [.lock, .alert, .loads, .wait, .unlock]) ∧ (block_step 5 9 true).1 = some none := by decide

end C13WaitGen
