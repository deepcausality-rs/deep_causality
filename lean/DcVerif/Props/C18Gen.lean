import DcVerif.Gen.Collections
import DcVerif.Props.C18
/-!
# C18, tie to the source: what the translator read = the hand model

`Gen/Collections.lean` is regenerated on every run from the current Rust source of the default methods
(`tools/rs2lean_collections.py`). Every theorem `…_eq` below says that one generated definition equals the
corresponding function of `Model/Reasoning.lean` **for all inputs**: every member type `ι`, every reader dictionary
`T` (the trait's required methods), every `KeyOps` (whatever `total_cmp`, `approx_equal`, `>=`, `>`, `==` answer on
member values), every collection content. Hence every theorem of `Props/C18.lean` is a statement about what the
translator read; the corollaries `c18gen_*` at the end spell the headline laws out on the generated definitions.

The model's vocabulary is kept: `cmp := K.total_cmp`, `approx a b := K.approx_equal a b 4` (the literal `4` is
read from the source: a different number of decimals breaks `is_inferable_eq`), `ge := K.ge`, `eq := K.eq`; a member
is viewed as the model's record through `toInf T` / `toObs T` / `toModel`.

`len()` and `get_all_items()` are separate required methods; where a default method uses `len()` the equality needs
`c.len = c.get_all_items.length` (hypothesis `hlen`; the containers' own `len`, `Model.Collections.len`).

The proofs go through `List` congruence + Boolean case analysis, so that source changes which keep the meaning
(operand order of `&&`, double negations, `let`s, `for`-loop vs `.all(..)`) do not break them.
-/
set_option linter.unusedSimpArgs false   -- the simp sets cover spellings the current source does not use
set_option linter.unusedVariables false

namespace C18Gen
open Spec.Reasoning Model.Reasoning Gen.Collections

variable {ι κ δ : Type}

/-- the model's 4-decimal comparison, with the number of decimals the source passes -/
def approx4 (K : KeyOps κ) : κ → κ → Bool := fun a b => K.approx_equal a b 4

/-- a member of an `Inferable` collection as the model's record -/
def toInf (T : InferableDict ι κ) (x : ι) : Inference κ := ⟨T.observation x, T.threshold x, T.effect x, T.target x⟩
/-- a member of an `Observable` collection as the model's record -/
def toObs (T : ObservableDict ι κ) (x : ι) : Observation κ := ⟨T.observation x, T.observed_effect x⟩
/-- the generated `Assumption` as the model's -/
def toModel (a : Gen.Collections.Assumption δ) : Model.Reasoning.Assumption δ :=
  { fn := a.assumption_fn, flags := ⟨a.assumption_tested, a.assumption_valid⟩ }
def ofModel (m : Model.Reasoning.Assumption δ) : Gen.Collections.Assumption δ :=
  { assumption_fn := m.fn, assumption_tested := m.flags.tested, assumption_valid := m.flags.valid }

/-! Every accepted *shape* of an aggregate, through a view.
The generated text of an aggregate depends on how the source spells it. Each lemma below covers one shape and is
stated through a view `f : ι → β` of the members (`l' = l.map f`; `f = id`, `l' = l` for the assumptions) and a
*pointwise* hypothesis that relates what the generated code does with one member to the model's member predicate
`q`. The theorems that unfold a generated aggregate (`…_eq` of the assumptions, `…_dispatch`) try the shapes in turn
(`first`), the pointwise goals are closed by Boolean / arithmetic case analysis over the atoms — so renamed closure
parameters, operand order, double negations, `if`/`match`/early return inside a predicate, and the choice between the
shapes do not matter. The other `…_eq` read a `…_dispatch` form through the view of the members.

* all / any:    `.all(p)`, `for … { if !p { return false } } true`, `!….any(!p)`, `fold(true, |b, x| b && p)`,
                `let mut ok = true; for … { if !p { ok = false } } ok`, `filter(!p).count() == 0`, `filter(!p)…is_empty()`
* count:        `filter(p).count()`, `filter(p).collect().len()`, `fold(0, |n, x| n + usize::from(p))`,
                `let mut n = 0; for … { if p { n += 1 } } n`, `map(|x| usize::from(p)).sum()`, a float accumulator
* filter:       `filter(p).collect()`, `let mut v = items; v.retain(p); v`, `filter_map(|x| p.then_some(x))`,
                `let mut out = Vec::new(); for x in … { if p { out.push(x) } } out`
-/

section Shapes
variable {α β : Type} (f : α → β) (q : β → Bool) (l : List α) (l' : List β) (hl : l' = l.map f)
include hl

theorem filter_shape (p : α → Bool) (h : ∀ x, p x = q (f x)) : (l.filter p).map f = l'.filter q := by
  subst hl; simp [List.filter_map, Function.comp_def, ← h]

theorem filterMap_shape (g : α → Option α) (h : ∀ x, g x = if q (f x) then some x else none) :
    (l.filterMap g).map f = l'.filter q := by
  subst hl
  have : g = Option.guard (fun x => q (f x)) := funext fun x => by rw [h]; rfl
  rw [this, List.filterMap_eq_filter, List.filter_map]; rfl

theorem foldl_push_aux (g : List α → α → List α) (h : ∀ acc x, g acc x = if q (f x) then acc ++ [x] else acc)
    (acc : List α) : (l.foldl g acc).map f = acc.map f ++ l'.filter q := by
  subst hl
  induction l generalizing acc with
  | nil => simp
  | cons a r ih =>
    rw [List.foldl_cons, ih, h]
    cases hq : q (f a) <;> simp [hq]

theorem foldl_push_shape (g : List α → α → List α) (h : ∀ acc x, g acc x = if q (f x) then acc ++ [x] else acc) :
    (l.foldl g []).map f = l'.filter q := by
  simpa using foldl_push_aux f q l l' hl g h []

theorem count_shape (p : α → Bool) (h : ∀ x, p x = q (f x)) : (l.filter p).length = (l'.filter q).length := by
  rw [← filter_shape f q l l' hl p h, List.length_map]

theorem foldl_count_aux (g : Nat → α → Nat) (h : ∀ n x, g n x = n + (if q (f x) then 1 else 0)) (k : Nat) :
    l.foldl g k = k + (l'.filter q).length := by
  subst hl
  induction l generalizing k with
  | nil => simp
  | cons a r ih =>
    rw [List.foldl_cons, ih, h]
    cases hq : q (f a) <;> simp [hq] <;> omega

theorem foldl_count_shape (g : Nat → α → Nat) (h : ∀ n x, g n x = n + (if q (f x) then 1 else 0)) :
    l.foldl g 0 = (l'.filter q).length := by
  simpa using foldl_count_aux f q l l' hl g h 0

theorem sum_count_shape (g : α → Nat) (h : ∀ x, g x = if q (f x) then 1 else 0) :
    (l.map g).sum = (l'.filter q).length := by
  subst hl
  induction l with
  | nil => rfl
  | cons a r ih =>
    simp only [List.map_cons, List.sum_cons, List.filter_cons, ih, h a]
    cases q (f a) <;> simp <;> omega

/-- a float accumulator (`fold(0.0, |n, x| if p { n + 1.0 } else { n })`), exact in the rational model -/
theorem foldl_ratcount_aux (g : Rat → α → Rat) (h : ∀ r x, g r x = r + (if q (f x) then 1 else 0)) (k : Rat) :
    l.foldl g k = k + (((l'.filter q).length : Nat) : Rat) := by
  subst hl
  induction l generalizing k with
  | nil => simp only [List.foldl_nil, List.map_nil, List.filter_nil, List.length_nil]; grind
  | cons a r ih =>
    rw [List.foldl_cons, ih, h]
    cases hq : q (f a) <;> simp [hq] <;> grind

theorem foldl_ratcount_shape (g : Rat → α → Rat) (h : ∀ r x, g r x = r + (if q (f x) then 1 else 0)) :
    l.foldl g 0 = (((l'.filter q).length : Nat) : Rat) := by
  have := foldl_ratcount_aux f q l l' hl g h 0
  grind

theorem all_shape (p : α → Bool) (h : ∀ x, p x = q (f x)) : l.all p = l'.all q := by
  subst hl; simp [List.all_map, Function.comp_def, ← h]

theorem any_shape (p : α → Bool) (h : ∀ x, p x = q (f x)) : l.any p = l'.any q := by
  subst hl; simp [List.any_map, Function.comp_def, ← h]

theorem not_any_shape (p : α → Bool) (h : ∀ x, p x = !q (f x)) : (!l.any p) = l'.all q := by
  subst hl; simp [List.all_map, Function.comp_def, h, List.not_any_eq_all_not]

theorem not_all_shape (p : α → Bool) (h : ∀ x, p x = !q (f x)) : (!l.all p) = l'.any q := by
  subst hl; simp [List.any_map, Function.comp_def, h, List.not_all_eq_any_not]

theorem foldl_all_aux (g : Bool → α → Bool) (h : ∀ b x, g b x = (b && q (f x))) (b : Bool) :
    l.foldl g b = (b && l'.all q) := by
  subst hl
  induction l generalizing b with
  | nil => simp
  | cons a r ih => rw [List.foldl_cons, ih, h]; simp [Bool.and_assoc]

theorem foldl_all_shape (g : Bool → α → Bool) (h : ∀ b x, g b x = (b && q (f x))) : l.foldl g true = l'.all q := by
  simpa using foldl_all_aux f q l l' hl g h true

theorem foldl_any_aux (g : Bool → α → Bool) (h : ∀ b x, g b x = (b || q (f x))) (b : Bool) :
    l.foldl g b = (b || l'.any q) := by
  subst hl
  induction l generalizing b with
  | nil => simp
  | cons a r ih => rw [List.foldl_cons, ih, h]; simp [Bool.or_assoc]

theorem foldl_any_shape (g : Bool → α → Bool) (h : ∀ b x, g b x = (b || q (f x))) : l.foldl g false = l'.any q := by
  simpa using foldl_any_aux f q l l' hl g h false

/-- "no member fails": `filter(|x| !p(x)).count() == 0` -/
theorem count_zero_all_shape (p : α → Bool) (h : ∀ x, p x = !q (f x)) :
    decide ((l.filter p).length = 0) = l'.all q := by
  subst hl; rw [Bool.eq_iff_iff]; simp [List.filter_eq_nil_iff, h]

/-- "no member fails": `filter(|x| !p(x))….is_empty()` -/
theorem isEmpty_all_shape (p : α → Bool) (h : ∀ x, p x = !q (f x)) : (l.filter p).isEmpty = l'.all q := by
  rw [← count_zero_all_shape f q l l' hl p h]
  cases l.filter p <;> simp

/-- "some member satisfies": `filter(p).count() > 0` / `!filter(p)….is_empty()` -/
theorem count_pos_any_shape (p : α → Bool) (h : ∀ x, p x = q (f x)) :
    decide ((l.filter p).length > 0) = l'.any q := by
  subst hl; rw [Bool.eq_iff_iff]; simp [List.length_pos_iff, List.filter_eq_nil_iff, h]

end Shapes

/-- the identity view (assumptions are their own records) -/
theorem via_id {α : Type} (a b : List α) (h : a.map id = b) : a = b := by simpa using h

/-- a pointwise goal: the two sides are Boolean (or 0/1-valued) combinations of the same atoms. `rfl` when the source spells
the predicate as the model does; otherwise `grind` decides it by cases on the atoms, whatever the operand order and whether
the source writes `&&`, `if`, `match` or `==` -/
macro "bool_atoms" : tactic => `(tactic| first | rfl | grind)

/-- one shape lemma, for an aggregate over the members themselves (identity view); its pointwise hypothesis is for `bool_atoms` -/
macro "shape " h:ident : tactic =>
  `(tactic| exact $h id _ _ _ (List.map_id _).symm _ (by intros; bool_atoms))

/-- `⊢ GEN = l.all q`, `GEN` any accepted spelling of "every member satisfies …" -/
macro "all_shapes" : tactic =>
  `(tactic| first
    | shape all_shape | shape not_any_shape | shape foldl_all_shape | shape count_zero_all_shape | shape isEmpty_all_shape)

/-- `⊢ GEN = l.any q` -/
macro "any_shapes" : tactic =>
  `(tactic| first | shape any_shape | shape not_all_shape | shape foldl_any_shape | shape count_pos_any_shape)

/-- `⊢ GEN = l.filter q` -/
macro "filter_shapes" : tactic =>
  `(tactic| (refine via_id _ _ ?_; first | shape filter_shape | shape filterMap_shape | shape foldl_push_shape))

/-- `⊢ ((GEN : Nat) : Rat) = (((l.filter q).length : Nat) : Rat)`, `GEN` a count in `usize` or a float accumulator -/
macro "count_shapes" : tactic =>
  `(tactic| first
    | (refine congrArg Nat.cast ?_; first | shape count_shape | shape foldl_count_shape | shape sum_count_shape)
    | shape foldl_ratcount_shape)

theorem abs_num_eq (v : Rat) : abs_num v = absNum v := by
  unfold abs_num absNum
  simp only [ZERO, MINUS_ONE, num_partial_cmp]
  bool_atoms

/-- the two views of an assumption are inverse to each other: quantifying over generated assumptions is quantifying
over the model's -/
theorem assumption_views (a : Gen.Collections.Assumption δ) (m : Model.Reasoning.Assumption δ) :
    ofModel (toModel a) = a ∧ toModel (ofModel m) = m := ⟨rfl, rfl⟩

theorem assumption_new_eq (fn : δ → Bool) : toModel (Gen.Collections.Assumption.new fn) = { fn := fn } := rfl

theorem assumption_tested_eq (a : Gen.Collections.Assumption δ) :
    AssumptionImpl.assumption_tested a = (toModel a).flags.tested := rfl

theorem assumption_valid_eq (a : Gen.Collections.Assumption δ) :
    AssumptionImpl.assumption_valid a = (toModel a).flags.valid := rfl

/-- `verify_assumption`: the same stores in the same cells, the same answer -/
theorem verify_assumption_eq (a : Gen.Collections.Assumption δ) (d : δ) :
    toModel (AssumptionImpl.verify_assumption a d).1 = ((toModel a).verify d).1 ∧
    (AssumptionImpl.verify_assumption a d).2 = ((toModel a).verify d).2 := by
  cases h : a.assumption_fn d <;> simp [AssumptionImpl.verify_assumption, Model.Reasoning.Assumption.verify, toModel, h]

section Assumable
variable (T : AssumableDict ι δ) (c : Coll ι)

theorem all_assumptions_tested_eq :
    AssumableReasoning.all_assumptions_tested T c = allTested T.assumption_tested c.get_all_items := by
  rw [C18.allTested_eq_all]
  simp only [AssumableReasoning.all_assumptions_tested] <;> all_shapes

theorem all_assumptions_valid_eq :
    AssumableReasoning.all_assumptions_valid T c = allValid T.assumption_valid c.get_all_items := by
  rw [C18.allValid_eq_all]
  simp only [AssumableReasoning.all_assumptions_valid] <;> all_shapes

theorem number_assumption_valid_eq :
    AssumableReasoning.number_assumption_valid T c = ((numberValid T.assumption_valid c.get_all_items : Nat) : Rat) := by
  simp only [AssumableReasoning.number_assumption_valid, numberValid] <;> count_shapes

theorem percent_assumption_valid_eq (hlen : c.len = c.get_all_items.length) :
    AssumableReasoning.percent_assumption_valid T c = percentValid T.assumption_valid c.get_all_items := by
  simp [AssumableReasoning.percent_assumption_valid, percentValid, number_assumption_valid_eq, hlen]

theorem get_all_invalid_assumptions_eq :
    AssumableReasoning.get_all_invalid_assumptions T c = getAllInvalid T.assumption_valid c.get_all_items := by
  simp only [AssumableReasoning.get_all_invalid_assumptions, getAllInvalid] <;> filter_shapes

theorem get_all_valid_assumptions_eq :
    AssumableReasoning.get_all_valid_assumptions T c = getAllValid T.assumption_valid c.get_all_items := by
  simp only [AssumableReasoning.get_all_valid_assumptions, getAllValid] <;> filter_shapes

theorem get_all_tested_assumptions_eq :
    AssumableReasoning.get_all_tested_assumptions T c = getAllTested T.assumption_tested c.get_all_items := by
  simp only [AssumableReasoning.get_all_tested_assumptions, getAllTested] <;> filter_shapes

theorem get_all_untested_assumptions_eq :
    AssumableReasoning.get_all_untested_assumptions T c = getAllUntested T.assumption_tested c.get_all_items := by
  simp only [AssumableReasoning.get_all_untested_assumptions, getAllUntested] <;> filter_shapes

end Assumable

/-- `verify_all_assumptions` on a collection of `Assumption`s: every member verified on the data, in place -/
theorem verify_all_assumptions_eq (c : Coll (Gen.Collections.Assumption δ)) (d : δ) :
    (AssumableReasoning.verify_all_assumptions AssumptionImpl.dict c d).map toModel =
      verifyAll (c.get_all_items.map toModel) d := by
  simp only [AssumableReasoning.verify_all_assumptions, verifyAll, AssumptionImpl.dict, List.map_map]
  apply List.map_congr_left
  intro a _
  exact (verify_assumption_eq a d).1

section Inferable
variable (K : KeyOps κ) (T : InferableDict ι κ)

theorem is_inferable_eq (x : ι) :
    Inferable.is_inferable K T x = isInferable K.total_cmp (approx4 K) (toInf T x) := by
  simp only [Inferable.is_inferable, isInferable, approx4, toInf] <;> bool_atoms

theorem is_inverse_inferable_eq (x : ι) :
    Inferable.is_inverse_inferable K T x = isInverseInferable K.total_cmp (approx4 K) (toInf T x) := by
  simp only [Inferable.is_inverse_inferable, isInverseInferable, approx4, toInf] <;> bool_atoms

/-- the member predicate of the `non_inferable` family, in either operand order -/
theorem is_non_inferable_eq (x : ι) :
    (Inferable.is_inferable K T x && Inferable.is_inverse_inferable K T x) =
      isNonInferable K.total_cmp (approx4 K) (toInf T x) ∧
    (Inferable.is_inverse_inferable K T x && Inferable.is_inferable K T x) =
      isNonInferable K.total_cmp (approx4 K) (toInf T x) := by
  simp only [isNonInferable, is_inferable_eq, is_inverse_inferable_eq, Bool.and_comm, and_self]

theorem item_conjoint_delta_eq (x : ι) :
    Inferable.conjoint_delta K T x = itemConjointDelta K.val (toInf T x) := by
  simp [Inferable.conjoint_delta, itemConjointDelta, abs_num_eq, toInf]

variable (c : Coll ι)

/-! The aggregates follow the member predicates *as the member type implements them*:
`is_inferable`, `is_inverse_inferable`, `conjoint_delta` are provided methods of `trait Inferable`: a member type may
override them, and a call from a default method of `InferableReasoning` dispatches to the type's implementation
(`T.is_inferable`, a field of the dictionary). For **every** implementation: each filter keeps exactly the members
its member predicate accepts, each count is their number, `all_…` asks all of them. (A collection method that
re-implements a predicate instead of calling it fails these.) -/

theorem get_all_inferable_dispatch :
    InferableReasoning.get_all_inferable K T c = c.get_all_items.filter T.is_inferable := by
  simp only [InferableReasoning.get_all_inferable] <;> filter_shapes

theorem get_all_inverse_inferable_dispatch :
    InferableReasoning.get_all_inverse_inferable K T c = c.get_all_items.filter T.is_inverse_inferable := by
  simp only [InferableReasoning.get_all_inverse_inferable] <;> filter_shapes

theorem number_inferable_dispatch :
    InferableReasoning.number_inferable K T c = (((c.get_all_items.filter T.is_inferable).length : Nat) : Rat) := by
  simp only [InferableReasoning.number_inferable] <;> count_shapes

theorem number_inverse_inferable_dispatch :
    InferableReasoning.number_inverse_inferable K T c =
      (((c.get_all_items.filter T.is_inverse_inferable).length : Nat) : Rat) := by
  simp only [InferableReasoning.number_inverse_inferable] <;> count_shapes

theorem all_inferable_dispatch :
    InferableReasoning.all_inferable K T c = c.get_all_items.all T.is_inferable := by
  simp only [InferableReasoning.all_inferable] <;> all_shapes

theorem all_inverse_inferable_dispatch :
    InferableReasoning.all_inverse_inferable K T c = c.get_all_items.all T.is_inverse_inferable := by
  simp only [InferableReasoning.all_inverse_inferable] <;> all_shapes

theorem get_all_non_inferable_dispatch :
    InferableReasoning.get_all_non_inferable K T c =
      c.get_all_items.filter (fun x => T.is_inferable x && T.is_inverse_inferable x) := by
  simp only [InferableReasoning.get_all_non_inferable] <;> filter_shapes

theorem number_non_inferable_dispatch :
    InferableReasoning.number_non_inferable K T c =
      (((c.get_all_items.filter (fun x => T.is_inferable x && T.is_inverse_inferable x)).length : Nat) : Rat) := by
  simp only [InferableReasoning.number_non_inferable] <;> count_shapes

/-- `all_non_inferable` (sic: answers whether *some* member is both) -/
theorem all_non_inferable_dispatch :
    InferableReasoning.all_non_inferable K T c =
      c.get_all_items.any (fun x => T.is_inverse_inferable x && T.is_inferable x) := by
  simp only [InferableReasoning.all_non_inferable] <;> any_shapes

/-- the member type keeps the provided methods of `trait Inferable` (every type of the repository does: the translator
refuses an `impl` that overrides one) -/
structure InferableDefaults (K : KeyOps κ) (T : InferableDict ι κ) : Prop where
  is_inferable : ∀ x, T.is_inferable x = Inferable.is_inferable K T x
  is_inverse_inferable : ∀ x, T.is_inverse_inferable x = Inferable.is_inverse_inferable K T x
  conjoint_delta : ∀ x, T.conjoint_delta x = Inferable.conjoint_delta K T x

variable (hd : InferableDefaults K T)
include hd

/-! The member type's predicates are the defaults, those are the model's on the member's record; each aggregate is its
`…_dispatch` form read through the view `toInf T`. -/

omit c in
theorem InferableDefaults.inferable (x : ι) : T.is_inferable x = isInferable K.total_cmp (approx4 K) (toInf T x) := by
  rw [hd.is_inferable, is_inferable_eq]

omit c in
theorem InferableDefaults.inverse (x : ι) :
    T.is_inverse_inferable x = isInverseInferable K.total_cmp (approx4 K) (toInf T x) := by
  rw [hd.is_inverse_inferable, is_inverse_inferable_eq]

omit c in
theorem InferableDefaults.non (x : ι) :
    (T.is_inferable x && T.is_inverse_inferable x) = isNonInferable K.total_cmp (approx4 K) (toInf T x) := by
  rw [hd.inferable, hd.inverse]; rfl

theorem get_all_inferable_eq :
    (InferableReasoning.get_all_inferable K T c).map (toInf T) =
      getAllInferable K.total_cmp (approx4 K) (c.get_all_items.map (toInf T)) := by
  rw [get_all_inferable_dispatch]
  exact filter_shape (toInf T) _ _ _ rfl _ hd.inferable

theorem get_all_inverse_inferable_eq :
    (InferableReasoning.get_all_inverse_inferable K T c).map (toInf T) =
      getAllInverseInferable K.total_cmp (approx4 K) (c.get_all_items.map (toInf T)) := by
  rw [get_all_inverse_inferable_dispatch]
  exact filter_shape (toInf T) _ _ _ rfl _ hd.inverse

theorem get_all_non_inferable_eq :
    (InferableReasoning.get_all_non_inferable K T c).map (toInf T) =
      getAllNonInferable K.total_cmp (approx4 K) (c.get_all_items.map (toInf T)) := by
  rw [get_all_non_inferable_dispatch]
  exact filter_shape (toInf T) _ _ _ rfl _ hd.non

theorem all_inferable_eq :
    InferableReasoning.all_inferable K T c = allInferable K.total_cmp (approx4 K) (c.get_all_items.map (toInf T)) := by
  rw [all_inferable_dispatch, C18.allInferable_eq_all]
  exact all_shape (toInf T) _ _ _ rfl _ hd.inferable

theorem all_inverse_inferable_eq :
    InferableReasoning.all_inverse_inferable K T c =
      allInverseInferable K.total_cmp (approx4 K) (c.get_all_items.map (toInf T)) := by
  rw [all_inverse_inferable_dispatch, C18.allInverseInferable_eq_all]
  exact all_shape (toInf T) _ _ _ rfl _ hd.inverse

theorem all_non_inferable_eq :
    InferableReasoning.all_non_inferable K T c =
      allNonInferable K.total_cmp (approx4 K) (c.get_all_items.map (toInf T)) := by
  rw [all_non_inferable_dispatch, C18.allNonInferable_eq_any]
  exact any_shape (toInf T) _ _ _ rfl _ fun x => by rw [hd.inferable, hd.inverse]

theorem number_inferable_eq :
    InferableReasoning.number_inferable K T c =
      ((numberInferable K.total_cmp (approx4 K) (c.get_all_items.map (toInf T)) : Nat) : Rat) := by
  rw [number_inferable_dispatch]
  exact congrArg Nat.cast (count_shape (toInf T) _ _ _ rfl _ hd.inferable)

theorem number_inverse_inferable_eq :
    InferableReasoning.number_inverse_inferable K T c =
      ((numberInverseInferable K.total_cmp (approx4 K) (c.get_all_items.map (toInf T)) : Nat) : Rat) := by
  rw [number_inverse_inferable_dispatch]
  exact congrArg Nat.cast (count_shape (toInf T) _ _ _ rfl _ hd.inverse)

theorem number_non_inferable_eq :
    InferableReasoning.number_non_inferable K T c =
      ((numberNonInferable K.total_cmp (approx4 K) (c.get_all_items.map (toInf T)) : Nat) : Rat) := by
  rw [number_non_inferable_dispatch]
  exact congrArg Nat.cast (count_shape (toInf T) _ _ _ rfl _ hd.non)

variable (hlen : c.len = c.get_all_items.length)
include hlen

theorem percent_inferable_eq :
    InferableReasoning.percent_inferable K T c =
      percentInferable K.total_cmp (approx4 K) (c.get_all_items.map (toInf T)) := by
  simp [InferableReasoning.percent_inferable, percentInferable, percentOf, number_inferable_eq K T c hd, hlen]

theorem percent_inverse_inferable_eq :
    InferableReasoning.percent_inverse_inferable K T c =
      percentInverseInferable K.total_cmp (approx4 K) (c.get_all_items.map (toInf T)) := by
  simp [InferableReasoning.percent_inverse_inferable, percentInverseInferable, percentOf,
    number_inverse_inferable_eq K T c hd, hlen]

theorem percent_non_inferable_eq :
    InferableReasoning.percent_non_inferable K T c =
      percentNonInferable K.total_cmp (approx4 K) (c.get_all_items.map (toInf T)) := by
  simp [InferableReasoning.percent_non_inferable, percentNonInferable, percentOf, number_non_inferable_eq K T c hd, hlen]

theorem conjoint_delta_eq :
    InferableReasoning.conjoint_delta K T c =
      conjointDelta K.total_cmp (approx4 K) (c.get_all_items.map (toInf T)) := by
  simp [InferableReasoning.conjoint_delta, conjointDelta, abs_num_eq, number_non_inferable_eq K T c hd, hlen]

end Inferable

section Observable
variable (K : KeyOps κ) (T : ObservableDict ι κ)

theorem effect_observed_eq (x : ι) (thr e : κ) :
    Observable.effect_observed K T x thr e = effectObserved K.ge K.eq thr e (toObs T x) := by
  simp only [Observable.effect_observed, effectObserved, toObs] <;> bool_atoms

variable (c : Coll ι) (thr e : κ)

/-- for **every** implementation of the provided method `effect_observed`: the count is the number of members it accepts -/
theorem number_observation_dispatch :
    ObservableReasoning.number_observation K T c thr e =
      (((c.get_all_items.filter (fun o => T.effect_observed o thr e)).length : Nat) : Rat) := by
  simp only [ObservableReasoning.number_observation] <;> count_shapes

/-- the member type keeps the provided method of `trait Observable` -/
structure ObservableDefaults (K : KeyOps κ) (T : ObservableDict ι κ) : Prop where
  effect_observed : ∀ x a b, T.effect_observed x a b = Observable.effect_observed K T x a b

variable (hd : ObservableDefaults K T)
include hd

theorem number_observation_eq :
    ObservableReasoning.number_observation K T c thr e =
      ((numberObservation K.ge K.eq (c.get_all_items.map (toObs T)) thr e : Nat) : Rat) := by
  rw [number_observation_dispatch]
  exact congrArg Nat.cast (count_shape (toObs T) _ _ _ rfl _ fun x => by rw [hd.effect_observed, effect_observed_eq])

variable (hlen : c.len = c.get_all_items.length)
include hlen

theorem number_non_observation_eq :
    ObservableReasoning.number_non_observation K T c thr e =
      ((numberNonObservation K.ge K.eq (c.get_all_items.map (toObs T)) thr e : Int) : Rat) := by
  simp [ObservableReasoning.number_non_observation, numberNonObservation, number_observation_eq K T c thr e hd, hlen,
    Rat.intCast_sub, Rat.intCast_natCast]

theorem percent_observation_eq :
    ObservableReasoning.percent_observation K T c thr e =
      percentObservation K.ge K.eq (c.get_all_items.map (toObs T)) thr e := by
  simp [ObservableReasoning.percent_observation, percentObservation, number_observation_eq K T c thr e hd, hlen]

theorem percent_non_observation_eq :
    ObservableReasoning.percent_non_observation K T c thr e =
      percentNonObservation K.ge K.eq (c.get_all_items.map (toObs T)) thr e := by
  simp [ObservableReasoning.percent_non_observation, percentNonObservation, percent_observation_eq K T c thr e hd hlen]

end Observable

section Laws

theorem count_view {α β : Type} (f : α → β) {q : β → Bool} {p : α → Bool} (h : ∀ x, p x = q (f x)) (l : List α) :
    count q (l.map f) = count p l := by
  rw [C18.count_eq_filter_length, C18.count_eq_filter_length, count_shape f q l _ rfl p h]

/-- **no member is both inferable and inverse-inferable**, whatever the comparisons answer -/
theorem c18gen_not_both_inferable (K : KeyOps κ) (T : InferableDict ι κ) (x : ι) :
    ¬ (Inferable.is_inferable K T x = true ∧ Inferable.is_inverse_inferable K T x = true) := by
  rw [is_inferable_eq, is_inverse_inferable_eq]
  exact (C18.c18_not_both_inferable K.total_cmp (approx4 K) (toInf T x)).1

/-- **inference counts and percentages**: every count is the number of members satisfying the generated member
predicate, the two counts never exceed the size together, percentages are count / size × 100 exactly, and the
`non_inferable` family is empty / zero -/
theorem c18gen_inferable_counts (K : KeyOps κ) (T : InferableDict ι κ) (hd : InferableDefaults K T) (c : Coll ι)
    (hlen : c.len = c.get_all_items.length) (hne : c.get_all_items ≠ []) :
    InferableReasoning.number_inferable K T c = (count (Inferable.is_inferable K T) c.get_all_items : Rat) ∧
    InferableReasoning.number_inverse_inferable K T c =
      (count (Inferable.is_inverse_inferable K T) c.get_all_items : Rat) ∧
    count (Inferable.is_inferable K T) c.get_all_items + count (Inferable.is_inverse_inferable K T) c.get_all_items
      ≤ c.get_all_items.length ∧
    InferableReasoning.percent_inferable K T c * (c.len : Rat) =
      100 * (count (Inferable.is_inferable K T) c.get_all_items : Rat) ∧
    InferableReasoning.percent_inverse_inferable K T c * (c.len : Rat) =
      100 * (count (Inferable.is_inverse_inferable K T) c.get_all_items : Rat) ∧
    InferableReasoning.get_all_non_inferable K T c = [] ∧ InferableReasoning.number_non_inferable K T c = 0 ∧
    InferableReasoning.percent_non_inferable K T c = 0 ∧ InferableReasoning.conjoint_delta K T c = 0 ∧
    InferableReasoning.all_non_inferable K T c = false := by
  have hm := C18.c18_inferable_counts K.total_cmp (approx4 K) (c.get_all_items.map (toInf T))
  have hne' : c.get_all_items.map (toInf T) ≠ [] := by simpa using hne
  have hp := C18.c18_percent_inferable K.total_cmp (approx4 K) (c.get_all_items.map (toInf T)) hne'
  have hn := C18.c18_non_inferable_family K.total_cmp (approx4 K) (c.get_all_items.map (toInf T))
  have ci := count_view (toInf T) (is_inferable_eq K T) c.get_all_items
  have cv := count_view (toInf T) (is_inverse_inferable_eq K T) c.get_all_items
  have hl : ((c.get_all_items.map (toInf T)).length : Rat) = (c.len : Rat) := by simp [hlen]
  refine ⟨?_, ?_, ?_, ?_, ?_, ?_, ?_, ?_, ?_, ?_⟩
  · rw [number_inferable_eq K T c hd, hm.1, ci]
  · rw [number_inverse_inferable_eq K T c hd, hm.2.1, cv]
  · simpa [hm.1, hm.2.1, ci, cv] using hm.2.2.2.2.2.2.2.2
  · rw [percent_inferable_eq K T c hd hlen, ← hl, hp.2.2.2.1, ci]
  · rw [percent_inverse_inferable_eq K T c hd hlen, ← hl, hp.2.2.2.2, cv]
  · simpa [hn.1] using get_all_non_inferable_eq K T c hd
  · rw [number_non_inferable_eq K T c hd, hn.2.1]; rfl
  · rw [percent_non_inferable_eq K T c hd hlen, hn.2.2.2.1]
  · rw [conjoint_delta_eq K T c hd hlen, hn.2.2.2.2 hne']
  · rw [all_non_inferable_eq K T c hd, hn.2.2.1]

/-- **assumption aggregates**: valid/invalid and tested/untested partition the collection, the count is the number of
valid members and the percentage is valid / size × 100 exactly -/
theorem c18gen_assumable (T : AssumableDict ι δ) (c : Coll ι) (hlen : c.len = c.get_all_items.length)
    (hne : c.get_all_items ≠ []) :
    (AssumableReasoning.get_all_valid_assumptions T c ++ AssumableReasoning.get_all_invalid_assumptions T c).Perm
      c.get_all_items ∧
    (AssumableReasoning.get_all_tested_assumptions T c ++ AssumableReasoning.get_all_untested_assumptions T c).Perm
      c.get_all_items ∧
    (∀ a, a ∈ AssumableReasoning.get_all_valid_assumptions T c →
      a ∉ AssumableReasoning.get_all_invalid_assumptions T c) ∧
    (∀ a, a ∈ AssumableReasoning.get_all_tested_assumptions T c →
      a ∉ AssumableReasoning.get_all_untested_assumptions T c) ∧
    AssumableReasoning.number_assumption_valid T c = (count T.assumption_valid c.get_all_items : Rat) ∧
    AssumableReasoning.percent_assumption_valid T c * (c.len : Rat) =
      100 * (count T.assumption_valid c.get_all_items : Rat) ∧
    (AssumableReasoning.all_assumptions_tested T c = true ↔ ∀ a ∈ c.get_all_items, T.assumption_tested a = true) ∧
    (AssumableReasoning.all_assumptions_valid T c = true ↔ ∀ a ∈ c.get_all_items, T.assumption_valid a = true) := by
  have hp := C18.c18_assumable_partition T.assumption_tested T.assumption_valid c.get_all_items
  have hc := C18.c18_assumable_counts T.assumption_tested T.assumption_valid c.get_all_items
  have hv := C18.c18_percent_assumption_valid T.assumption_valid c.get_all_items hne
  rw [get_all_valid_assumptions_eq, get_all_invalid_assumptions_eq, get_all_tested_assumptions_eq,
    get_all_untested_assumptions_eq, number_assumption_valid_eq, percent_assumption_valid_eq T c hlen,
    all_assumptions_tested_eq, all_assumptions_valid_eq, hlen]
  exact ⟨hp.1, hp.2.1, hp.2.2.1, hp.2.2.2.1, by rw [hc.1], hv.2, hc.2.1, hc.2.2.1⟩

/-- **observation aggregates**: the count is the number of members observed, `number_non_observation` the number of
members not observed, the two percentages are on the scale 0…1 and add up to 1 -/
theorem c18gen_observable (K : KeyOps κ) (T : ObservableDict ι κ) (hd : ObservableDefaults K T) (c : Coll ι) (thr e : κ)
    (hlen : c.len = c.get_all_items.length) (hne : c.get_all_items ≠ []) :
    ObservableReasoning.number_observation K T c thr e =
      (count (fun o => Observable.effect_observed K T o thr e) c.get_all_items : Rat) ∧
    ObservableReasoning.number_non_observation K T c thr e =
      (count (fun o => !Observable.effect_observed K T o thr e) c.get_all_items : Rat) ∧
    ObservableReasoning.percent_observation K T c thr e * (c.len : Rat) =
      (count (fun o => Observable.effect_observed K T o thr e) c.get_all_items : Rat) ∧
    ObservableReasoning.percent_observation K T c thr e + ObservableReasoning.percent_non_observation K T c thr e = 1 := by
  have hne' : c.get_all_items.map (toObs T) ≠ [] := by simpa using hne
  have hn := C18.c18_number_observation K.ge K.eq (c.get_all_items.map (toObs T)) thr e
  have hp := C18.c18_percent_observation K.ge K.eq (c.get_all_items.map (toObs T)) thr e hne'
  have co := count_view (toObs T) (fun x => effect_observed_eq K T x thr e) c.get_all_items
  have cn : count (fun o => !effectObserved K.ge K.eq thr e o) (c.get_all_items.map (toObs T)) =
      count (fun o => !Observable.effect_observed K T o thr e) c.get_all_items :=
    count_view _ (fun x => by rw [effect_observed_eq]) _
  have hl : ((c.get_all_items.map (toObs T)).length : Rat) = (c.len : Rat) := by simp [hlen]
  have hl0 : (c.len : Rat) ≠ 0 := by
    have : c.get_all_items.length ≠ 0 := by simpa using hne
    rw [hlen]; exact_mod_cast this
  refine ⟨?_, ?_, ?_, ?_⟩
  · rw [number_observation_eq K T c thr e hd, hn.1, co]
  · rw [number_non_observation_eq K T c thr e hd hlen, hn.2.2.1, cn]; simp [Rat.intCast_natCast]
  · rw [percent_observation_eq K T c thr e hd hlen, hp.1, co]
    simp only [percent, hl]; grind
  · rw [percent_observation_eq K T c thr e hd hlen, percent_non_observation_eq K T c thr e hd hlen]; exact hp.2.2

/-- verifying one generated assumption along a history of data values (oldest first) -/
def genRun (a : Gen.Collections.Assumption δ) : List δ → Gen.Collections.Assumption δ × List Bool
  | [] => (a, [])
  | d :: rest =>
    let r := AssumptionImpl.verify_assumption a d
    let rr := genRun r.1 rest
    (rr.1, r.2 :: rr.2)

theorem genRun_eq (a : Gen.Collections.Assumption δ) (ds : List δ) :
    toModel (genRun a ds).1 = (C18.verifyRun (toModel a) ds).1 ∧ (genRun a ds).2 = (C18.verifyRun (toModel a) ds).2 := by
  induction ds generalizing a with
  | nil => exact ⟨rfl, rfl⟩
  | cons d rest ih =>
    obtain ⟨h1, h2⟩ := ih (AssumptionImpl.verify_assumption a d).1
    obtain ⟨e1, e2⟩ := verify_assumption_eq a d
    simp only [genRun, C18.verifyRun, h1, h2, e1, e2, and_self]

/-- **flags over every verification history**, for the generated `Assumption::new` / `verify_assumption` / readers:
every call answers the function's verdict; the assumption is tested exactly from the first verification on, and valid
exactly if some verification answered `true` -/
theorem c18gen_flags (fn : δ → Bool) (ds : List δ) :
    let a := (genRun (Gen.Collections.Assumption.new fn) ds).1
    (genRun (Gen.Collections.Assumption.new fn) ds).2 = ds.map fn ∧
    (AssumptionImpl.assumption_tested a = true ↔ ds ≠ []) ∧
    (AssumptionImpl.assumption_valid a = true ↔ ∃ d ∈ ds, fn d = true) := by
  intro a
  obtain ⟨h1, h2⟩ := genRun_eq (Gen.Collections.Assumption.new fn) ds
  have ht := C18.c18_tested_from_first_verify_on fn ds
  have hv := C18.c18_valid_only_after_true fn ds
  rw [assumption_new_eq] at h1 h2
  refine ⟨by rw [h2]; exact ht.2.2, ?_, ?_⟩
  · rw [assumption_tested_eq, h1]; exact ht.2.1
  · rw [assumption_valid_eq, h1]; exact hv.2.1

-- non-vacuity: three inferences over `Int` keys through the generated definitions
example : let K : KeyOps Int := ⟨compare, fun a b _ => a == b, fun a b => decide (a ≥ b), fun a b => decide (a > b),
      fun a b => a == b, fun a => (a : Rat)⟩
    let T0 : InferableDict (Inference Int) Int :=
      { observation := (·.obs), threshold := (·.thr), effect := (·.eff), target := (·.tgt),
        conjoint_delta := fun _ => 0, is_inferable := fun _ => false, is_inverse_inferable := fun _ => false }
    -- a member type that keeps the provided methods: the defaults' bodies read the required methods only
    let T : InferableDict (Inference Int) Int :=
      { T0 with conjoint_delta := Inferable.conjoint_delta K T0, is_inferable := Inferable.is_inferable K T0,
                is_inverse_inferable := Inferable.is_inverse_inferable K T0 }
    let c : Coll (Inference Int) := ⟨3, false, [⟨5, 3, 1, 1⟩, ⟨2, 3, 1, 1⟩, ⟨3, 3, 1, 1⟩]⟩
    (InferableReasoning.get_all_inferable K T c).length = 1 ∧ InferableReasoning.all_non_inferable K T c = false ∧
    InferableReasoning.all_inferable K T c = false ∧ c.len = c.get_all_items.length := by decide

/-- the hypotheses `InferableDefaults` / `ObservableDefaults` are met by any member type that takes the provided methods
from the trait: build the dictionary from the required methods and let the provided ones be the defaults' bodies -/
def inferableWithDefaults (K : KeyOps κ) (obs thr eff tgt : ι → κ) : InferableDict ι κ :=
  let T0 : InferableDict ι κ := { observation := obs, threshold := thr, effect := eff, target := tgt, conjoint_delta := fun _ => 0, is_inferable := fun _ => false, is_inverse_inferable := fun _ => false }
  { T0 with conjoint_delta := Inferable.conjoint_delta K T0, is_inferable := Inferable.is_inferable K T0,
            is_inverse_inferable := Inferable.is_inverse_inferable K T0 }

example (K : KeyOps κ) (obs thr eff tgt : ι → κ) : InferableDefaults K (inferableWithDefaults K obs thr eff tgt) :=
  ⟨fun _ => rfl, fun _ => rfl, fun _ => rfl⟩

def observableWithDefaults (K : KeyOps κ) (obs eff : ι → κ) : ObservableDict ι κ :=
  let T0 : ObservableDict ι κ := { observation := obs, observed_effect := eff, effect_observed := fun _ _ _ => false }
  { T0 with effect_observed := Observable.effect_observed K T0 }

example (K : KeyOps κ) (obs eff : ι → κ) : ObservableDefaults K (observableWithDefaults K obs eff) :=
  ⟨fun _ _ _ => rfl⟩

example : (genRun (Gen.Collections.Assumption.new (fun d : Nat => d == 1)) [0, 0, 1, 0]).2 = [false, false, true, false] ∧
    AssumptionImpl.assumption_valid (genRun (Gen.Collections.Assumption.new (fun d : Nat => d == 1)) [0, 0]).1 = false ∧
    AssumptionImpl.assumption_valid (genRun (Gen.Collections.Assumption.new (fun d : Nat => d == 1)) [0, 0, 1, 0]).1 = true := by
  decide

end Laws

end C18Gen
