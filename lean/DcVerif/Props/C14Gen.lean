import DcVerif.Gen.SpSeq
import DcVerif.Model.Ring
/-!
# The single-producer sequencer's arithmetic, tied to the source (C14; used by C04 / C05 / C06)

`Gen/SpSeq.lean` is regenerated on every run by `tools/rs2lean_spseq.py` from `producer/single_producer.rs` (`next`, `publish`, `drain`,
`Drop`, `Producer::write`, symbolically executed). Here: (1) the steps of the producer of `Model/Ring.lean` compute exactly these
expressions and branch on exactly these conditions; (2) C14 for the single producer directly on the generated arithmetic: the ranges
handed out by consecutive `next` calls are gap-free, disjoint and of the requested lengths, and `publish` moves the cursor to the end of
the range.
-/
namespace C14Gen
open Gen.SpSeq Ring

/-- `next`, entry: the model's `.start` step takes the range, the first minimum and the count from the generated expressions -/
theorem model_start_is_generated (x : PSt) (b : Nat) (rest : List Nat) (hpc : x.p.pc = .start) (ht : x.p.todo = b :: rest) :
    let y := stepProd x
    (y.p.start, y.p.stop) = sp_next_result x.p.nextWrite b ∧ y.p.min = sp_next_first_min x.p.cached ∧
    y.p.count = b ∧ y.p.pc = .gateCheck := by
  simp [stepProd, hpc, ht, sp_next_result, sp_next_first_min]

/-- the range the model has computed is the generated one for the `nextWrite` / `count` it started from -/
def RangeOk (p : Prod) : Prop := (p.start, p.stop) = sp_next_result p.start p.count

/-- `next`, the wait loop and the exit: `.gateCheck` branches on the generated condition and commits the generated values -/
theorem model_gateCheck_is_generated (x : PSt) (hpc : x.p.pc = .gateCheck) (hr : RangeOk x.p) :
    let y := stepProd x
    (sp_next_blocked x.p.min x.s.n x.p.start x.p.count = true → y.p.pc = .gateLoad ∧ y.p.nextWrite = x.p.nextWrite) ∧
    (sp_next_blocked x.p.min x.s.n x.p.start x.p.count = false →
      (y.p.cached, y.p.nextWrite) = sp_next_commit x.p.min x.p.start x.p.count ∧ y.p.w = x.p.start ∧ y.p.pc = .write) := by
  have hs : x.p.stop = x.p.start + (x.p.count - 1) := by
    have := hr; simp [RangeOk, sp_next_result] at this; exact this
  constructor
  · intro hb
    have : x.p.min + x.s.n < x.p.stop := by simpa [sp_next_blocked, hs] using hb
    simp [stepProd, hpc, this]
  · intro hb
    have : ¬ x.p.min + x.s.n < x.p.stop := by simpa [sp_next_blocked, hs] using hb
    simp only [stepProd, hpc, this, if_false]
    simp [sp_next_commit, hs]

/-- `publish`: the cursor becomes the generated value -/
theorem model_publish_is_generated (x : PSt) (hpc : x.p.pc = .publish) :
    (stepProd x).s.cursor = sp_publish_cursor x.p.start x.p.stop := by
  simp [stepProd, hpc, sp_publish_cursor]

/-- `write`: the slots written are `start + idx` for `idx = 0, 1, …` in order (the model's `w` runs from `start` to `stop`) -/
theorem model_write_is_generated (x : PSt) (hpc : x.p.pc = .write) (hw : x.p.w ≤ x.p.stop) (idx : Nat) (hi : x.p.w = sp_write_seq x.p.start idx) :
    (stepProd x).p.written = x.p.written ++ [sp_write_seq x.p.start idx] ∧ (stepProd x).p.w = sp_write_seq x.p.start (idx + 1) := by
  simp only [sp_write_seq] at hi ⊢
  have hw' : x.p.start + idx ≤ x.p.stop := by omega
  simp only [stepProd, hpc, hi, hw', if_true]
  refine ⟨trivial, ?_⟩
  omega

/-- `drain`: the target and the wait condition are the generated ones -/
theorem model_drain_is_generated (x : PSt) :
    (x.p.pc = .drainInit → (stepProd x).p.current = sp_drain_current x.p.nextWrite) ∧
    (x.p.pc = .drainCheck → x.s.blocking = false →
      (stepProd x).p.pc = if sp_drain_waiting x.p.min x.p.current then .drainLoad else .setDone) := by
  constructor
  · intro h; simp [stepProd, h, sp_drain_current]
  · intro h hb
    by_cases hm : x.p.min < x.p.current <;> simp [stepProd, h, hb, hm, sp_drain_waiting]

/-- **consecutive claims tile**: two `next` calls in a row (any counts ≥ 1, whatever minima were observed) return ranges of the
requested lengths, the second starting right after the first ends -/
theorem c14gen_claims_tile (nws c1 c2 m1 : Nat) (h1 : 1 ≤ c1) (h2 : 1 ≤ c2) :
    (sp_next_result nws c1).1 = nws ∧ (sp_next_result nws c1).2 + 1 = (sp_next_result nws c1).1 + c1 ∧
    (sp_next_result (sp_next_commit m1 nws c1).2 c2).1 = (sp_next_result nws c1).2 + 1 ∧
    (sp_next_result (sp_next_commit m1 nws c1).2 c2).2 + 1 = (sp_next_result (sp_next_commit m1 nws c1).2 c2).1 + c2 := by
  simp [sp_next_result, sp_next_commit]
  omega

/-- the claims of a whole history of `next` calls partition `[nws, nws + Σ counts)` into consecutive ranges -/
def claimsFrom : Nat → List Nat → List (Nat × Nat)
  | _, [] => []
  | nws, c :: cs => sp_next_result nws c :: claimsFrom (sp_next_commit 0 nws c).2 cs

theorem c14gen_history_tiles (cs : List Nat) (hpos : ∀ c ∈ cs, 1 ≤ c) :
    ∀ nws, (claimsFrom nws cs).map (fun r => r.2 + 1 - r.1) = cs ∧
      List.Pairwise (fun a b => a.2 < b.1) (claimsFrom nws cs) ∧ ∀ r ∈ claimsFrom nws cs, nws ≤ r.1 ∧ r.1 ≤ r.2 := by
  induction cs with
  | nil => intro nws; simp [claimsFrom]
  | cons c cs ih =>
    intro nws
    have hc : 1 ≤ c := hpos c (by simp)
    obtain ⟨h1, h2, h3⟩ := ih (fun c' hc' => hpos c' (by simp [hc'])) (sp_next_commit 0 nws c).2
    simp only [claimsFrom, List.map_cons, List.pairwise_cons, List.mem_cons]
    refine ⟨?_, ⟨?_, h2⟩, ?_⟩
    · rw [h1]; simp [sp_next_result]; omega
    · intro b hb
      have := (h3 b hb).1
      simp only [sp_next_result, sp_next_commit] at this ⊢
      omega
    · rintro r (rfl | hr)
      · simp [sp_next_result]
      · have := h3 r hr
        simp only [sp_next_commit] at this
        omega

/-- `publish(start, end)` right after `next` moves the cursor to the highest claimed sequence -/
theorem c14gen_cursor_eq_highest_claimed (nws c : Nat) :
    sp_publish_cursor (sp_next_result nws c).1 (sp_next_result nws c).2 = (sp_next_result nws c).2 := rfl

/-- the producer never claims past what the slowest gating handler allows: when `next` stops waiting, `end ≤ min + buffer_size` -/
theorem c14gen_next_respects_gating (min bs nws c : Nat) (h : sp_next_blocked min bs nws c = false) :
    (sp_next_result nws c).2 ≤ min + bs := by
  simp [sp_next_blocked, sp_next_result] at h ⊢; omega

example : claimsFrom 0 [3, 1, 2] = [(0, 2), (3, 3), (4, 5)] ∧ sp_next_blocked 0 4 0 6 = true ∧ sp_next_blocked 2 4 0 6 = false ∧
    sp_drain_current 0 = 0 := by decide

end C14Gen
