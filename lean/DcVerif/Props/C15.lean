import DcVerif.Lemmas.ShortestPath
import DcVerif.Props.C08
/-!
# C15 — UltraGraph shortest path is a real path of minimum total weight

`UltraMatrixGraph::shortest_path` = two `contains_node` guards + petgraph's `astar` with zero heuristic.
`astar` is an external dependency; it is **not** modelled step by step. What is proved here is the *oracle* that
judges every answer of the real implementation in the correspondence run (translation validation, up to ties).

The oracle is Floyd–Warshall by structural recursion (no fuel, no pigeonhole argument); every live index of a graph is
`< bound`, so its restriction on intermediates is vacuous (`c15_bound_covers`). `c15_minDist_correct`: `minDist` is the least
weight of a real path between live nodes, `none` iff unreachable. `c15_shortest_path_judged_ok` is the statement for the
implementation model (guards included) on **every** graph reached by **any** build/removal history (through C08's
refinement theorem).
-/
namespace C15
open Spec Spec.DiGraph Spec.ShortestPath Model Model.UGraph

/-- Floyd–Warshall is correct: minimum over all walks with intermediates `< n`, `none` iff no such walk -/
theorem c15_fw_correct (w : Wt) (n u v : Nat) :
    (∀ d, fw w n u v = some d →
        (∃ is, Walk w u v is d) ∧ ∀ is c, Walk w u v is c → (∀ x, x ∈ is → x < n) → d ≤ c) ∧
    (fw w n u v = none → ∀ is c, Walk w u v is c → (∀ x, x ∈ is → x < n) → False) :=
  fw_correct w n u v

/-- the executed table holds the Floyd–Warshall values -/
theorem c15_table_is_fw (w : Wt) (n u v : Nat) (hu : u < n) (hv : v < n) : (fwMat w n n).get u v = fw w n u v :=
  fwMat_eq w n n (Nat.le_refl n) u v hu hv

/-- every live index is below the bound used by the oracle -/
theorem c15_bound_covers (s : DiGraph) (i : Nat) (h : s.live i = true) : i < bound s := lt_bound s i h

/-- a node sequence accepted by the checker is a real path of the graph with that weight … -/
theorem c15_checkPath_sound (s : DiGraph) (h : Spec.DiGraph.WF s) (a b : Nat) (p : List Nat) (c : Nat)
    (hc : checkPath s a b p = some c) : Path s a b p c := (checkPath_iff s h.edgesNodup a b p c).1 hc

/-- … and every real path is accepted -/
theorem c15_checkPath_complete (s : DiGraph) (h : Spec.DiGraph.WF s) (a b : Nat) (p : List Nat) (c : Nat)
    (hp : Path s a b p c) : checkPath s a b p = some c := (checkPath_iff s h.edgesNodup a b p c).2 hp

theorem c15_path_shape (s : DiGraph) {a b : Nat} {p : List Nat} {c : Nat} (h : Path s a b p c) :
    p.head? = some a ∧ p.getLast? = some b := path_ends s h

theorem c15_minDist_correct (s : DiGraph) (h : Spec.DiGraph.WF s) (a b : Nat) (ha : s.live a = true)
    (hb : s.live b = true) :
    (∀ d, minDist s a b = some d → (∃ p, Path s a b p d) ∧ ∀ q c, Path s a b q c → d ≤ c) ∧
    (minDist s a b = none → ∀ q c, ¬ Path s a b q c) := by
  have _ := And.intro ha hb   -- not needed: by `WF` the end points of a path with an edge are live
  exact minDist_correct s h a b

theorem judge_some_eq (s : DiGraph) (a b : Nat) (p : List Nat) :
    judge s a b (some p) = (s.live a && s.live b &&
      match checkPath s a b p with
      | some c => minDist s a b == some c
      | none => false) := rfl

theorem judge_none_eq (s : DiGraph) (a b : Nat) :
    judge s a b none = (!(s.live a && s.live b) || (minDist s a b).isNone) := rfl

/-- **an answer `some p` is judged OK iff** both end points are live and `p` is a real path from `a` to `b`
whose total weight is minimal among all such paths -/
theorem c15_judge_some_iff (s : DiGraph) (h : Spec.DiGraph.WF s) (a b : Nat) (p : List Nat) :
    judge s a b (some p) = true ↔
      s.live a = true ∧ s.live b = true ∧ ∃ c, Path s a b p c ∧ ∀ q c', Path s a b q c' → c ≤ c' := by
  rw [judge_some_eq, Bool.and_eq_true, Bool.and_eq_true, and_assoc]
  refine and_congr_right fun _ => and_congr_right fun _ => ?_
  obtain ⟨hsome, hnone⟩ := minDist_correct s h a b
  constructor
  · intro hm
    cases hc : checkPath s a b p with
    | none => rw [hc] at hm; cases hm
    | some c =>
      rw [hc] at hm
      exact ⟨c, c15_checkPath_sound s h a b p c hc, (hsome c (by simpa using hm)).2⟩
  · rintro ⟨c, hp, hmin⟩
    rw [c15_checkPath_complete s h a b p c hp]
    cases hd : minDist s a b with
    | none => exact absurd hp (hnone hd p c)
    | some d =>
      obtain ⟨⟨q, hq⟩, hle⟩ := hsome d hd
      rw [Nat.le_antisymm (hle p c hp) (hmin q d hq)]; simp

/-- **the answer `none` is judged OK iff** an end point is absent or the target is unreachable -/
theorem c15_judge_none_iff (s : DiGraph) (h : Spec.DiGraph.WF s) (a b : Nat) :
    judge s a b none = true ↔ ¬ (s.live a = true ∧ s.live b = true) ∨ ∀ q c, ¬ Path s a b q c := by
  rw [judge_none_eq, Bool.or_eq_true]
  refine or_congr ?_ ?_
  · rw [Bool.not_eq_true', ← Bool.not_eq_true, Bool.and_eq_true]
  · obtain ⟨hsome, hnone⟩ := minDist_correct s h a b
    rw [Option.isNone_iff_eq_none]
    refine ⟨hnone, fun hn => ?_⟩
    cases hd : minDist s a b with
    | none => rfl
    | some d => obtain ⟨⟨q, hq⟩, _⟩ := hsome d hd; exact absurd hq (hn q d)

/-- **ties do not matter.** Whatever the external search picks among equal-weight paths: two answers the oracle accepts for
the same query are paths of one and the same total weight, so "minimum total weight" does not depend on the choice -/
theorem c15_accepted_same_weight (s : DiGraph) (h : Spec.DiGraph.WF s) (a b : Nat) (p q : List Nat)
    (hp : judge s a b (some p) = true) (hq : judge s a b (some q) = true) :
    ∃ c, Path s a b p c ∧ Path s a b q c := by
  obtain ⟨_, _, c, hpc, hpmin⟩ := (c15_judge_some_iff s h a b p).1 hp
  obtain ⟨_, _, c', hqc, hqmin⟩ := (c15_judge_some_iff s h a b q).1 hq
  have : c = c' := Nat.le_antisymm (hpmin q c' hqc) (hqmin p c hpc)
  subst this
  exact ⟨c, hpc, hqc⟩

/-- … and the oracle never accepts both a path and "no path" for one query: which of the two `shortest_path` must answer is
determined by the graph alone -/
theorem c15_some_none_exclusive (s : DiGraph) (h : Spec.DiGraph.WF s) (a b : Nat) (p : List Nat)
    (hp : judge s a b (some p) = true) : judge s a b none = false := by
  obtain ⟨ha, hb, c, hpc, _⟩ := (c15_judge_some_iff s h a b p).1 hp
  cases hn : judge s a b none with
  | false => rfl
  | true =>
    rcases (c15_judge_none_iff s h a b).1 hn with hl | hno
    · exact absurd ⟨ha, hb⟩ hl
    · exact absurd hpc (hno p c)

/-- the same on every graph the API can reach: two accepted answers of `shortest_path` (two different `astar` choices) for one
query have equal total weight -/
theorem c15_reachable_ties_same_weight (ops : List Op) (a b : Nat) (p q : List Nat) :
    let g := (run .repaired init ops).1
    judge (abs g) a b (some p) = true → judge (abs g) a b (some q) = true →
      ∃ c, Path (abs g) a b p c ∧ Path (abs g) a b q c := by
  intro g hp hq
  have hwf : Model.UGraph.WF g := C08.c08_reachable_wf ops
  have hs := hwf.abs
  exact c15_accepted_same_weight (abs g) hs a b p q hp hq

/-- the guards of `shortest_path`: an absent end point yields `none` whatever `astar` would say -/
theorem c15_guards (g : UGraph) (astar : Option (List Nat)) (a b : Nat)
    (h : g.containsNode a = false ∨ g.containsNode b = false) : g.shortestPath astar a b = none := by
  unfold shortestPath
  rcases h with h | h
  · rw [h]; rfl
  · rw [h]; cases g.containsNode a <;> rfl

theorem judged_ok_of_wf {g : UGraph} (hwf : Model.UGraph.WF g) (astar : Option (List Nat)) (a b : Nat) :
    judge (abs g) a b (g.shortestPath astar a b) = true ↔
      match g.shortestPath astar a b with
      | some p => g.containsNode a = true ∧ g.containsNode b = true ∧
          ∃ c, Path (abs g) a b p c ∧ ∀ q c', Path (abs g) a b q c' → c ≤ c'
      | none => ¬ (g.containsNode a = true ∧ g.containsNode b = true) ∨ ∀ q c, ¬ Path (abs g) a b q c := by
  have hl : ∀ i, (abs g).live i = g.containsNode i := fun i => (hwf.containsNode i).symm
  cases hr : g.shortestPath astar a b with
  | some p => rw [c15_judge_some_iff (abs g) hwf.abs a b p, hl, hl]
  | none => rw [c15_judge_none_iff (abs g) hwf.abs a b, hl, hl]

/-- **C15, end statement.** On every graph reached by any history of add/remove/clear operations (cycles, zero
weights, ties, self-loops included), for every ordered pair: if the oracle accepts what `shortest_path` answered
(whatever `astar` contributed), then the answer is right — a returned sequence is a real path of the graph from
start to stop of minimum total weight between two existing nodes; `none` means an end point is absent or the stop
node is unreachable. Conversely every right answer is accepted. -/
theorem c15_shortest_path_judged_ok (ops : List Op) (astar : Option (List Nat)) (a b : Nat) :
    let g := (run .repaired init ops).1
    judge (abs g) a b (g.shortestPath astar a b) = true ↔
      match g.shortestPath astar a b with
      | some p => g.containsNode a = true ∧ g.containsNode b = true ∧
          ∃ c, Path (abs g) a b p c ∧ ∀ q c', Path (abs g) a b q c' → c ≤ c'
      | none => ¬ (g.containsNode a = true ∧ g.containsNode b = true) ∨ ∀ q c, ¬ Path (abs g) a b q c := by
  intro g
  exact judged_ok_of_wf (C08.c08_reachable_wf ops) astar a b

/-- every step of a real path — every pair of neighbours in the node sequence — is an edge of the graph -/
theorem c15_path_steps_edges {s : DiGraph} {a b : Nat} {p : List Nat} {c : Nat} (h : Path s a b p c) :
    ∀ u v, (u, v) ∈ p.zip p.tail → ∃ w, (u, v, w) ∈ s.edges := by
  induction h with
  | single a => intro u v hm; simp at hm
  | cons he hp ih =>
    intro u v hm
    obtain ⟨t, rfl⟩ := List.head?_eq_some_iff.1 (path_ends _ hp).1
    simp only [List.tail_cons, List.zip_cons_cons, List.mem_cons, Prod.mk.injEq] at hm
    rcases hm with ⟨rfl, rfl⟩ | hm
    · exact ⟨_, he⟩
    · exact ih u v (by simpa using hm)

theorem accepted_steps_of_wf {g : UGraph} (hwf : Model.UGraph.WF g) (a b : Nat) (p : List Nat)
    (hj : judge (abs g) a b (some p) = true) : ∀ u v, (u, v) ∈ p.zip p.tail → g.containsEdge u v = true := by
  intro u v hm
  obtain ⟨_, _, c, hp, _⟩ := (c15_judge_some_iff (abs g) hwf.abs a b p).1 hj
  obtain ⟨w, hw⟩ := c15_path_steps_edges hp u v hm
  rw [hwf.containsEdge, hasCell_iff]
  exact List.mem_map.2 ⟨(u, v, w), hw, rfl⟩

/-- **an accepted answer only walks along edges the API reports**: on every reachable graph, each pair of neighbours in a
sequence the oracle accepts satisfies `contains_edge` -/
theorem c15_accepted_steps_are_api_edges (ops : List Op) (a b : Nat) (p : List Nat) :
    let g := (run .repaired init ops).1
    judge (abs g) a b (some p) = true → ∀ u v, (u, v) ∈ p.zip p.tail → g.containsEdge u v = true := by
  intro g
  exact accepted_steps_of_wf (C08.c08_reachable_wf ops) a b p

/-! ## non-vacuity: a graph with a cycle, a zero-weight edge, a tie and a self-loop -/
example :
    let s : DiGraph := { nodes := [(0, 1), (1, 1), (2, 1), (3, 1), (5, 1)],
                         edges := [(0, 1, 2), (1, 2, 0), (0, 2, 2), (2, 0, 1), (2, 3, 4), (3, 3, 0)] }
    minDist s 0 3 = some 6 ∧ minDist s 3 0 = none ∧ minDist s 1 0 = some 1 ∧ minDist s 0 5 = none ∧
    judge s 0 3 (some [0, 2, 3]) = true ∧ judge s 0 3 (some [0, 1, 2, 3]) = true ∧      -- the tie: both accepted
    judge s 0 3 (some [0, 1, 2, 0, 2, 3]) = false ∧ judge s 0 3 none = false ∧ judge s 3 0 none = true ∧
    judge s 3 3 (some [3]) = true ∧ judge s 0 4 none = true ∧ judge s 0 3 (some [0, 3]) = false := by decide

end C15
