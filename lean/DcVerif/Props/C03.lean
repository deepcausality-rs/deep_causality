import DcVerif.Model.Csm
import DcVerif.Lemmas.Assoc
/-!
# C03 — the causal state machine fires an action iff its causal state evaluates true; the table is a map

Model: `Model.Csm` (association list with `HashMap` behaviour, the guard clauses of
`deep_causality/src/types/csm_types/mod.rs`). Spec: `Spec.Csm` (a function `Nat → Option (σ × α)`).

Everything below holds for every type of state/action references and data values, every history of calls,
every environment (what each causaloid answers on each data value, which actions fail — it may change from
call to call, so every pattern of failing causal functions and failing actions is covered) and every
iteration order the hash map may choose in `eval_all_states`.
-/
namespace C03
open Spec.Csm Model.Csm

variable {σ α δ : Type}

def abs (t : Table σ α) : Map σ α := fun k => lookup t k

theorem lookup_upsert (t : Table σ α) (k j : Nat) (v : σ × α) :
    lookup (upsert t k v) j = if j = k then some v else lookup t j := by
  induction t with
  | nil => grind [upsert, lookup]
  | cons e r ih => grind [upsert, lookup]

theorem lookup_delete (t : Table σ α) (k j : Nat) :
    lookup (delete t k) j = if j = k then none else lookup t j := by
  induction t with
  | nil => grind [delete, lookup]
  | cons e r ih => grind [delete, lookup]

theorem abs_upsert (t : Table σ α) (k : Nat) (v : σ × α) : abs (upsert t k v) = (abs t).set k v := by
  funext j; simp [abs, Map.set, lookup_upsert]

theorem abs_delete (t : Table σ α) (k : Nat) : abs (delete t k) = (abs t).unset k := by
  funext j; simp [abs, Map.unset, lookup_delete]

theorem abs_nil : abs ([] : Table σ α) = Map.empty := rfl

theorem abs_ofSlice (key : σ → Nat) (l : List (σ × α)) : abs (ofSlice key l) = Map.ofSlice key l :=
  (List.foldl_hom abs fun t sa => (abs_upsert t (key sa.1) sa).symm).symm

theorem evalEntry_eq_evalPair (env : Env σ α δ) (s : σ) (a : α) (d : δ) :
    evalEntry env s a d = evalPair env (s, a) d := by
  unfold evalEntry evalPair
  cases h : env.eval s d <;> cases hf : env.fire a <;> simp

theorem fired_evalPair (env : Env σ α δ) (sa : σ × α) (d : δ) :
    (evalPair env sa d).log.filterMap Ev.fired? = if env.eval sa.1 d == .okTrue then [sa.2] else [] := by
  unfold evalPair
  split <;> simp_all [List.filterMap_cons, Ev.fired?]

theorem called_evalPair (env : Env σ α δ) (sa : σ × α) (d : δ) :
    (evalPair env sa d).log.filterMap Ev.called? = [(sa.1, d)] := by
  unfold evalPair
  split <;> simp_all [List.filterMap_cons, Ev.called?]

/-- the loop of `eval_all_states` over a list of pairs -/
def evalSeq (env : Env σ α δ) : List (σ × α) → Out σ α δ
  | [] => ⟨true, []⟩
  | sa :: rest =>
    let o := evalPair env sa (env.stored sa.1)
    if o.ok then
      let r := evalSeq env rest
      ⟨r.ok, o.log ++ r.log⟩
    else o

theorem evalAll_eq_evalSeq (env : Env σ α δ) (t : Table σ α) (order : List Nat) :
    Model.Csm.evalAll env t order = evalSeq env (order.filterMap (abs t)) := by
  induction order with
  | nil => rfl
  | cons k rest ih =>
    have habs : abs t k = lookup t k := rfl
    cases h : lookup t k with
    | none => simp only [Model.Csm.evalAll, List.filterMap_cons, habs, h]; exact ih
    | some sa =>
      obtain ⟨s, a⟩ := sa
      simp only [Model.Csm.evalAll, List.filterMap_cons, habs, h, evalSeq, evalEntry_eq_evalPair, ih]

theorem evalSeq_eq_spec (env : Env σ α δ) (pairs : List (σ × α)) :
    evalSeq env pairs = Spec.Csm.evalAll env pairs := by
  induction pairs with
  | nil => rfl
  | cons sa rest ih =>
    have hlog : ∀ l, logOf env (sa :: l) = (evalPair env sa (env.stored sa.1)).log ++ logOf env l := fun _ => rfl
    simp only [evalSeq, Spec.Csm.evalAll, List.dropWhile_cons, List.takeWhile_cons]
    by_cases h : healthy env sa = true
    · have h' : (evalPair env sa (env.stored sa.1)).ok = true := h
      rw [if_pos h, if_pos h, if_pos h', ih, Spec.Csm.evalAll]
      cases List.dropWhile (healthy env) rest with
      | nil => simp only [hlog]
      | cons b r => simp only [hlog, List.cons_append]
    · have h' : ¬ (evalPair env sa (env.stored sa.1)).ok = true := h
      rw [if_neg h, if_neg h, if_neg h']
      show evalPair env sa _ = ⟨false, (evalPair env sa _).log ++ []⟩
      rw [List.append_nil, ← Bool.eq_false_iff.2 h']

theorem guarded_refines (c : Prop) [Decidable c] (t : Table σ α) {t' : Table σ α} {m' : Map σ α} (h : abs t' = m')
    {r : Table σ α × Out σ α δ} {r' : Map σ α × Out σ α δ} (hr : r = if c then (t, .fail) else (t', .done))
    (hr' : r' = if c then (abs t, .fail) else (m', .done)) : abs r.1 = r'.1 ∧ r.2 = r'.2 := by
  subst hr hr'
  by_cases hc : c
  · simp only [if_pos hc, and_self]
  · simp only [if_neg hc, h, and_self]

theorem step_refines (key : σ → Nat) (t : Table σ α) (op : Op σ α δ) :
    abs (Model.Csm.step key t op).1 = (Spec.Csm.step key (abs t) op).1 ∧
    (Model.Csm.step key t op).2 = (Spec.Csm.step key (abs t) op).2 := by
  cases op with
  | new l => exact ⟨abs_ofSlice key l, rfl⟩
  | updateAll l => exact ⟨abs_ofSlice key l, rfl⟩
  | add k s a =>
    exact guarded_refines _ t (abs_upsert t k _) rfl rfl
  | remove k =>
    exact guarded_refines _ t (abs_delete t k) rfl rfl
  | update k s a =>
    exact guarded_refines _ t (abs_upsert t k _) rfl rfl
  | evalSingle env k d =>
    refine ⟨rfl, ?_⟩
    simp only [Model.Csm.step, Spec.Csm.step, evalSingle, abs]
    cases lookup t k with
    | none => rfl
    | some sa => exact evalEntry_eq_evalPair env sa.1 sa.2 d
  | evalAll env order =>
    refine ⟨rfl, ?_⟩
    simp only [Model.Csm.step, Spec.Csm.step, evalAll_eq_evalSeq, evalSeq_eq_spec]

/-- **C03, the table is a map, for every history.** Running any history of calls (oldest first) on the model
yields a table denoting exactly the map obtained by running the same history on the map specification, and
the same outcome for every single call. -/
theorem c03_run_refines_map (key : σ → Nat) (ops : List (Op σ α δ)) (t : Table σ α) :
    abs (Model.Csm.run key t ops).1 = (Spec.Csm.run key (abs t) ops).1 ∧
    (Model.Csm.run key t ops).2 = (Spec.Csm.run key (abs t) ops).2 := by
  induction ops generalizing t with
  | nil => exact ⟨rfl, rfl⟩
  | cons op rest ih =>
    obtain ⟨h1, h2⟩ := step_refines key t op
    obtain ⟨i1, i2⟩ := ih (Model.Csm.step key t op).1
    simp only [Model.Csm.run, Spec.Csm.run]
    rw [h1] at i1 i2
    exact ⟨i1, by rw [h2, i2]⟩

/-- corollary for a machine built by `CSM::new` (any history starts with it): the table after the history *is*
the spec map after the history, and every call answered what the spec prescribes -/
theorem c03_history_is_map (key : σ → Nat) (ops : List (Op σ α δ)) :
    abs (Model.Csm.run key [] ops).1 = (Spec.Csm.run key Map.empty ops).1 ∧
    (Model.Csm.run key [] ops).2 = (Spec.Csm.run key Map.empty ops).2 :=
  c03_run_refines_map key ops []

theorem guarded_fail (c : Prop) [Decidable c] (t t' : Table σ α) {r : Table σ α × Out σ α δ}
    (hr : r = if c then (t, .fail) else (t', .done)) : (r.2.ok = false → r.1 = t) ∧ r.2.log = [] := by
  subst hr
  split
  · exact ⟨fun _ => rfl, rfl⟩
  · exact ⟨fun h => Bool.noConfusion h, rfl⟩

/-- a call that returns `Err` leaves the table as it was, evaluations never change the table, and table operations
never evaluate a causaloid or fire an action -/
theorem c03_failed_call_unchanged (key : σ → Nat) (t : Table σ α) (op : Op σ α δ) :
    ((Model.Csm.step key t op).2.ok = false → (Model.Csm.step key t op).1 = t) ∧
    (∀ env k d, op = .evalSingle env k d → (Model.Csm.step key t op).1 = t) ∧
    (∀ env order, op = .evalAll env order → (Model.Csm.step key t op).1 = t) ∧
    ((∀ env k d, op ≠ .evalSingle env k d) → (∀ env order, op ≠ .evalAll env order) →
      (Model.Csm.step key t op).2.log = []) := by
  refine ⟨?_, fun _ _ _ h => h ▸ rfl, fun _ _ h => h ▸ rfl, fun h1 h2 => ?_⟩
  · cases op with
    | new l | updateAll l => exact fun h => Bool.noConfusion h
    | add k s a | remove k | update k s a => exact (guarded_fail _ t _ rfl).1
    | evalSingle env k d | evalAll env order => exact fun _ => rfl
  · cases op with
    | new l | updateAll l => rfl
    | add k s a | remove k | update k s a => exact (guarded_fail _ t _ rfl).2
    | evalSingle env k d => exact absurd rfl (h1 env k d)
    | evalAll env order => exact absurd rfl (h2 env order)

/-- adding an id that is registered fails: table unchanged, nothing evaluated, nothing fired -/
theorem c03_add_existing_fails (key : σ → Nat) (t : Table σ α) (k : Nat) (s : σ) (a : α) (v : σ × α)
    (h : lookup t k = some v) :
    Model.Csm.step key t (.add k s a : Op σ α δ) = (t, ⟨false, []⟩) := by
  simp [Model.Csm.step, addSingle, h, Out.fail]

/-- removing, updating or evaluating an id that is not registered fails: table unchanged, nothing evaluated,
nothing fired -/
theorem c03_absent_fails (key : σ → Nat) (t : Table σ α) (k : Nat) (h : lookup t k = none) :
    Model.Csm.step key t (.remove k : Op σ α δ) = (t, ⟨false, []⟩) ∧
    (∀ s a, Model.Csm.step key t (.update k s a : Op σ α δ) = (t, ⟨false, []⟩)) ∧
    (∀ env d, Model.Csm.step key t (.evalSingle env k d : Op σ α δ) = (t, ⟨false, []⟩)) := by
  simp [Model.Csm.step, removeSingle, updateSingle, evalSingle, h, Out.fail]

/-- successful table operations do what a map does: afterwards the id holds the new pair (or nothing), every
other id is untouched -/
theorem c03_success_is_map_update (key : σ → Nat) (t : Table σ α) (k j : Nat) (s : σ) (a : α) :
    (lookup t k = none →
      lookup (Model.Csm.step key t (.add k s a : Op σ α δ)).1 j = if j = k then some (s, a) else lookup t j) ∧
    (lookup t k ≠ none →
      lookup (Model.Csm.step key t (.update k s a : Op σ α δ)).1 j = if j = k then some (s, a) else lookup t j) ∧
    (lookup t k ≠ none →
      lookup (Model.Csm.step key t (.remove k : Op σ α δ)).1 j = if j = k then none else lookup t j) := by
  refine ⟨fun h => ?_, fun h => ?_, fun h => ?_⟩
  · simp [Model.Csm.step, addSingle, h, lookup_upsert]
  · cases h' : lookup t k with
    | none => exact absurd h' h
    | some v => simp [Model.Csm.step, updateSingle, h', lookup_upsert]
  · cases h' : lookup t k with
    | none => exact absurd h' h
    | some v => simp [Model.Csm.step, removeSingle, h', lookup_delete]

/-- **C03, single evaluation.** If id `k` currently holds `(s, a)`: the causaloid of `s` is evaluated exactly once,
on the *supplied* data; the action list fired is exactly `[a]` when the verdict is `Ok(true)` and empty
otherwise (no other action fires, `a` never twice); the call succeeds iff the verdict is `Ok(false)`, or
`Ok(true)` and the action succeeded — evaluation errors and action errors surface. -/
theorem c03_evalSingle_fires_iff (env : Env σ α δ) (t : Table σ α) (k : Nat) (d : δ) (s : σ) (a : α)
    (h : lookup t k = some (s, a)) :
    (evalSingle env t k d).calls = [(s, d)] ∧
    (evalSingle env t k d).fired = (if env.eval s d = .okTrue then [a] else []) ∧
    ((evalSingle env t k d).ok = true ↔
      env.eval s d = .okFalse ∨ (env.eval s d = .okTrue ∧ env.fire a = true)) := by
  simp only [evalSingle, h, evalEntry_eq_evalPair, Out.calls, Out.fired, fired_evalPair, called_evalPair]
  refine ⟨trivial, by cases env.eval s d <;> simp, ?_⟩
  unfold evalPair
  cases env.eval s d <;> simp

/-- the same, read off the history: after any history, evaluating `k` behaves as prescribed for the pair the
*map* holds at `k` (the pair of the last successful add/update/new/update-all that wrote `k`, unless removed) -/
theorem c03_evalSingle_after_history (key : σ → Nat) (ops : List (Op σ α δ)) (env : Env σ α δ) (k : Nat) (d : δ) :
    evalSingle env (Model.Csm.run key [] ops).1 k d =
      match (Spec.Csm.run key Map.empty ops).1 k with
      | none => ⟨false, []⟩
      | some sa => evalPair env sa d := by
  have h := (c03_history_is_map key ops).1
  have hk : lookup (Model.Csm.run key [] ops).1 k = (Spec.Csm.run key Map.empty ops).1 k := congrFun h k
  simp only [evalSingle, hk]
  cases (Spec.Csm.run key Map.empty ops).1 k with
  | none => rfl
  | some sa => exact evalEntry_eq_evalPair env sa.1 sa.2 d

theorem fired_logOf (env : Env σ α δ) (pairs : List (σ × α)) :
    (logOf env pairs).filterMap Ev.fired? = (pairs.filter (triggered env)).map (·.2) := by
  induction pairs with
  | nil => rfl
  | cons sa rest ih =>
    simp only [logOf, List.flatMap_cons, List.filterMap_append] at ih ⊢
    rw [ih, fired_evalPair]
    simp only [triggered, List.filter_cons]
    split <;> simp_all

theorem calls_logOf (env : Env σ α δ) (pairs : List (σ × α)) :
    (logOf env pairs).filterMap Ev.called? = pairs.map (fun sa => (sa.1, env.stored sa.1)) := by
  induction pairs with
  | nil => rfl
  | cons sa rest ih =>
    simp only [logOf, List.flatMap_cons, List.filterMap_append] at ih ⊢
    rw [ih, called_evalPair]
    simp

theorem filterMap_keys (t : Table σ α) (hn : (keys t).Nodup) :
    (keys t).filterMap (abs t) = t.map (·.2) :=
  Lemmas.Assoc.filterMap_get lookup (fun _ _ _ _ => rfl) t hn

/-- **C03, `eval_all_states` succeeded.** For every order in which the hash map may enumerate the registered ids
(any permutation of them): if the call returns `Ok`, then every registered state was evaluated exactly once on
its stored data, no evaluation and no action failed, and the actions fired are exactly those of the registered
pairs whose verdict is `true` — each such pair once (as a multiset over the table), in enumeration order. -/
theorem c03_evalAll_ok_fires_exactly (env : Env σ α δ) (t : Table σ α) (order : List Nat)
    (hn : (keys t).Nodup) (hp : order.Perm (keys t))
    (hok : (Model.Csm.evalAll env t order).ok = true) :
    (∀ e ∈ t, healthy env e.2 = true) ∧
    (Model.Csm.evalAll env t order).fired =
      ((order.filterMap (abs t)).filter (triggered env)).map (·.2) ∧
    (Model.Csm.evalAll env t order).fired.Perm (((t.map (·.2)).filter (triggered env)).map (·.2)) ∧
    (Model.Csm.evalAll env t order).calls.Perm (t.map (fun e => (e.2.1, env.stored e.2.1))) := by
  rw [evalAll_eq_evalSeq, evalSeq_eq_spec] at hok ⊢
  have hperm : (order.filterMap (abs t)).Perm (t.map (·.2)) := filterMap_keys t hn ▸ hp.filterMap _
  generalize order.filterMap (abs t) = pairs at hok hperm ⊢
  unfold Spec.Csm.evalAll at hok ⊢
  cases hd : pairs.dropWhile (healthy env) with
  | cons b r => rw [hd] at hok; exact absurd hok (by simp)
  | nil =>
    have hall : ∀ p ∈ pairs, healthy env p = true := by
      have h2 := List.takeWhile_append_dropWhile (p := healthy env) (l := pairs)
      rw [hd, List.append_nil] at h2
      rw [← h2]; exact List.all_eq_true.1 List.all_takeWhile
    refine ⟨?_, ?_, ?_, ?_⟩
    · intro e he
      exact hall e.2 (hperm.mem_iff.2 (List.mem_map_of_mem he))
    · simp only [Out.fired, fired_logOf]
    · simp only [Out.fired, fired_logOf]
      exact (hperm.filter _).map _
    · simp only [Out.calls, calls_logOf]
      have := hperm.map (fun sa => (sa.1, env.stored sa.1))
      rw [List.map_map] at this
      exact this

/-- **C03, `eval_all_states` failed.** For every enumeration order: if the call returns `Err`, the pairs split as
`pre ++ bad :: post` in visiting order where every pair of `pre` evaluated and fired without error, `bad` is the
first whose evaluation or action failed, and nothing after it was touched; the actions fired are exactly those
of the triggered pairs among `pre ++ [bad]`, in order — hence a sub-list of what a successful pass would have
fired: only triggered states fired, none more often than it is registered. -/
theorem c03_evalAll_err_prefix (env : Env σ α δ) (t : Table σ α) (order : List Nat)
    (herr : (Model.Csm.evalAll env t order).ok = false) :
    ∃ pre bad post, order.filterMap (abs t) = pre ++ bad :: post ∧
      (∀ p ∈ pre, healthy env p = true) ∧ healthy env bad = false ∧
      (Model.Csm.evalAll env t order).log = logOf env (pre ++ [bad]) ∧
      (Model.Csm.evalAll env t order).fired = ((pre ++ [bad]).filter (triggered env)).map (·.2) ∧
      (Model.Csm.evalAll env t order).fired.Sublist
        (((order.filterMap (abs t)).filter (triggered env)).map (·.2)) := by
  rw [evalAll_eq_evalSeq, evalSeq_eq_spec] at herr ⊢
  generalize order.filterMap (abs t) = pairs at herr ⊢
  unfold Spec.Csm.evalAll at herr ⊢
  have hsplit := @List.takeWhile_append_dropWhile _ (healthy env) pairs
  cases hd : pairs.dropWhile (healthy env) with
  | nil => rw [hd] at herr; exact absurd herr (by simp)
  | cons b r =>
    rw [hd] at hsplit
    refine ⟨pairs.takeWhile (healthy env), b, r, hsplit.symm, ?_, ?_, rfl, ?_, ?_⟩
    · exact List.all_eq_true.1 List.all_takeWhile
    · simpa [hd] using List.head_dropWhile_not (healthy env) (l := pairs) (by rw [hd]; simp)
    · simp only [Out.fired, fired_logOf]
    · simp only [Out.fired, fired_logOf]
      apply List.Sublist.map
      apply List.Sublist.filter
      conv => rhs; rw [← hsplit]
      exact List.Sublist.append (List.Sublist.refl _) (by simp)

theorem mem_keys_iff (t : Table σ α) (k : Nat) : k ∈ keys t ↔ (lookup t k).isSome = true := by
  induction t with
  | nil => simp [keys, lookup]
  | cons e r ih => grind [keys, lookup]

theorem keys_delete (t : Table σ α) (k : Nat) : keys (delete t k) = (keys t).filter (fun j => j != k) := by
  induction t with
  | nil => rfl
  | cons e r ih =>
    obtain ⟨j, w⟩ := e
    simp only [keys, List.map_cons, delete, List.filter_cons] at ih ⊢
    by_cases h : j = k
    · simp [h, ih]
    · simp [h, ih]

theorem nodup_upsert (t : Table σ α) (k : Nat) (v : σ × α) (h : (keys t).Nodup) :
    (keys (upsert t k v)).Nodup :=
  Lemmas.Assoc.nodup_ins upsert (fun _ _ => rfl) (fun _ _ _ _ _ => rfl) t k v h

theorem nodup_delete (t : Table σ α) (k : Nat) (h : (keys t).Nodup) : (keys (delete t k)).Nodup := by
  rw [keys_delete]; exact h.sublist List.filter_sublist

theorem nodup_foldl (key : σ → Nat) (l : List (σ × α)) (t : Table σ α) (h : (keys t).Nodup) :
    (keys (l.foldl (fun t sa => upsert t (key sa.1) sa) t)).Nodup :=
  List.foldlRecOn (motive := fun t => (keys t).Nodup) l _ h fun t ht _ _ => nodup_upsert t _ _ ht

theorem step_nodup (key : σ → Nat) (t : Table σ α) (op : Op σ α δ) (h : (keys t).Nodup) :
    (keys (Model.Csm.step key t op).1).Nodup := by
  cases op with
  | new l => exact nodup_foldl key l [] (by simp [keys])
  | updateAll l => exact nodup_foldl key l [] (by simp [keys])
  | add k s a => simp only [Model.Csm.step, addSingle]; split; exact h; exact nodup_upsert _ _ _ h
  | remove k => simp only [Model.Csm.step, removeSingle]; split; exact h; exact nodup_delete _ _ h
  | update k s a => simp only [Model.Csm.step, updateSingle]; split; exact h; exact nodup_upsert _ _ _ h
  | evalSingle env k d => exact h
  | evalAll env order => exact h

theorem run_nodup (key : σ → Nat) (ops : List (Op σ α δ)) (t : Table σ α) (h : (keys t).Nodup) :
    (keys (Model.Csm.run key t ops).1).Nodup := by
  induction ops generalizing t with
  | nil => exact h
  | cons op rest ih => exact ih _ (step_nodup key t op h)

theorem dedup_nodup (l : List Nat) : (dedup l).Nodup ∧ ∀ k, k ∈ dedup l ↔ k ∈ l := by
  induction l with
  | nil => simp [dedup]
  | cons a r ih =>
    simp only [dedup]
    split
    · rename_i ha
      refine ⟨ih.1, fun k => ?_⟩
      rw [ih.2 k, List.mem_cons]
      constructor
      · exact Or.inr
      · rintro (rfl | h); exact ha; exact h
    · rename_i ha
      refine ⟨List.nodup_cons.2 ⟨fun h => ha ((ih.2 a).1 h), ih.1⟩, fun k => ?_⟩
      simp [List.mem_cons, ih.2 k]

/-- **C03, `len`.** After every history the table holds every registered id exactly once, so `CSM::len` is the
number of ids the map is defined on — computed by `Spec.Csm.domain` from any candidate list covering them. -/
theorem c03_len_counts_registered (key : σ → Nat) (ops : List (Op σ α δ)) :
    let t := (Model.Csm.run key [] ops).1
    let m := (Spec.Csm.run key Map.empty ops).1
    (keys t).Nodup ∧ (∀ k, k ∈ keys t ↔ (m k).isSome = true) ∧ len t = (keys t).length ∧
    ∀ cands : List Nat, (∀ k, (m k).isSome = true → k ∈ cands) → len t = (domain m cands).length := by
  intro t m
  have hn : (keys t).Nodup := run_nodup key ops [] (by simp [keys])
  have hm : ∀ k, k ∈ keys t ↔ (m k).isSome = true := by
    intro k
    rw [mem_keys_iff]
    have := congrFun (c03_history_is_map key ops).1 k
    simp only [abs] at this
    rw [this]
  refine ⟨hn, hm, by simp [len, keys], fun cands hc => ?_⟩
  have hd := dedup_nodup cands
  have hdn : (domain m cands).Nodup := hd.1.sublist List.filter_sublist
  have hperm : (keys t).Perm (domain m cands) := by
    rw [List.perm_ext_iff_of_nodup hn hdn]
    intro k
    rw [hm k]
    simp only [domain, List.mem_filter, hd.2 k]
    exact ⟨fun h => ⟨hc k h, h⟩, fun h => h.2⟩
  have := hperm.length_eq
  simpa [len, keys] using this

section Examples

/-- states are numbers: verdict by residue of the data modulo 3 (`1` true, `0` false, `2` error); the state `s`
stores the data `s`; action `7` fails -/
def exEnv : Env Nat Nat Nat :=
  { eval := fun _ d => if d % 3 = 1 then .okTrue else if d % 3 = 0 then .okFalse else .err,
    stored := fun s => s,
    fire := fun a => a != 7 }

def exOps : List (Op Nat Nat Nat) :=
  [.new [(1, 10), (3, 30)], .add 4 4 40, .add 1 9 90, .update 3 7 70, .remove 1, .remove 1, .add 5 1 7]

-- table after the history: 3 ↦ (7,70), 4 ↦ (4,40), 5 ↦ (1,7); `add 1` and the second `remove 1` failed
example : (Model.Csm.run (fun s => s) [] exOps).2.map (·.ok) = [true, true, false, true, true, false, true] := by
  decide +kernel
example : keys (Model.Csm.run (fun s => s) [] exOps).1 = [3, 4, 5] := by decide +kernel
-- single evaluation: id 3 holds (7,70); data 4 ⇒ true ⇒ fires [70]; data 3 ⇒ false ⇒ nothing; data 5 ⇒ error
example : (evalSingle exEnv (Model.Csm.run (fun s => s) [] exOps).1 3 4).fired = [70] := by decide +kernel
example : evalSingle exEnv (Model.Csm.run (fun s => s) [] exOps).1 3 3 = ⟨true, [.call 7 3]⟩ := by decide +kernel
example : evalSingle exEnv (Model.Csm.run (fun s => s) [] exOps).1 3 5 = ⟨false, [.call 7 5]⟩ := by decide +kernel
-- id 5 holds (1, 7): verdict true, the action fails: fired once, error surfaces
example : evalSingle exEnv (Model.Csm.run (fun s => s) [] exOps).1 5 1 = ⟨false, [.call 1 1, .fire 7]⟩ := by decide +kernel
-- all states: order 4,3,5 hits the failing action last; order 5,… stops at once
example : Model.Csm.evalAll exEnv (Model.Csm.run (fun s => s) [] exOps).1 [4, 3, 5] =
    ⟨false, [.call 4 4, .fire 40, .call 7 7, .fire 70, .call 1 1, .fire 7]⟩ := by decide +kernel
example : Model.Csm.evalAll exEnv (Model.Csm.run (fun s => s) [] exOps).1 [5, 3, 4] =
    ⟨false, [.call 1 1, .fire 7]⟩ := by decide +kernel
-- a successful pass (hypotheses of `c03_evalAll_ok_fires_exactly`): table {3 ↦ (7,70), 4 ↦ (4,40), 6 ↦ (3,30)}
example : let t : Table Nat Nat := [(3, (7, 70)), (4, (4, 40)), (6, (3, 30))]
    (keys t).Nodup ∧ [6, 4, 3].Perm (keys t) ∧ (Model.Csm.evalAll exEnv t [6, 4, 3]).ok = true ∧
    (Model.Csm.evalAll exEnv t [6, 4, 3]).fired = [40, 70] := by decide +kernel

end Examples

end C03
