import DcVerif.Lemmas.Ring
import DcVerif.Props.C04
import DcVerif.Lemmas.RingMulti
import DcVerif.Lemmas.RingMultiPay
/-!
# C13 — a later barrier stage sees an event only after the previous stage finished it

Single-producer pipelines: for every ring size, topology, batch list, wait strategy and **every schedule** (`Reachable`):

* `c13_stage_order` — when a handler of stage `k+1` is about to be invoked for sequence `i`, every handler of stage `k` has
  already *published* a cursor ≥ `i`; a cursor is published only after the whole batch was handled, so `i` is in that
  handler's log (it has returned from handling `i`).
* `c13_chain` — handler cursors are ordered along the stages: stage `k+1` never runs ahead of stage `k`, stage 0 never
  ahead of the producer cursor.
* `c13_producer_gated_by_last_stage` / `c13_no_stage_lapped` — the producer only reads the last stage's cursors, yet while
  it writes sequence `w` *every* handler of *every* stage that is handling `i` satisfies `i < w < i + n`.

* `c13_sees_earlier_modifications` — on the slot layer (`Model/RingPay.lean`): what a handler of stage `k+1` is handed for a
  sequence is what stage `k` was handed, with stage `k`'s mutable handler (if it has one) applied — it observes all
  modifications of the previous stage. That the accesses are also *ordered* (happens-before) is R2 of C05.
Pipelines fed by the multi-producer sequencer (any number of writer threads, every schedule, `RingMulti.MReachableWF`):

* `c13_multi_stage_order` — the statement of `c13_stage_order`; the handlers are the same pc machine, and the proof
  (`stage_order_of_inv`) uses the consumer invariant only.
* `c13_multi_sees_earlier_modifications`, `c13_multi_sees_previous_stage` — the same on the slot layer of the multi-producer
  pipeline (`Model/RingMultiPay.lean`; ring sizes `2^e`, any number of writer threads, every schedule); the second form does
  not mention the written value: stage `k+1` saw what every handler of stage `k` saw, with stage `k`'s mutable handler applied.
-/
namespace C13
open Ring

/-- consumer-side fact, independent of the kind of producer, for *every* earlier stage `k' < k`, not only the previous one:
what a handler of stage `k` is about to handle has been handled and published by every handler of stage `k'` -/
theorem stage_order_of_inv (s : St) (hI : Ring.Inv s) (k j : Nat) (hk : k < s.K) (hj : j < s.h k)
    (hpc : (s.cons k j).pc = .handle) (hi : (s.cons k j).i ≤ (s.cons k j).avail)
    (k' j' : Nat) (hk' : k' < k) (hj' : j' < s.h k') :
    (s.cons k j).i ≤ (s.cons k' j').cur ∧ (s.cons k j).i ∈ (s.cons k' j').log := by
  have hc := hI.2 k j hk hj
  -- `avail` is below the dependency cursors, hence below the cursors of all earlier stages
  have hle := Nat.le_trans hi
    (le_earlier_cur s hI k _ (Nat.le_of_lt hk) (hc.availLe (by simp [hpc])) k' j' hk' hj')
  have hge := hc.iGe hpc
  have hne := hc.nextEq (by simp [hpc])
  -- a cursor is published only after the whole batch was handled: the log contains `1 … cur`
  exact ⟨hle, RingPay.mem_log_of_le_cur s hI k' j' (by omega) hj' _ (by omega) hle⟩

theorem c13_stage_order {x : PSt} (hr : Reachable x) (k j : Nat) (hk : k + 1 < x.s.K) (hj : j < x.s.h (k + 1))
    (hpc : (x.s.cons (k + 1) j).pc = .handle) (hi : (x.s.cons (k + 1) j).i ≤ (x.s.cons (k + 1) j).avail)
    (j' : Nat) (hj' : j' < x.s.h k) :
    (x.s.cons (k + 1) j).i ≤ (x.s.cons k j').cur ∧ (x.s.cons (k + 1) j).i ∈ (x.s.cons k j').log :=
  stage_order_of_inv x.s (reachable_inv hr).1 (k + 1) j hk hj hpc hi k j' (Nat.lt_succ_self k) hj'

/-- the same for pipelines fed by the multi-producer sequencer (any number of writer threads, every schedule) -/
theorem c13_multi_stage_order {x : RingMulti.MSt} (hr : RingMulti.MReachableWF x) (k j : Nat) (hk : k + 1 < x.s.K)
    (hj : j < x.s.h (k + 1)) (hpc : (x.s.cons (k + 1) j).pc = .handle)
    (hi : (x.s.cons (k + 1) j).i ≤ (x.s.cons (k + 1) j).avail) (j' : Nat) (hj' : j' < x.s.h k) :
    (x.s.cons (k + 1) j).i ≤ (x.s.cons k j').cur ∧ (x.s.cons (k + 1) j).i ∈ (x.s.cons k j').log :=
  stage_order_of_inv x.s (RingMulti.mreachableWF_good hr).2.1 (k + 1) j hk hj hpc hi k j' (Nat.lt_succ_self k) hj'

theorem c13_chain {x : PSt} (hr : Reachable x) (k j j' : Nat) (hk : k + 1 < x.s.K) (hj : j < x.s.h (k + 1))
    (hj' : j' < x.s.h k) : (x.s.cons (k + 1) j).cur ≤ (x.s.cons k j').cur ∧ (x.s.cons k j').cur ≤ x.s.cursor := by
  obtain ⟨hI, hK, hP, hb⟩ := reachable_inv hr
  have := (hI.2 (k + 1) j hk hj).curDep j' (by simpa [ndeps] using hj')
  simp only [dep, Nat.add_one_ne_zero, if_false, Nat.add_sub_cancel] at this
  exact ⟨this, chain_up x.s hI k j' (by omega) hj'⟩

/-- the producer's gate reads the cursors of the last stage only (`ngate`/`gate` of the model are the builder's wiring) … -/
theorem c13_producer_gated_by_last_stage (s : St) (d : Nat) :
    gate s d = (s.cons (s.K - 1) d).cur ∧ ngate s = s.h (s.K - 1) := ⟨rfl, rfl⟩

/-- … and that suffices: no stage is ever lapped -/
theorem c13_no_stage_lapped {x : PSt} (hr : Reachable x) (hw : x.p.pc = .write) (hww : x.p.w ≤ x.p.stop)
    (k j : Nat) (hk : k < x.s.K) (hj : j < x.s.h k)
    (hc : (x.s.cons k j).pc = .handle) (hi : (x.s.cons k j).i ≤ (x.s.cons k j).avail) :
    (x.s.cons k j).i < x.p.w ∧ x.p.w < (x.s.cons k j).i + x.s.n :=
  no_lap x (reachable_inv hr) hw hww k j hk hj hc hi

/-- a handler of stage `k+1` observes exactly the modifications made by stage `k` (and, through it, by all earlier stages) -/
theorem c13_sees_earlier_modifications {c : RingPay.PCfg} {s : RingPay.PaySt} (hr : C04.PayReachable c s) (k j : Nat)
    (hk : k + 1 < s.x.s.K) (hj : j < s.x.s.h (k + 1)) (e : Nat × Nat) (he : e ∈ s.seen (k + 1) j) :
    e.2 = (if c.mutH k 0 then c.tf k 0 (RingPay.expectBelow c k (c.pay e.1)) else RingPay.expectBelow c k (c.pay e.1)) := by
  have := C04.c04_payload_intact hr (k + 1) j hk hj e he
  simpa [RingPay.expectBelow] using this

/-! non-vacuity: a two-stage pipeline in which the second stage is inside a batch -/
def demo : PSt := runX (mk 4 2 (fun _ => 1) false [2, 1])
  ((List.replicate 11 Tid.prod) ++ (List.replicate 8 (Tid.cons 0 0)) ++ (List.replicate 4 (Tid.cons 1 0)))

example : (demo.s.cons 1 0).pc = .handle ∧ (demo.s.cons 1 0).i = 1 ∧ (demo.s.cons 1 0).avail = 2 ∧
    (demo.s.cons 0 0).cur = 2 ∧ (demo.s.cons 0 0).log = [1, 2] := by decide +kernel

section MultiPayload
open RingMulti RingPay RingMultiPay

/-- a handler of stage `k+1` observes exactly the modifications made by stage `k` (and, through it, by all earlier stages) to
the value written for the sequence (`val`: the value of the one slot write of that sequence, `C04.c04_multi_written_once`) —
every ring size `2^e`, topology with mutable handlers alone in their stage, number of writers, batch lists, every schedule -/
theorem c13_multi_sees_earlier_modifications {c : MPCfg} {s : MPaySt} (hr : C04.MPayReachable c s) (k j : Nat)
    (hk : k + 1 < s.x.s.K) (hj : j < s.x.s.h (k + 1)) (e : Nat × Nat) (he : e ∈ s.seen (k + 1) j) :
    e.2 = (if c.mutH k 0 then c.tf k 0 (expectBelow c.hc k (s.val e.1)) else expectBelow c.hc k (s.val e.1)) := by
  have := C04.c04_multi_payload_intact_val hr (k + 1) j hk hj e he
  simp only [expectBelow, hc_mutH, hc_tf] at this
  exact this

/-- the same without reference to the written value: whatever a handler of stage `k+1` was handed for a sequence, *every*
handler of stage `k` was handed that sequence too, and the later stage saw what the earlier stage saw with the earlier stage's
mutable handler (if it has one) applied — nothing else happened to the event in between -/
theorem c13_multi_sees_previous_stage {c : MPCfg} {s : MPaySt} (hr : C04.MPayReachable c s) (k j : Nat)
    (hk : k + 1 < s.x.s.K) (hj : j < s.x.s.h (k + 1)) (e : Nat × Nat) (he : e ∈ s.seen (k + 1) j)
    (j' : Nat) (hj' : j' < s.x.s.h k) :
    ∃ v, (e.1, v) ∈ s.seen k j' ∧ e.2 = (if c.mutH k 0 then c.tf k 0 v else v) := by
  have hg := C04.mpayReachable_good hr
  have hI := hg.safe.1.1.1.2.1
  -- `e.1` is in the log of the later handler, hence at most its progress, hence at most the earlier handler's cursor
  have hlog : e.1 ∈ (s.x.s.cons (k + 1) j).log := by
    rw [← hg.seen (k + 1) j]; exact List.mem_map.2 ⟨e, he, rfl⟩
  obtain ⟨hpre, _⟩ := C04.log_prefix_of_inv s.x.s hI (k + 1) j hk hj
  rw [hpre, List.mem_range'_1] at hlog
  have hle := progress_le_earlier_cur s.x.s hI (k + 1) j hk hj k j' (Nat.lt_succ_self k) hj'
  have hmem : e.1 ∈ (s.x.s.cons k j').log :=
    mem_log_of_le_cur s.x.s hI k j' (by omega) hj' e.1 hlog.1 (by
      have : C04.progress (s.x.s.cons (k + 1) j) = RingPay.progress (s.x.s.cons (k + 1) j) := rfl
      omega)
  rw [← hg.seen k j'] at hmem
  obtain ⟨e', he', hfst⟩ := List.mem_map.1 hmem
  have h1 := C04.c04_multi_payload_intact_val hr k j' (by omega) hj' e' he'
  have h2 := c13_multi_sees_earlier_modifications hr k j hk hj e he
  refine ⟨e'.2, ?_, ?_⟩
  · rw [← hfst]; exact he'
  · rw [h2, h1, hfst]

/-- non-vacuity: the run of `C04.demoMPay` (two writers, interleaved writes, the ring wraps) -/
example : (5, 3006) ∈ C04.demoMPay.seen 1 0 ∧ (5, 1002) ∈ C04.demoMPay.seen 0 0 ∧
    C04.demoMCfg.mutH 0 0 = true ∧ C04.demoMCfg.tf 0 0 1002 = 3006 := by decide +kernel

end MultiPayload

end C13
