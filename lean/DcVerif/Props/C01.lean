import DcVerif.Lemmas.CausalGraph
import DcVerif.Lemmas.CausalSpec
/-!
# C01 — graph reasoning verdict = conjunction over all reachable causaloids

Model: `CausalGraph.reasonFromTo / reasonAll / reasonSub` (`Model/CausalGraph.lean`), a line-by-line transcription of
`graph_reasoning.rs` over graphs of singleton causaloids built by `add_causaloid / add_root_causaloid / add_edge` only.
The traversal loop is the stack machine of `Lemmas/GraphDfs.lean` (`loopT_toV`), no visited set, early exit on `child == stop_index`.

All of it follows from one theorem about every graph, `reason_spec` (the answer is the conjunction over the reachable set).
The statements are for every add-only history `ops`, every start index, every data vector and optional data index
(observations routed by causaloid id or through the index — `evalAt`), every assignment of causal functions; every answer of
the model is accepted by the executable statement the driver judges the implementation with (`model_allowed`,
`model_flags_allowed`: `CausalSpec.allowed / flagsAllowed` over the Floyd–Warshall reachable set, exact by
`CausalGraph.reachable_iff`).
Outside the statement (modelled and compared, not specified): a reachable causaloid without observation (`get_obs` panics),
cyclic graphs (the traversal need not terminate), graphs with removals (the stop index may then be live, DESIGN §6).
-/
namespace C01
open CausalGraph
open Dfs (V)

/-- `stop_index = get_last_index()` is not a live index: the early exit `child == stop_index` never fires -/
theorem addOnly_stop_not_live (ops : List Op) : contains (build ops) (lastIndex (build ops)) = false := by
  cases h : contains (build ops) (lastIndex (build ops)) with
  | false => rfl
  | true =>
    have := ((wf_build ops).idx _).1 h
    rw [lastIndex_eq_upper (wf_build ops)] at this
    exact absurd this (Nat.lt_irrefl _)

theorem stop_unreachable (ops : List Op) (start : Nat) (hc : contains (build ops) start = true) (v : Nat)
    (h : Reach (build ops) start v) : v ≠ lastIndex (build ops) := by
  have := reach_lt _ start v h (((wf_build ops).idx start).1 hc)
  rw [lastIndex_eq_upper (wf_build ops)]; omega

example : contains (build [.root ⟨7, .plain⟩, .add ⟨3, .inv⟩, .edge 0 1 0]) 1 = true ∧
    lastIndex (build [.root ⟨7, .plain⟩, .add ⟨3, .inv⟩, .edge 0 1 0]) = 2 := by decide

theorem reason_cases (g : CG) (start stop : Nat) (data : List Nat) (idx : Option (List (Nat × Nat))) :
    (∃ p, ∀ fuel, reasonFromTo fuel g start stop data idx = some p) ∨
    ∀ fuel, reasonFromTo fuel g start stop data idx =
      (loopT (out g) (evalAt g data idx) stop fuel [out g start] [start]).map fun p => (p.1, p.2.reverse) := by
  unfold reasonFromTo
  split; · exact Or.inl ⟨_, fun _ => rfl⟩
  split; · exact Or.inl ⟨_, fun _ => rfl⟩
  split; · exact Or.inl ⟨_, fun _ => rfl⟩
  split
  · exact Or.inl ⟨_, fun _ => rfl⟩
  · exact Or.inl ⟨_, fun _ => rfl⟩
  · exact Or.inl ⟨_, fun _ => rfl⟩
  · exact Or.inr fun _ => rfl

/-- on an acyclic graph `reason_from_to_cause` returns, for every start/stop/data (fuel existential) -/
theorem reason_terminates (g : CG) (hac : Acyclic g) (start stop : Nat) (data : List Nat)
    (idx : Option (List (Nat × Nat))) : ∃ fuel r, reasonFromTo fuel g start stop data idx = some r := by
  rcases reason_cases g start stop data idx with ⟨p, hp⟩ | hl
  · exact ⟨0, p, hp 0⟩
  · obtain ⟨rank, hr⟩ := hac
    obtain ⟨fuel, p, hp⟩ := Causal.loopT_terminates (ev := evalAt g data idx) (stop := stop) rank hr [out g start] [start]
    exact ⟨fuel, _, by rw [hl, hp]; rfl⟩

theorem reason_mono (g : CG) (fuel fuel' start stop : Nat) (data : List Nat) (idx : Option (List (Nat × Nat)))
    (p : Res × List Nat) (hle : fuel ≤ fuel') (h : reasonFromTo fuel g start stop data idx = some p) :
    reasonFromTo fuel' g start stop data idx = some p := by
  rcases reason_cases g start stop data idx with ⟨q, hq⟩ | hl
  · rw [hq] at h ⊢; exact h
  · rw [hl] at h ⊢
    obtain ⟨⟨r, acc⟩, hr, hp⟩ := Option.map_eq_some_iff.1 h
    rw [loopT_mono (fun _ _ h => h) (fun _ _ h => h) hle hr]; exact congrArg some hp

/-- the answer does not depend on the fuel: any two fuels that suffice give the same result and the same log -/
theorem reason_fuel_irrelevant (g : CG) (f1 f2 start stop : Nat) (data : List Nat) (idx : Option (List (Nat × Nat)))
    (r1 r2 : Res × List Nat) (h1 : reasonFromTo f1 g start stop data idx = some r1)
    (h2 : reasonFromTo f2 g start stop data idx = some r2) : r1 = r2 := by
  rcases Nat.le_total f1 f2 with hle | hle
  · exact Option.some.inj ((reason_mono g f1 f2 start stop data idx r1 hle h1).symm.trans h2)
  · exact Option.some.inj (h1.symm.trans (reason_mono g f2 f1 start stop data idx r2 hle h2))

theorem contains_nodeCount (g : CG) (hw : WF g) (i : Nat) (h : contains g i = true) : nodeCount g ≠ 0 := by
  have := (hw.idx i).1 h
  unfold nodeCount; omega

/-- **C01 in one statement**, for every graph, stop index and fuel. A call that answered either failed a guard (`Err`,
    nothing evaluated), or: it evaluated reachable causaloids only; after `Ok(true)` all evaluated ones are true, and they are
    all reachable ones unless `stop` is among them; any other answer is the verdict of a reachable causaloid (a panic: a
    missing observation). When `stop` is not reachable these are the two clauses of `Dfs.Agrees r.toOV` over the verdicts of
    the reachable set. -/
theorem reason_spec {fuel : Nat} {g : CG} {start stop : Nat} {data : List Nat} {idx : Option (List (Nat × Nat))} {r : Res}
    {log : List Nat} (h : reasonFromTo fuel g start stop data idx = some (r, log)) :
    (r = .err ∧ log = [] ∧ ¬ (nodeCount g ≠ 0 ∧ data ≠ [] ∧ contains g start = true)) ∨
    (data ≠ [] ∧ contains g start = true ∧ (∀ v ∈ log, Reach g start v) ∧
      (r = .ok true → (∀ v ∈ log, evalAt g data idx v = some .t) ∧
        ((∀ v, Reach g start v → v ≠ stop) → ∀ v, Reach g start v → v ∈ log)) ∧
      (r ≠ .ok true → ∃ v, Reach g start v ∧ evalAt g data idx v = r.toOV)) := by
  unfold reasonFromTo at h
  split at h
  · rename_i hn; cases h; exact Or.inl ⟨rfl, rfl, fun hh => hh.1 hn⟩
  split at h
  · rename_i hd; cases h; exact Or.inl ⟨rfl, rfl, fun hh => hh.2.1 (List.isEmpty_iff.1 hd)⟩
  split at h
  · rename_i hc; cases h; exact Or.inl ⟨rfl, rfl, fun hh => by simp [hh.2.2] at hc⟩
  rename_i hd hc
  refine Or.inr ⟨fun h0 => hd (List.isEmpty_iff.2 h0), by simpa using hc, ?_⟩
  have hself : Reach g start start := Dfs.Reach.refl _
  split at h
  · rename_i hev; cases h
    exact ⟨by simp, by simp, fun _ => ⟨start, hself, hev⟩⟩
  · rename_i hev; cases h
    exact ⟨by simp [hself], by simp, fun _ => ⟨start, hself, hev⟩⟩
  · rename_i hev; cases h
    exact ⟨by simp [hself], by simp, fun _ => ⟨start, hself, hev⟩⟩
  · rename_i hev
    obtain ⟨⟨r', acc⟩, hl, hp⟩ := Option.map_eq_some_iff.1 h
    cases hp
    obtain ⟨l, hacc, hon, htrue⟩ := loopT_log hl
    have hR : ∀ v, Reach g start v ↔ v = start ∨ Dfs.OnStack (Dfs.gOf (out g) (evalAt g data idx)) [out g start] v :=
      fun v => (reach_gOf g _ start v).symm.trans (Dfs.reach_start _ start v)
    have hlog : ∀ v, v ∈ acc.reverse ↔ v ∈ l ∨ v = start := by simp [hacc, or_comm]
    refine ⟨fun v hv => ?_, ?_, fun hr => ?_⟩
    · rcases (hlog v).1 hv with hv | hv
      · exact (hR v).2 (Or.inr (hon v hv))
      · exact (hR v).2 (Or.inl hv)
    · rintro rfl
      refine ⟨fun v hv => ?_, fun hs v hv => ?_⟩
      · rcases (hlog v).1 hv with hv | rfl
        · exact htrue rfl v hv
        · exact hev
      · rcases (hR v).1 hv with rfl | hv
        · exact (hlog _).2 (Or.inr rfl)
        · exact List.mem_reverse.2 (loopT_true (fun u hu => hs u ((hR u).2 (Or.inr hu))) hl v hv).2
    · obtain ⟨v, hv, he, _⟩ := loopT_witness hl hr
      exact ⟨v, (hR v).2 (Or.inr hv), he⟩

theorem reason_build {ops : List Op} {fuel start : Nat} {data : List Nat} {idx : Option (List (Nat × Nat))} {r : Res}
    {log : List Nat} (h : reasonFromTo fuel (build ops) start (lastIndex (build ops)) data idx = some (r, log))
    (hd : data ≠ []) (hc : contains (build ops) start = true) :
    (r = .ok true → ∀ v, Reach (build ops) start v → v ∈ log ∧ evalAt (build ops) data idx v = some .t) ∧
    (r ≠ .ok true → ∃ v, Reach (build ops) start v ∧ evalAt (build ops) data idx v = r.toOV) := by
  rcases reason_spec h with ⟨_, _, h0⟩ | ⟨_, _, _, ht, hw⟩
  · exact absurd ⟨contains_nodeCount _ (wf_build ops) start hc, hd, hc⟩ h0
  · exact ⟨fun hr v hv => have hm := (ht hr).2 (stop_unreachable ops start hc) v hv; ⟨hm, (ht hr).1 v hm⟩, hw⟩

theorem reason_true_of_all (ops : List Op) (start : Nat) (data : List Nat) (idx : Option (List (Nat × Nat)))
    (hd : data ≠ []) (hc : contains (build ops) start = true)
    (hall : ∀ v, Reach (build ops) start v → evalAt (build ops) data idx v = some .t) :
    ∀ fuel r log, reasonFromTo fuel (build ops) start (lastIndex (build ops)) data idx = some (r, log) → r = .ok true := by
  intro fuel r log h
  refine Classical.byContradiction fun hr => ?_
  obtain ⟨v, hv, he⟩ := (reason_build h hd hc).2 hr
  exact hr (toOV_t.1 (he.symm.trans (hall v hv)))

/-- **C01, error case (1)**: if some reachable causaloid does not evaluate to true (in particular: its causal function
    reports an error, or it has no observation), the result is never `Ok(true)` -/
theorem reason_err_never_true (ops : List Op) (start : Nat) (data : List Nat) (idx : Option (List (Nat × Nat)))
    (v : Nat) (hv : Reach (build ops) start v) (he : evalAt (build ops) data idx v ≠ some .t) :
    ∀ fuel log, reasonFromTo fuel (build ops) start (lastIndex (build ops)) data idx ≠ some (.ok true, log) := by
  intro fuel log h
  rcases reason_spec h with ⟨hr, _⟩ | ⟨hd, hc, _⟩
  · cases hr
  · exact he ((reason_build h hd hc).1 rfl v hv).2

/-- **C01, true case**: on an acyclic graph built by adds only, `reason_from_to_cause(start, last_index, data, data_index)`
    returns `Ok(true)` iff the data are non-empty, `start` exists and every causaloid reachable from `start` evaluates to
    true on the observation routed to it. -/
theorem reason_true_iff (ops : List Op) (hac : Acyclic (build ops)) (start : Nat) (data : List Nat)
    (idx : Option (List (Nat × Nat))) :
    (∃ fuel log, reasonFromTo fuel (build ops) start (lastIndex (build ops)) data idx = some (.ok true, log)) ↔
      (data ≠ [] ∧ contains (build ops) start = true ∧
        ∀ v, Reach (build ops) start v → evalAt (build ops) data idx v = some .t) := by
  constructor
  · rintro ⟨fuel, log, h⟩
    rcases reason_spec h with ⟨hr, _⟩ | ⟨hd, hc, _⟩
    · cases hr
    · exact ⟨hd, hc, fun v hv => ((reason_build h hd hc).1 rfl v hv).2⟩
  · rintro ⟨hd, hc, hall⟩
    obtain ⟨fuel, ⟨r, log⟩, h⟩ := reason_terminates (build ops) hac start (lastIndex (build ops)) data idx
    exact ⟨fuel, log, by rw [h, reason_true_of_all ops start data idx hd hc hall fuel r log h]⟩

/-- **C01, false case**: if every causaloid reachable from `start` has an observation and none of them errs, and one of
    them evaluates to false, every answer of the call is `Ok(false)` — and on an acyclic graph the call does answer. -/
theorem reason_false (ops : List Op) (start : Nat) (data : List Nat) (idx : Option (List (Nat × Nat)))
    (hd : data ≠ []) (hc : contains (build ops) start = true)
    (hne : ∀ v, Reach (build ops) start v →
      evalAt (build ops) data idx v = some .t ∨ evalAt (build ops) data idx v = some .f)
    (hex : ∃ v, Reach (build ops) start v ∧ evalAt (build ops) data idx v = some .f) :
    (∀ fuel r log, reasonFromTo fuel (build ops) start (lastIndex (build ops)) data idx = some (r, log) → r = .ok false) ∧
    (Acyclic (build ops) →
      ∃ fuel log, reasonFromTo fuel (build ops) start (lastIndex (build ops)) data idx = some (.ok false, log)) := by
  have main : ∀ fuel r log, reasonFromTo fuel (build ops) start (lastIndex (build ops)) data idx = some (r, log) →
      r = .ok false := by
    intro fuel r log h
    obtain ⟨u, hu, hf⟩ := hex
    have hr : r ≠ .ok true := fun hr => by
      have := ((reason_build h hd hc).1 hr u hu).2; rw [hf] at this; cases this
    obtain ⟨v, hv, he⟩ := (reason_build h hd hc).2 hr
    rcases hne v hv with h1 | h1
    · exact absurd (toOV_t.1 (he.symm.trans h1)) hr
    · rw [h1] at he
      match r, he with
      | .ok false, _ => rfl
  refine ⟨main, fun hac => ?_⟩
  obtain ⟨fuel, ⟨r, log⟩, h⟩ := reason_terminates (build ops) hac start (lastIndex (build ops)) data idx
  exact ⟨fuel, log, by rw [h, main fuel r log h]⟩

/-- **C01, error case (2)**: if every reachable causaloid has an observation and one of them errs, the answer is `Err` or
    `Ok(false)` — it is the verdict of the first non-true causaloid in depth-first order, see the two witnesses below. -/
theorem reason_err_or_false (ops : List Op) (start : Nat) (data : List Nat) (idx : Option (List (Nat × Nat)))
    (hd : data ≠ []) (hc : contains (build ops) start = true)
    (hdef : ∀ v, Reach (build ops) start v → evalAt (build ops) data idx v ≠ none)
    (v : Nat) (hv : Reach (build ops) start v) (he : evalAt (build ops) data idx v = some .e) :
    ∀ fuel r log, reasonFromTo fuel (build ops) start (lastIndex (build ops)) data idx = some (r, log) →
      r = .err ∨ r = .ok false := by
  intro fuel r log h
  match r with
  | .err => exact Or.inl rfl
  | .ok false => exact Or.inr rfl
  | .ok true => exact absurd h (reason_err_never_true ops start data idx v hv (by rw [he]; simp) fuel log)
  | .panic =>
    obtain ⟨u, hu, hnone⟩ := (reason_build h hd hc).2 (by simp)
    exact absurd hnone (hdef u hu)

def fork : List Op := [.root ⟨0, .plain⟩, .add ⟨1, .plain⟩, .add ⟨2, .plain⟩, .edge 0 1 0, .edge 0 2 0]

/-- node 1 errs, node 2 is false: the error is met first, the call returns `Err` after evaluating 0 and 1 -/
theorem witness_err_first : reasonFromTo 10 (build fork) 0 (lastIndex (build fork)) [0, 5, 7] none = some (.err, [0, 1]) := by
  decide

/-- node 1 is false, node 2 errs: the false is met first, the call returns `Ok(false)`; node 2 is never evaluated -/
theorem witness_false_first :
    reasonFromTo 10 (build fork) 0 (lastIndex (build fork)) [0, 4, 8] none = some (.ok false, [0, 1]) := by
  decide

theorem fork_reach_lt (v : Nat) (h : Reach (build fork) 0 v) : v < 3 := by
  have := reach_lt _ 0 v h (by decide)
  have h3 : (build fork).upper = 3 := by decide
  omega

/-- hypotheses of `reason_false` are satisfiable: node 1 false, everything else true -/
example : ∀ fuel r log, reasonFromTo fuel (build fork) 0 (lastIndex (build fork)) [0, 4, 6] none = some (r, log) → r = .ok false :=
  (reason_false fork 0 [0, 4, 6] none (by decide) (by decide)
    (fun v hv => by
      have key : ∀ v, v < 3 → evalAt (build fork) [0, 4, 6] none v = some .t ∨ evalAt (build fork) [0, 4, 6] none v = some .f := by
        decide
      exact key v (fork_reach_lt v hv))
    ⟨1, Dfs.Reach.step (g := toG (build fork) [] none) (by decide) (Dfs.Reach.refl _), by decide⟩).1

/-- hypotheses of `reason_err_or_false` are satisfiable: node 1 errs, node 2 is false, all have observations -/
example : ∀ fuel r log, reasonFromTo fuel (build fork) 0 (lastIndex (build fork)) [0, 5, 7] none = some (r, log) →
    r = .err ∨ r = .ok false :=
  reason_err_or_false fork 0 [0, 5, 7] none (by decide) (by decide)
    (fun v hv => by
      have key : ∀ v, v < 3 → evalAt (build fork) [0, 5, 7] none v ≠ none := by decide
      exact key v (fork_reach_lt v hv))
    1 (Dfs.Reach.step (g := toG (build fork) [] none) (by decide) (Dfs.Reach.refl _)) (by decide)

/-- `reason_all_causes` = `reason_from_to_cause(root, last_index)`; error when there is no root (the `expect` on
    `get_last_index` never fires) -/
theorem reasonAll_eq (ops : List Op) (fuel : Nat) (data : List Nat) (idx : Option (List (Nat × Nat))) :
    reasonAll fuel (build ops) data idx =
      match (build ops).root with
      | none => some (.err, [])
      | some r => reasonFromTo fuel (build ops) r (lastIndex (build ops)) data idx := by
  unfold reasonAll
  cases hr : (build ops).root with
  | none => rfl
  | some r =>
    have := contains_nodeCount _ (wf_build ops) r (((wf_build ops).idx r).2 ((wf_build ops).root r hr))
    simp [this]

/-- `reason_subgraph_from_cause(start)` = `reason_from_to_cause(start, last_index)` (the empty-graph guard is subsumed) -/
theorem reasonSub_eq (ops : List Op) (fuel start : Nat) (data : List Nat) (idx : Option (List (Nat × Nat))) :
    reasonSub fuel (build ops) start data idx = reasonFromTo fuel (build ops) start (lastIndex (build ops)) data idx := by
  unfold reasonSub
  by_cases h : nodeCount (build ops) = 0
  · simp [h, reasonFromTo]
  · simp [h]

/-- only causaloids reachable from `start` are ever evaluated (any graph, any stop index, any fuel) -/
theorem reason_log_reachable (g : CG) (fuel start stop : Nat) (data : List Nat) (idx : Option (List (Nat × Nat)))
    (r : Res) (log : List Nat) (h : reasonFromTo fuel g start stop data idx = some (r, log)) :
    ∀ v, v ∈ log → Reach g start v := by
  rcases reason_spec h with ⟨_, rfl, _⟩ | ⟨_, _, hlog, _⟩
  · simp
  · exact hlog

/-- activation flags: a causaloid that is not reachable from `start` keeps its flag, whatever the call answers -/
theorem reason_flags_unreachable (g : CG) (fuel start stop : Nat) (data : List Nat) (idx : Option (List (Nat × Nat)))
    (r : Res) (log : List Nat) (h : reasonFromTo fuel g start stop data idx = some (r, log)) (flags : List Bool) (v : Nat)
    (hv : ¬ Reach g start v) : (applyLog (evalAt g data idx) flags log)[v]? = flags[v]? :=
  applyLog_not_mem _ v log flags (fun hm => hv (reason_log_reachable g fuel start stop data idx r log h v hm))

/-- activation flags after `Ok(true)`: exactly the reachable causaloids are active-by-this-call, the others unchanged -/
theorem reason_true_flags (ops : List Op) (fuel start : Nat) (data : List Nat) (idx : Option (List (Nat × Nat)))
    (log : List Nat) (h : reasonFromTo fuel (build ops) start (lastIndex (build ops)) data idx = some (.ok true, log))
    (flags : List Bool) (hlen : flags.length = lastIndex (build ops)) (v : Nat) :
    (Reach (build ops) start v → (applyLog (evalAt (build ops) data idx) flags log)[v]? = some true) ∧
    (¬ Reach (build ops) start v → (applyLog (evalAt (build ops) data idx) flags log)[v]? = flags[v]?) := by
  refine ⟨fun hv => ?_, reason_flags_unreachable _ fuel start _ data idx _ log h flags v⟩
  rcases reason_spec h with ⟨hr, _⟩ | ⟨hd, hc, _, ht, _⟩
  · cases hr
  · have hlt : v < flags.length := by
      rw [hlen, lastIndex_eq_upper (wf_build ops)]
      exact reach_lt _ start v hv (((wf_build ops).idx start).1 hc)
    exact applyLog_all_true _ v log flags (ht rfl).1 ((reason_build h hd hc).1 rfl v hv).1 hlt

/-- **model ⊨ spec (verdict)**: whatever `reason_from_to_cause(start, last_index)` answers on an add-only graph is a result
    the executable statement of C01 (`CausalSpec.allowed` over the Floyd–Warshall reachable set) allows -/
theorem model_allowed (ops : List Op) (start : Nat) (data : List Nat) (idx : Option (List (Nat × Nat)))
    (hd : data ≠ []) (hc : contains (build ops) start = true) (fuel : Nat) (r : Res) (log : List Nat)
    (h : reasonFromTo fuel (build ops) start (lastIndex (build ops)) data idx = some (r, log)) :
    CausalSpec.allowed ((CausalSpec.reachSet (build ops) (CausalSpec.table (build ops)) start).map
      (CausalSpec.verdictAt (build ops) data idx)) r = true := by
  have hw := wf_build ops
  have hmem : ∀ x, x ∈ (CausalSpec.reachSet (build ops) (CausalSpec.table (build ops)) start).map
      (CausalSpec.verdictAt (build ops) data idx) ↔ ∃ v, Reach (build ops) start v ∧ evalAt (build ops) data idx v = x := by
    intro x
    simp only [List.mem_map, mem_reachSet _ hw start _ ((hw.idx start).1 hc), verdictAt_eq_evalAt _ hw]
  rw [allowed_eq_conj]
  refine Dfs.conj_of_agrees ⟨fun hr l hl => ?_, fun hr => (hmem _).2 ((reason_build h hd hc).2 (mt toOV_t.2 hr))⟩
  obtain ⟨v, hv, rfl⟩ := (hmem l).1 hl
  exact ((reason_build h hd hc).1 (toOV_t.1 hr) v hv).2

/-- **model ⊨ spec (side effects)**: the flags after the call are accepted by `CausalSpec.flagsAllowed` -/
theorem model_flags_allowed (ops : List Op) (start : Nat) (data : List Nat) (idx : Option (List (Nat × Nat)))
    (hc : contains (build ops) start = true) (fuel : Nat) (r : Res) (log : List Nat)
    (h : reasonFromTo fuel (build ops) start (lastIndex (build ops)) data idx = some (r, log))
    (flags : List Bool) (hlen : flags.length = lastIndex (build ops)) :
    CausalSpec.flagsAllowed (CausalSpec.reachSet (build ops) (CausalSpec.table (build ops)) start) r flags
      (applyLog (evalAt (build ops) data idx) flags log) = true := by
  have hw := wf_build ops
  have hs : start < (build ops).upper := (hw.idx start).1 hc
  unfold CausalSpec.flagsAllowed
  simp only [Bool.and_eq_true, beq_iff_eq, List.all_eq_true, List.mem_range, applyLog_length, true_and]
  intro i _
  split
  · rename_i hi
    have hreach : Reach (build ops) start i := (mem_reachSet _ hw start i hs).1 (by simpa using hi)
    cases r with
    | ok b =>
      cases b with
      | false => simp
      | true => simp [(reason_true_flags ops fuel start data idx log h flags hlen i).1 hreach]
    | err => simp
    | panic => simp
  · rename_i hi
    have hreach : ¬ Reach (build ops) start i := fun hr => hi (by simpa using (mem_reachSet _ hw start i hs).2 hr)
    simp [reason_flags_unreachable _ fuel start _ data idx r log h flags i hreach]

/-- indices 0..4, ids 4,2,3,0,1; edges 0→1, 0→2, 1→3, 2→3, 3→4 (node 3 is visited twice: no visited set) -/
def diamond : List Op :=
  [.root ⟨4, .plain⟩, .add ⟨2, .inv⟩, .add ⟨3, .ctx 1⟩, .add ⟨0, .plain⟩, .add ⟨1, .plain⟩,
   .edge 2 3 0, .edge 0 2 0, .edge 0 1 0, .edge 1 3 0, .edge 3 4 0]

theorem diamond_acyclic : Acyclic (build diamond) :=
  ⟨fun v => 5 - v, by
    intro a b h
    simp only [out, List.mem_filter, List.mem_range] at h
    have h1 : b < 5 := h.1
    have h2 := h.2
    have hadj : ∀ e, e ∈ (build diamond).adj → e.1 < 5 := by decide
    have ha : a < 5 := by
      simp only [hasEdge, List.any_eq_true, Bool.and_eq_true, beq_iff_eq] at h2
      obtain ⟨e, he, h3, _⟩ := h2
      have := hadj e he; omega
    have key : ∀ a, a < 5 → ∀ b, b < 5 → hasEdge (build diamond) a b = true → a < b := by decide
    have := key a ha b h1 h2
    show 5 - b < 5 - a
    omega⟩

example : reasonFromTo 100 (build diamond) 0 (lastIndex (build diamond)) [0, 3, 4, 5, 12] none
    = some (.ok true, [0, 1, 3, 4, 2, 3, 4]) := by decide

example : ∃ fuel log, reasonFromTo fuel (build diamond) 0 (lastIndex (build diamond)) [0, 3, 4, 5, 12] none
    = some (.ok true, log) :=
  (reason_true_iff diamond diamond_acyclic 0 [0, 3, 4, 5, 12] none).2 ⟨by decide, by decide, by
    intro v hv
    have hlt := reach_lt _ 0 v hv (by decide)
    have : (build diamond).upper = 5 := by decide
    rw [this] at hlt
    have key : ∀ v, v < 5 → evalAt (build diamond) [0, 3, 4, 5, 12] none v = some .t := by decide
    exact key v hlt⟩

end C01
