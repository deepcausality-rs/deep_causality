import DcVerif.Model.Reasoning
/-!
# C18 — collection reasoning aggregates obey their counting laws

Model: `Model.Reasoning` (the default methods of `AssumableReasoning`, `InferableReasoning`,
`ObservableReasoning` over `get_all_items()`, `Assumption::verify_assumption`). Spec: `Spec.Reasoning`
(`count`, `percent`, `tested`/`valid` over a verdict history, `totalCmp`).

All statements hold for every collection content and every member predicate: the comparisons on `f64`
(`total_cmp`, the truncating 4-decimal `approx_equal`, `>=`, `==`) enter only as arbitrary functions
`cmp : κ → κ → Ordering`, `approx/ge/eq : κ → κ → Bool` on an arbitrary key type `κ`; nothing about floats is assumed.
Percentages are exact rationals; the hypothesis `items ≠ []` is the property's "non-empty collection".
-/
namespace C18
open Spec.Reasoning Model.Reasoning

variable {ι κ δ : Type}

theorem count_eq_filter_length (p : ι → Bool) (l : List ι) : count p l = (l.filter p).length := by
  induction l with
  | nil => rfl
  | cons a r ih => simp only [count, List.filter_cons, ih]; split <;> simp <;> omega

theorem count_le_length (p : ι → Bool) (l : List ι) : count p l ≤ l.length := by
  rw [count_eq_filter_length]; exact List.length_filter_le p l

theorem filter_partition (p : ι → Bool) (l : List ι) :
    (l.filter p ++ l.filter (fun a => !p a)).Perm l ∧
    (∀ a, a ∈ l.filter p → a ∉ l.filter (fun a => !p a)) ∧
    count p l + count (fun a => !p a) l = l.length := by
  refine ⟨List.filter_append_perm p l, ?_, ?_⟩
  · intro a h1 h2
    simp only [List.mem_filter] at h1 h2
    simp [h1.2] at h2
  · rw [count_eq_filter_length, count_eq_filter_length, ← List.length_append]
    exact (List.filter_append_perm p l).length_eq

theorem length_filter_add_le (p q : ι → Bool) (h : ∀ a, ¬(p a = true ∧ q a = true)) (l : List ι) :
    (l.filter p).length + (l.filter q).length ≤ l.length := by
  induction l with
  | nil => simp
  | cons a r ih =>
    have := h a
    simp only [List.filter_cons, List.length_cons]
    cases h1 : p a <;> cases h2 : q a <;> simp_all <;> omega

/-- the model's early-return loops (`for … { if !p { return false } } true`) are `List.all` … -/
theorem allLoop_eq_all (p : ι → Bool) (loop : List ι → Bool) (hnil : loop [] = true)
    (hcons : ∀ a r, loop (a :: r) = if !p a then false else loop r) (l : List ι) : loop l = l.all p := by
  induction l with
  | nil => simp [hnil]
  | cons a r ih => rw [hcons, ih]; cases h : p a <;> simp [h]

/-- … and `List.any` (`for … { if p { return true } } false`) -/
theorem anyLoop_eq_any (p : ι → Bool) (loop : List ι → Bool) (hnil : loop [] = false)
    (hcons : ∀ a r, loop (a :: r) = if p a then true else loop r) (l : List ι) : loop l = l.any p := by
  induction l with
  | nil => simp [hnil]
  | cons a r ih => rw [hcons, ih]; cases h : p a <;> simp [h]

theorem allTested_eq_all (tested : ι → Bool) (l : List ι) : allTested tested l = l.all tested :=
  allLoop_eq_all _ _ rfl (fun _ _ => rfl) l

theorem allValid_eq_all (valid : ι → Bool) (l : List ι) : allValid valid l = l.all valid :=
  allLoop_eq_all _ _ rfl (fun _ _ => rfl) l

section
variable (cmp : κ → κ → Ordering) (approx : κ → κ → Bool) (l : List (Inference κ))

theorem allInferable_eq_all : allInferable cmp approx l = l.all (isInferable cmp approx) :=
  allLoop_eq_all _ _ rfl (fun _ _ => rfl) l

theorem allInverseInferable_eq_all : allInverseInferable cmp approx l = l.all (isInverseInferable cmp approx) :=
  allLoop_eq_all _ _ rfl (fun _ _ => rfl) l

/-- `all_non_inferable` asks whether *some* member is both -/
theorem allNonInferable_eq_any :
    allNonInferable cmp approx l = l.any (fun e => isInverseInferable cmp approx e && isInferable cmp approx e) :=
  anyLoop_eq_any _ _ rfl (fun _ _ => rfl) l

end

theorem all_loop_iff (p : ι → Bool) (loop : List ι → Bool) (hnil : loop [] = true)
    (hcons : ∀ a r, loop (a :: r) = if !p a then false else loop r) (l : List ι) :
    loop l = true ↔ ∀ a ∈ l, p a = true := by
  rw [allLoop_eq_all p loop hnil hcons, List.all_eq_true]

theorem percent_mul (scale k n : Nat) (hn : n ≠ 0) : percent scale k n * (n : Rat) = (scale : Rat) * (k : Rat) := by
  have : (n : Rat) ≠ 0 := by exact_mod_cast hn
  unfold percent; grind

theorem percentOf_mul (k n : Nat) (hn : n ≠ 0) : percentOf k n * (n : Rat) = 100 * (k : Rat) :=
  percent_mul 100 k n hn

/-- **counts and "all" answers of `AssumableReasoning`**, for every collection and arbitrary flag readers -/
theorem c18_assumable_counts (tested valid : ι → Bool) (items : List ι) :
    numberValid valid items = count valid items ∧
    (allTested tested items = true ↔ ∀ a ∈ items, tested a = true) ∧
    (allValid valid items = true ↔ ∀ a ∈ items, valid a = true) ∧
    (getAllValid valid items).length = count valid items ∧
    (getAllInvalid valid items).length = count (fun a => !valid a) items ∧
    (getAllTested tested items).length = count tested items ∧
    (getAllUntested tested items).length = count (fun a => !tested a) items := by
  refine ⟨(count_eq_filter_length _ _).symm, ?_, ?_, ?_, ?_, ?_, ?_⟩
  · rw [allTested_eq_all, List.all_eq_true]
  · rw [allValid_eq_all, List.all_eq_true]
  all_goals simp only [getAllValid, getAllInvalid, getAllTested, getAllUntested, count_eq_filter_length]

/-- **complementary assumption filters partition the collection**: valid/invalid and tested/untested -/
theorem c18_assumable_partition (tested valid : ι → Bool) (items : List ι) :
    (getAllValid valid items ++ getAllInvalid valid items).Perm items ∧
    (getAllTested tested items ++ getAllUntested tested items).Perm items ∧
    (∀ a, a ∈ getAllValid valid items → a ∉ getAllInvalid valid items) ∧
    (∀ a, a ∈ getAllTested tested items → a ∉ getAllUntested tested items) ∧
    (getAllValid valid items).length + (getAllInvalid valid items).length = items.length ∧
    (getAllTested tested items).length + (getAllUntested tested items).length = items.length := by
  have hv := filter_partition valid items
  have ht := filter_partition tested items
  simp only [count_eq_filter_length] at hv ht
  exact ⟨hv.1, ht.1, hv.2.1, ht.2.1, hv.2.2, ht.2.2⟩

/-- **`percent_assumption_valid` = valid / size × 100**, exactly, for a non-empty collection -/
theorem c18_percent_assumption_valid (valid : ι → Bool) (items : List ι) (hne : items ≠ []) :
    percentValid valid items = percent 100 (count valid items) items.length ∧
    percentValid valid items * (items.length : Rat) = 100 * (count valid items : Rat) := by
  have h1 : percentValid valid items = percent 100 (count valid items) items.length := by
    rw [count_eq_filter_length]; rfl
  exact ⟨h1, h1 ▸ percentOf_mul _ _ (by simpa using hne)⟩

/-- verdicts an assumption with function `fn` returns on a history of data (oldest first) -/
def verdicts (fn : δ → Bool) (ds : List δ) : List Bool := ds.map fn

def verifyRun (a : Assumption δ) : List δ → Assumption δ × List Bool
  | [] => (a, [])
  | d :: rest =>
    let r := a.verify d
    let rr := verifyRun r.1 rest
    (rr.1, r.2 :: rr.2)

theorem verifyRun_spec (a : Assumption δ) (ds : List δ) :
    (verifyRun a ds).2 = verdicts a.fn ds ∧ (verifyRun a ds).1.fn = a.fn ∧
    (verifyRun a ds).1.flags.tested = (a.flags.tested || tested (verdicts a.fn ds)) ∧
    (verifyRun a ds).1.flags.valid = (a.flags.valid || valid (verdicts a.fn ds)) := by
  induction ds generalizing a with
  | nil => simp [verifyRun, verdicts, tested, valid]
  | cons d rest ih =>
    simp only [verifyRun, ih (a.verify d).1]
    cases h : a.fn d <;> simp [Assumption.verify, tested, valid, verdicts, h]

/-- **`verify_assumption` returns the assumption function's verdict**, every time, and never changes the function -/
theorem c18_verify_returns_verdict (a : Assumption δ) (d : δ) :
    (a.verify d).2 = a.fn d ∧ (a.verify d).1.fn = a.fn := ⟨rfl, rfl⟩

/-- **tested from the first verification on**: a fresh assumption is untested; after any non-empty history
of verifications it is tested, whatever the verdicts were — and every verification answered the function's
verdict -/
theorem c18_tested_from_first_verify_on (fn : δ → Bool) (ds : List δ) :
    let a : Assumption δ := { fn := fn }
    (verifyRun a ds).1.flags.tested = tested (verdicts fn ds) ∧
    ((verifyRun a ds).1.flags.tested = true ↔ ds ≠ []) ∧
    (verifyRun a ds).2 = ds.map fn := by
  intro a
  obtain ⟨h1, _, h3, _⟩ := verifyRun_spec a ds
  refine ⟨by simpa [a] using h3, ?_, h1⟩
  rw [h3]; cases ds <;> simp [a, tested, verdicts]

/-- **never valid before a verification returned `true`**: after any history a fresh assumption is valid iff
some verification in that history returned `true` (so: not valid while all verdicts were `false`, valid from the
first `true` on, and it stays valid — the flag is never reset) -/
theorem c18_valid_only_after_true (fn : δ → Bool) (ds : List δ) :
    let a : Assumption δ := { fn := fn }
    (verifyRun a ds).1.flags.valid = valid (verdicts fn ds) ∧
    ((verifyRun a ds).1.flags.valid = true ↔ ∃ d ∈ ds, fn d = true) ∧
    ((verifyRun a ds).1.flags.valid = true → (verifyRun a ds).1.flags.tested = true) := by
  intro a
  obtain ⟨_, _, h3, h4⟩ := verifyRun_spec a ds
  have hv : (verifyRun a ds).1.flags.valid = valid (verdicts fn ds) := by simpa [a] using h4
  refine ⟨hv, ?_, ?_⟩
  · rw [hv]; simp [valid, verdicts]
  · rw [hv, h3]
    cases ds <;> simp [a, valid, tested, verdicts]

/-- the data values member `i` was verified on during a history of collection calls -/
def dataOf (i : Nat) : List (AOp δ) → List δ
  | [] => []
  | .verifyAll d :: rest => d :: dataOf i rest
  | .verifyAt j d :: rest => if j = i then d :: dataOf i rest else dataOf i rest

theorem verifyRun_append (a : Assumption δ) (xs ys : List δ) :
    (verifyRun a (xs ++ ys)).1 = (verifyRun (verifyRun a xs).1 ys).1 := by
  induction xs generalizing a with
  | nil => rfl
  | cons d rest ih => simp only [List.cons_append, verifyRun, ih]

theorem astep_getElem (items : List (Assumption δ)) (op : AOp δ) (i : Nat) :
    (astep items op)[i]? = (items[i]?).map (fun a => (verifyRun a (dataOf i [op])).1) := by
  cases op with
  | verifyAll d => simp only [astep, verifyAll, List.getElem?_map, dataOf, verifyRun]
  | verifyAt j d =>
    simp only [astep, verifyAt, dataOf]
    by_cases hji : j = i
    · subst hji
      cases hj : items[j]? <;> simp [hj, verifyRun, List.getElem?_set_self']
    · cases hj : items[j]? <;> simp [hji, verifyRun]

theorem astep_length (items : List (Assumption δ)) (op : AOp δ) : (astep items op).length = items.length := by
  cases op with
  | verifyAll d => simp [astep, verifyAll]
  | verifyAt j d => simp only [astep, verifyAt]; split <;> simp

theorem dataOf_cons (i : Nat) (op : AOp δ) (rest : List (AOp δ)) :
    dataOf i (op :: rest) = dataOf i [op] ++ dataOf i rest := by
  cases op with
  | verifyAll d => simp [dataOf]
  | verifyAt j d => by_cases hji : j = i <;> simp [dataOf, hji]

/-- **every member of a collection, every history of collection calls**: the collection keeps its size, and
member `i` ends exactly as if it had been verified alone on the data of the calls that addressed it — so its flags
follow `c18_tested_from_first_verify_on` / `c18_valid_only_after_true` and no call on another member touches it -/
theorem c18_collection_member_history (items : List (Assumption δ)) (ops : List (AOp δ)) (i : Nat) :
    (arun items ops).length = items.length ∧
    (arun items ops)[i]? = (items[i]?).map (fun a => (verifyRun a (dataOf i ops)).1) := by
  induction ops generalizing items with
  | nil => simp [arun, dataOf, verifyRun]
  | cons op rest ih =>
    obtain ⟨h1, h2⟩ := ih (astep items op)
    refine ⟨by rw [arun, h1, astep_length], ?_⟩
    rw [arun, h2, astep_getElem, Option.map_map, dataOf_cons i op rest]
    congr 1
    funext a
    simp only [Function.comp, verifyRun_append]

/-- **no member is both inferable and inverse-inferable** — whatever the comparison `cmp` returns and whatever the
approximate comparison answers: both verdicts are read off the *one* `Ordering` that `cmp observation threshold`
returns -/
theorem c18_not_both_inferable (cmp : κ → κ → Ordering) (approx : κ → κ → Bool) (i : Inference κ) :
    ¬ (isInferable cmp approx i = true ∧ isInverseInferable cmp approx i = true) ∧
    isNonInferable cmp approx i = false := by
  unfold isNonInferable isInferable isInverseInferable
  cases cmp i.obs i.thr <;> simp

/-- consequences for the `non_inferable` family: the filter is empty, the count and the percentage are zero,
`all_non_inferable` is `false`, and the collection's conjoint delta is `0` (non-empty collection) -/
theorem c18_non_inferable_family (cmp : κ → κ → Ordering) (approx : κ → κ → Bool) (items : List (Inference κ)) :
    getAllNonInferable cmp approx items = [] ∧
    numberNonInferable cmp approx items = 0 ∧
    allNonInferable cmp approx items = false ∧
    percentNonInferable cmp approx items = 0 ∧
    (items ≠ [] → conjointDelta cmp approx items = 0) := by
  have hnil : getAllNonInferable cmp approx items = [] :=
    List.filter_eq_nil_iff.2 fun e _ => by rw [(c18_not_both_inferable cmp approx e).2]; exact Bool.false_ne_true
  have hnum : numberNonInferable cmp approx items = 0 := congrArg List.length hnil
  refine ⟨hnil, hnum, ?_, ?_, ?_⟩
  · rw [allNonInferable_eq_any, List.any_eq_false]
    intro e _
    rw [Bool.and_comm]
    exact ne_true_of_eq_false (c18_not_both_inferable cmp approx e).2
  · simp only [percentNonInferable, percentOf, hnum]; grind
  · intro hne
    have hlen : (items.length : Rat) ≠ 0 := by
      have : items.length ≠ 0 := by simpa using hne
      exact_mod_cast this
    simp only [conjointDelta, hnum, absNum]
    have : (1 : Rat) - ((items.length : Rat) - ((0 : Nat) : Rat)) / (items.length : Rat) = 0 := by grind
    rw [this]; simp

/-- **counts, "all" answers and percentages of `InferableReasoning`**, for every collection -/
theorem c18_inferable_counts (cmp : κ → κ → Ordering) (approx : κ → κ → Bool) (items : List (Inference κ)) :
    numberInferable cmp approx items = count (isInferable cmp approx) items ∧
    numberInverseInferable cmp approx items = count (isInverseInferable cmp approx) items ∧
    numberNonInferable cmp approx items = count (isNonInferable cmp approx) items ∧
    (getAllInferable cmp approx items).length = count (isInferable cmp approx) items ∧
    (getAllInverseInferable cmp approx items).length = count (isInverseInferable cmp approx) items ∧
    (allInferable cmp approx items = true ↔ ∀ e ∈ items, isInferable cmp approx e = true) ∧
    (allInverseInferable cmp approx items = true ↔ ∀ e ∈ items, isInverseInferable cmp approx e = true) ∧
    (∀ e, e ∈ getAllInferable cmp approx items → e ∉ getAllInverseInferable cmp approx items) ∧
    numberInferable cmp approx items + numberInverseInferable cmp approx items ≤ items.length := by
  refine ⟨(count_eq_filter_length _ _).symm, (count_eq_filter_length _ _).symm, (count_eq_filter_length _ _).symm,
    (count_eq_filter_length _ _).symm, (count_eq_filter_length _ _).symm, ?_, ?_, ?_, ?_⟩
  · rw [allInferable_eq_all, List.all_eq_true]
  · rw [allInverseInferable_eq_all, List.all_eq_true]
  · intro e h1 h2
    simp only [getAllInferable, getAllInverseInferable, List.mem_filter] at h1 h2
    exact (c18_not_both_inferable cmp approx e).1 ⟨h1.2, h2.2⟩
  · exact length_filter_add_le _ _ (fun e => (c18_not_both_inferable cmp approx e).1) items

/-- **inference percentages = count / size × 100**, exactly, for a non-empty collection -/
theorem c18_percent_inferable (cmp : κ → κ → Ordering) (approx : κ → κ → Bool) (items : List (Inference κ))
    (hne : items ≠ []) :
    percentInferable cmp approx items = percent 100 (count (isInferable cmp approx) items) items.length ∧
    percentInverseInferable cmp approx items =
      percent 100 (count (isInverseInferable cmp approx) items) items.length ∧
    percentNonInferable cmp approx items = percent 100 (count (isNonInferable cmp approx) items) items.length ∧
    percentInferable cmp approx items * (items.length : Rat) = 100 * (count (isInferable cmp approx) items : Rat) ∧
    percentInverseInferable cmp approx items * (items.length : Rat) =
      100 * (count (isInverseInferable cmp approx) items : Rat) := by
  have hn : items.length ≠ 0 := by simpa using hne
  have hc := c18_inferable_counts cmp approx items
  simp only [percentInferable, percentInverseInferable, percentNonInferable, hc.1, hc.2.1, hc.2.2.1]
  exact ⟨rfl, rfl, rfl, percentOf_mul _ _ hn, percentOf_mul _ _ hn⟩

/-- the key is injective on 64-bit patterns, so `totalCmp` is a total order on them: it answers `eq` exactly on
identical patterns (in particular `−0.0 < +0.0`, and a NaN compares like any other pattern), and swapping the
arguments swaps the answer -/
theorem c18_totalCmp_total_order (a b : Nat) (ha : a < 2 ^ 64) (hb : b < 2 ^ 64) :
    (totalCmp a b = .eq ↔ a = b) ∧ totalCmp b a = (totalCmp a b).swap ∧
    (totalCmp a b = .gt ↔ totalCmp b a = .lt) := by
  have hinj : totalKey a = totalKey b ↔ a = b := by
    unfold totalKey; split <;> split <;> omega
  refine ⟨?_, ?_, ?_⟩
  · simp only [totalCmp, Nat.compare_eq_eq, hinj]
  · simp only [totalCmp]; exact (Nat.compare_swap _ _).symm
  · simp only [totalCmp, Nat.compare_eq_gt, Nat.compare_eq_lt]

/-- **`number_observation` counts, `number_non_observation = len − number_observation` counts the complement** -/
theorem c18_number_observation (ge eq : κ → κ → Bool) (items : List (Observation κ)) (thr e : κ) :
    numberObservation ge eq items thr e = count (effectObserved ge eq thr e) items ∧
    numberNonObservation ge eq items thr e = (items.length : Int) - (numberObservation ge eq items thr e : Int) ∧
    numberNonObservation ge eq items thr e = (count (fun o => !effectObserved ge eq thr e o) items : Int) ∧
    numberObservation ge eq items thr e ≤ items.length := by
  have hc := (filter_partition (effectObserved ge eq thr e) items).2.2
  have h1 : numberObservation ge eq items thr e = count (effectObserved ge eq thr e) items :=
    (count_eq_filter_length _ _).symm
  refine ⟨h1, rfl, ?_, ?_⟩
  · simp only [numberNonObservation, h1]; omega
  · rw [h1]; exact count_le_length _ _

/-- **observation percentages on the scale 0…1**: `percent_observation = count / size`,
`percent_non_observation = 1 − count / size = (number of members not observed) / size`, for a non-empty collection -/
theorem c18_percent_observation (ge eq : κ → κ → Bool) (items : List (Observation κ)) (thr e : κ)
    (hne : items ≠ []) :
    percentObservation ge eq items thr e = percent 1 (count (effectObserved ge eq thr e) items) items.length ∧
    percentNonObservation ge eq items thr e =
      percent 1 (count (fun o => !effectObserved ge eq thr e o) items) items.length ∧
    percentObservation ge eq items thr e + percentNonObservation ge eq items thr e = 1 := by
  have hn : items.length ≠ 0 := by simpa using hne
  have hn' : (items.length : Rat) ≠ 0 := by exact_mod_cast hn
  have hc := (filter_partition (effectObserved ge eq thr e) items).2.2
  have hc' : (count (effectObserved ge eq thr e) items : Rat) +
      (count (fun o => !effectObserved ge eq thr e o) items : Rat) = (items.length : Rat) := by exact_mod_cast hc
  have h1 : numberObservation ge eq items thr e = count (effectObserved ge eq thr e) items :=
    (count_eq_filter_length _ _).symm
  refine ⟨?_, ?_, ?_⟩
  · simp only [percentObservation, percent, h1]; grind
  · simp only [percentNonObservation, percentObservation, percent, h1]; grind
  · simp only [percentNonObservation]; grind

section Examples

-- a fresh assumption verified on data [0, 0, 1, 0] with fn = (· = 1): verdicts as the function says, tested, valid
example : let a : Assumption Nat := { fn := fun d => d == 1 }
    (verifyRun a [0, 0, 1, 0]).2 = [false, false, true, false] ∧
    (verifyRun a [0, 0]).1.flags = ⟨true, false⟩ ∧ (verifyRun a [0, 0, 1, 0]).1.flags = ⟨true, true⟩ ∧
    (verifyRun a []).1.flags = ⟨false, false⟩ := by decide +kernel

-- a collection of three assumptions under verify-all / member verification
example : let items : List (Assumption Nat) := [{ fn := fun d => d % 2 == 1 }, { fn := fun d => d > 5 }, { fn := fun _ => false }]
    ((arun items [.verifyAt 1 9, .verifyAt 7 1]).map (·.flags)) = [⟨false, false⟩, ⟨true, true⟩, ⟨false, false⟩] ∧
    ((arun items [.verifyAll 3, .verifyAt 1 9]).map (·.flags)) = [⟨true, true⟩, ⟨true, true⟩, ⟨true, false⟩] := by
  decide +kernel

-- inferences over `Int` keys: inferable, inverse inferable, equal-to-threshold, effect ≠ target
def exInf : List (Inference Int) := [⟨5, 3, 1, 1⟩, ⟨2, 3, 1, 1⟩, ⟨3, 3, 1, 1⟩, ⟨5, 3, 0, 1⟩]
example : numberInferable compare (· == ·) exInf = 1 ∧ numberInverseInferable compare (· == ·) exInf = 1 ∧
    numberNonInferable compare (· == ·) exInf = 0 ∧ exInf ≠ [] := by decide +kernel
example : percentInferable compare (· == ·) exInf = percent 100 1 4 :=
  (c18_percent_inferable compare (· == ·) exInf (by decide)).1.trans
    (by rw [show count (isInferable compare (· == ·)) exInf = 1 from by decide]; rfl)

-- observations over `Int`: threshold 3, effect 1
def exObs : List (Observation Int) := [⟨5, 1⟩, ⟨3, 1⟩, ⟨2, 1⟩, ⟨9, 0⟩]
example : numberObservation (· ≥ ·) (· == ·) exObs 3 1 = 2 ∧ numberNonObservation (· ≥ ·) (· == ·) exObs 3 1 = 2 ∧
    exObs ≠ [] := by decide +kernel

-- total_cmp on patterns: −0.0 (0x8000…) < +0.0 (0); −NaN below −∞; +NaN above +∞
example : totalCmp 0x8000000000000000 0 = .lt ∧ totalCmp 0xFFF8000000000000 0xFFF0000000000000 = .lt ∧
    totalCmp 0x7FF8000000000000 0x7FF0000000000000 = .gt ∧ totalCmp 0x3FF0000000000000 0x3FF0000000000000 = .eq := by
  decide +kernel

end Examples

end C18
