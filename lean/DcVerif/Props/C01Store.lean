import DcVerif.Model.CausalGraph
import DcVerif.Props.C08Gen
import DcVerif.Spec.ShortestPath
import DcVerif.Spec.ShortestPathFW
import DcVerif.Props.C10
import DcVerif.Lemmas.ShortestPath
import DcVerif.Lemmas.CausalGraph
/-! # The storage half of the causal-graph model is the ultragraph model (add-only histories)

`Model/CausalGraph.lean` (C01, C10) mirrors by hand the part of ultragraph that `CausaloidGraph` uses. This file relates it to
`Model/UGraph.lean` — the model `Props/C08Gen.lean` proves equal to the definitions regenerated from ultragraph's source on every
run — by a simulation over every add-only history, and restates the observations on the *generated* `contains_node` /
`contains_edge`. -/
namespace C01Store
open Model.UGraph Spec.DiGraph

/-- the values stored in the ultragraph are opaque to it: any encoding of a node will do -/
def toU (enc : CausalGraph.Node → Nat) : CausalGraph.Op → Spec.DiGraph.Op
  | .add nd => .addNode (enc nd)
  | .root nd => .addRoot (enc nd)
  | .edge a b w => .addEdgeW a b w

structure Sim (c : CausalGraph.CG) (u : Model.UGraph) : Prop where
  upper : u.ids.upper = c.upper
  noRemoved : u.ids.removed = []
  adj : u.adj = c.adj
  root : u.root = c.root
  index : ∀ i, mGet u.indexMap i = if c.indexMap.contains i then some i else none
  keys : ∀ e ∈ u.nodeMap, e.1 < u.ids.upper
  len : u.nodeMap.length = c.nodeMap.length

theorem sim_fresh {c u} (h : Sim c u) : has u.nodeMap u.ids.upper = false := by
  rw [has_false_iff]
  intro hm
  obtain ⟨e, he, hk⟩ := List.mem_map.1 hm
  have := h.keys e he
  omega

/-- without removals `add_node` allocates the index `upper` and both maps grow by it -/
theorem addNode_sim {c u} (h : Sim c u) (v : Nat) :
    u.addNode v = ({ u with ids := { u.ids with upper := u.ids.upper + 1 }, nodeMap := (u.ids.upper, v) :: u.nodeMap,
                            indexMap := mInsert u.indexMap u.ids.upper u.ids.upper }, u.ids.upper) := by
  have hadd : u.ids.add = ({ u.ids with upper := u.ids.upper + 1 }, u.ids.upper) := by
    unfold IdStore.add; rw [h.noRemoved]; simp [h.noRemoved]
  rw [addNode_eq, hadd, mInsert_fresh _ _ _ (sim_fresh h)]

theorem sim_init : Sim {} init := by
  constructor <;> simp [init, mGet]

theorem sim_addNode {c u} (h : Sim c u) (enc : CausalGraph.Node → Nat) (nd : CausalGraph.Node) :
    Sim (CausalGraph.addNode c nd).1 (u.addNode (enc nd)).1 ∧ (u.addNode (enc nd)).2 = (CausalGraph.addNode c nd).2 := by
  rw [addNode_sim h]
  refine ⟨⟨congrArg (· + 1) h.upper, h.noRemoved, h.adj, h.root, ?_, ?_, congrArg (· + 1) h.len⟩, h.upper⟩
  · intro i
    simp only [CausalGraph.addNode, mGet_mInsert, h.index, h.upper, List.contains_cons]
    by_cases hi : i = c.upper <;> simp [hi]
  · intro e he
    rcases List.mem_cons.1 he with rfl | he
    · exact Nat.lt_succ_self _
    · exact Nat.lt_succ_of_lt (h.keys e he)

theorem sim_contains {c u} (h : Sim c u) (i : Nat) : u.containsNode i = CausalGraph.contains c i := by
  unfold Model.UGraph.containsNode CausalGraph.contains
  rw [h.index]; cases c.indexMap.contains i <;> rfl

theorem sim_containsEdge {c u} (h : Sim c u) (a b : Nat) : u.containsEdge a b = CausalGraph.containsEdge c a b := by
  unfold Model.UGraph.containsEdge CausalGraph.containsEdge
  rw [sim_contains h, sim_contains h, h.index, h.index]
  unfold CausalGraph.contains CausalGraph.hasEdge hasCell
  rw [h.adj]
  cases c.indexMap.contains a <;> cases c.indexMap.contains b <;> simp

theorem sim_addRoot {c u} (h : Sim c u) (enc : CausalGraph.Node → Nat) (nd : CausalGraph.Node) :
    Sim (CausalGraph.addRoot c nd).1 (u.addRoot (enc nd)).1 ∧ (u.addRoot (enc nd)).2 = (CausalGraph.addRoot c nd).2 := by
  obtain ⟨hs, hi⟩ := sim_addNode h enc nd
  unfold Model.UGraph.addRoot CausalGraph.addRoot
  simp only []
  rw [hi]
  refine ⟨⟨hs.upper, hs.noRemoved, hs.adj, rfl, ?_, hs.keys, hs.len⟩, rfl⟩
  intro i
  rw [mGet_mInsert, hs.index]
  by_cases hi' : i = (CausalGraph.addNode c nd).2
  · subst hi'; simp [CausalGraph.addNode]
  · simp [hi']

theorem sim_addEdge {c u} (h : Sim c u) (a b w : Nat) :
    Sim ((CausalGraph.addEdge c a b w).getD c) (u.addEdgeW a b w).1 ∧
    ((u.addEdgeW a b w).2 = .ok ↔ (CausalGraph.addEdge c a b w).isSome) ∧ (u.addEdgeW a b w).2 ≠ .panic := by
  unfold Model.UGraph.addEdgeW CausalGraph.addEdge
  rw [sim_contains h, sim_contains h, sim_containsEdge h]
  by_cases ha : CausalGraph.contains c a = true
  · by_cases hb : CausalGraph.contains c b = true
    · by_cases he : CausalGraph.containsEdge c a b = true
      · simp [ha, hb, he, h]
      · have hia : c.indexMap.contains a = true := ha
        have hib : c.indexMap.contains b = true := hb
        have hcell : u.hasCell a b = false := by
          have hE : CausalGraph.hasEdge c a b = false := by
            unfold CausalGraph.containsEdge at he; rw [ha, hb] at he; simpa using he
          unfold hasCell; rw [h.adj]; exact hE
        simp only [ha, hb, he, Bool.not_true, Bool.false_eq_true, if_false, h.index, hia, hib, if_true, petAddEdge, hcell]
        refine ⟨⟨h.upper, h.noRemoved, by simp [h.adj], h.root, h.index, h.keys, h.len⟩, by simp, by simp⟩
    · simp [ha, hb, h]
  · simp [ha, h]

theorem sim_step {c u} (h : Sim c u) (enc : CausalGraph.Node → Nat) (op : CausalGraph.Op) :
    Sim (CausalGraph.step c op) (Model.UGraph.step .repaired u (toU enc op)).1 := by
  cases op with
  | add nd => exact (sim_addNode h enc nd).1
  | root nd => exact (sim_addRoot h enc nd).1
  | edge a b w => exact (sim_addEdge h a b w).1

theorem build_ind (enc : CausalGraph.Node → Nat) {P : CausalGraph.CG → Model.UGraph → Prop} (h0 : P {} init)
    (hstep : ∀ c u op, P c u → P (CausalGraph.step c op) (Model.UGraph.step .repaired u (toU enc op)).1)
    (ops : List CausalGraph.Op) : P (CausalGraph.build ops) (Model.UGraph.run .repaired init (ops.map (toU enc))).1 := by
  unfold CausalGraph.build
  generalize ({} : CausalGraph.CG) = c at h0
  generalize init = u at h0
  induction ops generalizing c u with
  | nil => exact h0
  | cons op rest ih => exact ih _ _ (hstep c u op h0)

/-- **the storage half of the causal-graph model is the ultragraph model**: after any add-only history, the graph `CausalGraph.build`
    builds and the graph the ultragraph model reaches on the same history are related by `Sim` -/
theorem sim_build (enc : CausalGraph.Node → Nat) (ops : List CausalGraph.Op) :
    Sim (CausalGraph.build ops) (Model.UGraph.run .repaired init (ops.map (toU enc))).1 :=
  build_ind enc sim_init (fun _ _ op h => sim_step h enc op) ops

open Gen.UGraphFns in
/-- `contains_node` as read from `graph_like.rs`, on the graph the *generated* mutators reach, answers what the causal-graph
    model's `contains` answers -/
theorem c01store_gen_contains_node (enc : CausalGraph.Node → Nat) (ops : List CausalGraph.Op) (i : Nat) :
    contains_node (C08Gen.genRun init (ops.map (toU enc))).1 i = some (CausalGraph.contains (CausalGraph.build ops) i) := by
  have hwf := C08Gen.c08gen_reachable_wf (ops.map (toU enc))
  rw [C08Gen.contains_node_eq hwf, C08Gen.gen_run _ Model.UGraph.wf_init, sim_contains (sim_build enc ops)]

open Gen.UGraphFns in
/-- the same for `contains_edge` -/
theorem c01store_gen_contains_edge (enc : CausalGraph.Node → Nat) (ops : List CausalGraph.Op) (a b : Nat) :
    contains_edge (C08Gen.genRun init (ops.map (toU enc))).1 a b =
      some (CausalGraph.containsEdge (CausalGraph.build ops) a b) := by
  have hwf := C08Gen.c08gen_reachable_wf (ops.map (toU enc))
  rw [C08Gen.contains_edge_eq hwf, C08Gen.gen_run _ Model.UGraph.wf_init, sim_containsEdge (sim_build enc ops)]

/-- `get_last_index` of a non-empty graph is `node_map.len()` in both models, and the node counts agree -/
theorem c01store_last_index (enc : CausalGraph.Node → Nat) (ops : List CausalGraph.Op) :
    let u := (C08Gen.genRun init (ops.map (toU enc))).1
    u.nodeMap.length = CausalGraph.lastIndex (CausalGraph.build ops) ∧
    u.ids.len = some (CausalGraph.nodeCount (CausalGraph.build ops)) := by
  intro u
  have hu : u = (Model.UGraph.run .repaired init (ops.map (toU enc))).1 := by
    show (C08Gen.genRun init _).1 = _
    rw [C08Gen.gen_run _ Model.UGraph.wf_init]
  have h := sim_build enc ops
  rw [← hu] at h
  refine ⟨h.len, ?_⟩
  unfold IdStore.len CausalGraph.nodeCount
  rw [h.noRemoved, h.upper]; simp

/-- the edge weights the shortest-path statements of C10 read (`CausalGraph.weight`) are the weights of the graph the ultragraph
    model holds (`Spec.ShortestPath.weights` of its abstraction — what C15's oracle judges `astar` against), for every pair -/
theorem c01store_weights (enc : CausalGraph.Node → Nat) (ops : List CausalGraph.Op) :
    CausalGraph.weight (CausalGraph.build ops) =
      Spec.ShortestPath.weights (abs (C08Gen.genRun init (ops.map (toU enc))).1) := by
  have hu : (C08Gen.genRun init (ops.map (toU enc))).1 = (Model.UGraph.run .repaired init (ops.map (toU enc))).1 := by
    rw [C08Gen.gen_run _ Model.UGraph.wf_init]
  funext a b
  unfold CausalGraph.weight Spec.ShortestPath.weights abs
  rw [hu, (sim_build enc ops).adj]

/-- … and so are the cells: `has_edge` of the matrix is `hasEdge` of the causal-graph model -/
theorem c01store_cells (enc : CausalGraph.Node → Nat) (ops : List CausalGraph.Op) (a b : Nat) :
    (C08Gen.genRun init (ops.map (toU enc))).1.hasCell a b = CausalGraph.hasEdge (CausalGraph.build ops) a b := by
  rw [C08Gen.gen_run _ Model.UGraph.wf_init]
  unfold hasCell CausalGraph.hasEdge
  rw [(sim_build enc ops).adj]

/-- `outgoing_edges(a)`: the two models list the same successors (both lists are duplicate-free; the ultragraph model's is sorted
    by construction, the causal-graph model's is a filtered `range`) -/
theorem c01store_outgoing_mem (enc : CausalGraph.Node → Nat) (ops : List CausalGraph.Op) (a v : Nat) :
    v ∈ (C08Gen.genRun init (ops.map (toU enc))).1.rowOf a ↔ v ∈ CausalGraph.out (CausalGraph.build ops) a := by
  rw [C08Gen.gen_run _ Model.UGraph.wf_init]
  have hw := CausalGraph.wf_build ops
  unfold rowOf CausalGraph.out
  rw [mem_sortNat, (sim_build enc ops).adj]
  simp only [List.mem_map, List.mem_filter, List.mem_range, CausalGraph.hasEdge, List.any_eq_true, Bool.and_eq_true, beq_iff_eq]
  constructor
  · rintro ⟨e, ⟨he, ha⟩, rfl⟩
    exact ⟨(hw.adj e he).2, e, he, ha, rfl⟩
  · rintro ⟨_, e, he, ha, hv⟩
    exact ⟨e, ⟨he, ha⟩, hv⟩

theorem row_cols_nodup (l : List Edge) (a : Nat) (h : (l.map (fun e => (e.1, e.2.1))).Nodup) :
    ((l.filter (fun e => e.1 == a)).map (·.2.1)).Nodup := by
  -- on row `a` a position is `(a, column)`: distinct positions there are distinct columns
  have hsub := List.Nodup.sublist (List.Sublist.map _ (List.filter_sublist (p := fun e => e.1 == a))) h
  have e : (l.filter (fun e => e.1 == a)).map (fun e => (e.1, e.2.1)) =
      ((l.filter (fun e => e.1 == a)).map (·.2.1)).map (fun b => (a, b)) := by
    rw [List.map_map]
    apply List.map_congr_left
    intro e he
    have : e.1 = a := by simpa using (List.mem_filter.1 he).2
    simp [this]
  rw [e] at hsub
  exact List.Pairwise.of_map _ (fun x y hne heq => hne (by rw [heq])) hsub

/-- `outgoing_edges(a)`: the two models answer the same list — ascending, duplicate-free -/
theorem c01store_outgoing (enc : CausalGraph.Node → Nat) (ops : List CausalGraph.Op) (a : Nat) :
    (C08Gen.genRun init (ops.map (toU enc))).1.rowOf a = CausalGraph.out (CausalGraph.build ops) a := by
  have hmem := c01store_outgoing_mem enc ops a
  have hwf := C08Gen.c08gen_reachable_wf (ops.map (toU enc))
  generalize (C08Gen.genRun init (ops.map (toU enc))).1 = u at hmem hwf
  apply List.Perm.eq_of_pairwise (le := fun x y : Nat => x ≤ y)
  · intro x y _ _ h1 h2; exact Nat.le_antisymm h1 h2
  · have := isort_pairwise (le := fun a b : Nat => decide (a ≤ b)) (by intro a b c; simp; omega) (by intro a b; simp; omega)
      ((u.adj.filter (fun e => e.1 == a)).map (·.2.1))
    unfold rowOf sortNat
    exact this.imp (by intro x y h; simpa using h)
  · unfold CausalGraph.out
    exact (List.pairwise_le_range).filter _
  · apply (List.perm_ext_iff_of_nodup ?_ ?_).2
    · intro v; exact hmem v
    · exact nodup_sortNat _ (row_cols_nodup _ a hwf.edgesOk.nodup)
    · unfold CausalGraph.out; exact (List.nodup_range).filter _

open Gen.UGraphFns in
/-- the generated `outgoing_edges` (as read from `graph_algorithms.rs`) on the graph the generated mutators reach: `Err` for an
    absent node, otherwise exactly the successor list `CausalGraph.out` the traversal of C01 iterates over, in that order -/
theorem c01store_gen_outgoing_edges (enc : CausalGraph.Node → Nat) (ops : List CausalGraph.Op) (a : Nat) :
    outgoing_edges (C08Gen.genRun init (ops.map (toU enc))).1 a =
      some (if CausalGraph.contains (CausalGraph.build ops) a then Res.ok (CausalGraph.out (CausalGraph.build ops) a) else Res.err) := by
  have hwf := C08Gen.c08gen_reachable_wf (ops.map (toU enc))
  rw [C08Gen.outgoing_edges_eq hwf, c01store_outgoing enc ops a]
  have hc : (C08Gen.genRun init (ops.map (toU enc))).1.containsNode a = CausalGraph.contains (CausalGraph.build ops) a := by
    rw [C08Gen.gen_run _ Model.UGraph.wf_init]; exact sim_contains (sim_build enc ops) a
  rw [hc]

def encMap (enc : CausalGraph.Node → Nat) (m : List (Nat × CausalGraph.Node)) : List (Nat × Nat) := m.map (fun e => (e.1, enc e.2))

theorem nodes_addNode {c u} (h : Sim c u) (enc : CausalGraph.Node → Nat) (nd : CausalGraph.Node)
    (hn : u.nodeMap = encMap enc c.nodeMap) :
    (u.addNode (enc nd)).1.nodeMap = encMap enc (CausalGraph.addNode c nd).1.nodeMap := by
  rw [addNode_sim h, hn, h.upper]; rfl

theorem nodes_step {c u} (h : Sim c u) (enc : CausalGraph.Node → Nat) (op : CausalGraph.Op)
    (hn : u.nodeMap = encMap enc c.nodeMap) :
    (Model.UGraph.step .repaired u (toU enc op)).1.nodeMap = encMap enc (CausalGraph.step c op).nodeMap := by
  cases op with
  | add nd => exact nodes_addNode h enc nd hn
  | root nd =>
    have := nodes_addNode h enc nd hn
    simpa [toU, Model.UGraph.step, CausalGraph.step, Model.UGraph.addRoot, CausalGraph.addRoot] using this
  | edge a b w =>
    show (u.addEdgeW a b w).1.nodeMap = encMap enc ((CausalGraph.addEdge c a b w).getD c).nodeMap
    have h2 : ((CausalGraph.addEdge c a b w).getD c).nodeMap = c.nodeMap := by
      unfold CausalGraph.addEdge
      repeat' split
      all_goals rfl
    rw [addEdgeW_nodeMap, h2, hn]

theorem nodes_build (enc : CausalGraph.Node → Nat) (ops : List CausalGraph.Op) :
    (Model.UGraph.run .repaired init (ops.map (toU enc))).1.nodeMap = encMap enc (CausalGraph.build ops).nodeMap :=
  (build_ind enc (P := fun c u => Sim c u ∧ u.nodeMap = encMap enc c.nodeMap) ⟨sim_init, rfl⟩
    (fun _ _ op h => ⟨sim_step h.1 enc op, nodes_step h.1 enc op h.2⟩) ops).2

theorem mGet_encMap (enc : CausalGraph.Node → Nat) (m : List (Nat × CausalGraph.Node)) (i : Nat) :
    mGet (encMap enc m) i = (m.lookup i).map enc := by
  induction m with
  | nil => rfl
  | cons e m ih =>
    obtain ⟨k, nd⟩ := e
    show mGet ((k, enc nd) :: encMap enc m) i = _
    rw [mGet_cons, List.lookup_cons, ih]
    by_cases hi : k = i
    · subst hi; simp
    · rw [if_neg hi, beq_false_of_ne (Ne.symm hi)]

open Gen.UGraphFns in
/-- the generated `get_node` on the graph the generated mutators reach returns the (encoded) node the causal-graph model's `getNode`
    returns — `None` exactly for an index that is not contained -/
theorem c01store_gen_get_node (enc : CausalGraph.Node → Nat) (ops : List CausalGraph.Op) (i : Nat) :
    get_node (C08Gen.genRun init (ops.map (toU enc))).1 i = some ((CausalGraph.getNode (CausalGraph.build ops) i).map enc) := by
  have hwf := C08Gen.c08gen_reachable_wf (ops.map (toU enc))
  rw [C08Gen.get_node_eq hwf, C08Gen.gen_run _ Model.UGraph.wf_init]
  have h := sim_build enc ops
  unfold Model.UGraph.getNode CausalGraph.getNode
  rw [sim_contains h, h.index, nodes_build]
  unfold CausalGraph.contains
  cases c : (CausalGraph.build ops).indexMap.contains i <;> simp [mGet_encMap]

/-- the two developments of "walk of total weight c" (C10's `FW.Walk`, C15's `Spec.ShortestPath.Walk`) are the same relation -/
theorem walk_iff (w : Nat → Nat → Option Nat) (u v : Nat) (is : List Nat) (c : Nat) :
    FW.Walk w u v is c ↔ Spec.ShortestPath.Walk w u v is c := Spec.ShortestPath.walk_iff w u v is c

/-- hence a walk C10 speaks about (over `CausalGraph.weight`) is a walk of the graph the ultragraph model holds, with the same weight -/
theorem c01store_walks (enc : CausalGraph.Node → Nat) (ops : List CausalGraph.Op) (u v : Nat) (is : List Nat) (c : Nat) :
    FW.Walk (CausalGraph.weight (CausalGraph.build ops)) u v is c ↔
      Spec.ShortestPath.Walk (Spec.ShortestPath.weights (Model.UGraph.abs (C08Gen.genRun Model.UGraph.init (ops.map (toU enc))).1)) u v is c := by
  rw [walk_iff, c01store_weights enc ops]

open Spec.ShortestPath in
/-- **C10's minimum is C15's minimum.** A path the driver of C10 accepts (`isMinPath` over the causal-graph model, start ≠ stop) is, on
    the graph the generated ultragraph mutators reach on the same history, a real `Path` of minimum total weight in the sense of C15 —
    the statement C15's proved oracle decides for `astar`'s answer -/
theorem c10_accepted_is_c15_minimum (enc : CausalGraph.Node → Nat) (ops : List CausalGraph.Op) (s t : Nat) (p : List Nat)
    (hst : s ≠ t)
    (h : CausalSpec.isMinPath (CausalGraph.build ops) (CausalSpec.table (CausalGraph.build ops)) s t p = true) :
    let u := (C08Gen.genRun Model.UGraph.init (ops.map (toU enc))).1
    ∃ c, Path (Model.UGraph.abs u) s t p c ∧ ∀ q c', Path (Model.UGraph.abs u) s t q c' → c ≤ c' := by
  intro u
  obtain ⟨is, c, hp, hwalk, hmin⟩ := C10.accepted_path_minimal (CausalGraph.build ops) (CausalGraph.wf_build ops) s t p h
  subst hp
  have hwf := C08Gen.c08gen_reachable_wf (ops.map (toU enc))
  refine ⟨c, walk_path _ ((c01store_walks enc ops s t is c).1 hwalk), ?_⟩
  intro q c' hq
  rcases path_walk (Model.UGraph.abs u) hwf.edgesOk.nodup hq with ⟨_, hst', _⟩ | ⟨js, _, hw⟩
  · exact absurd hst' hst
  · exact hmin js c' ((c01store_walks enc ops s t js c').2 hw)

/-- non-vacuity: root, two nodes, an accepted edge, a refused duplicate and a refused edge to an absent node -/
example :
    let ops : List CausalGraph.Op := [.root ⟨0, .plain⟩, .add ⟨1, .inv⟩, .add ⟨2, .plain⟩, .edge 0 1 4, .edge 0 1 9, .edge 1 7 0]
    CausalGraph.containsEdge (CausalGraph.build ops) 0 1 = true ∧ CausalGraph.containsEdge (CausalGraph.build ops) 1 7 = false ∧
    (CausalGraph.build ops).adj = [(0, 1, 4)] ∧
    (Model.UGraph.run .repaired init (ops.map (toU (·.id)))).1.adj = [(0, 1, 4)] := by decide

end C01Store
