import DcVerif.Gen.Ctx
import DcVerif.Props.C09
/-!
# C09, tie to the source: what the translator read = the hand model

`Gen/Ctx.lean` is regenerated on every run from the current Rust source of `deep_causality::Context`
(`tools/rs2lean_context.py`): one definition per public function. Every theorem `<function>_eq` below says that the
generated definition, viewed through `toModel` (forget `id` and `name`) and rendered as the model's `Out`
(`genStep`), is the corresponding case of `Model.Ctx.step` — on **every** context that satisfies the reachable-state
invariant `Model.Ctx.Inv` (all graphs well-formed, extra contexts are exactly the ids `1 … count` with distinct
keys, `current ≤ count`), for all arguments. `genStep_agrees` / `genRun_eq` put them together, `c09gen_*` restate the
headline theorems of `Props/C09.lean` on the generated definitions, started from the generated `with_capacity`.

The proofs do not follow the syntax of the generated definitions: they split on the *semantic* situation
(`SelCase`: nothing selected / a well-formed graph under the selected key; the two possible answers of an `ultragraph`
mutator, `…_answers`; Boolean atoms) and let `simp` evaluate both sides. A guard the source may or may not repeat before calling into
`ultragraph` is covered by the `…_absent` lemmas in the `simp` call of that case; on today's text they are idle, hence the
linter setting.
-/
set_option linter.unusedSimpArgs false
set_option linter.unusedVariables false
namespace C09Gen
open Spec Spec.Context Model Model.Ctx
open Model.UGraph hiding Res Res.isOk Res.toOption Res.ok Res.err
open Spec.DiGraph (Out)
open Gen.Ctx (Exec Res mUpdate)

/-- the generated context as the model's (forget `id`, `name`) -/
def toModel (s : Gen.Ctx.Context) : Ctx :=
  { base := s.base, extras := s.extras, count := s.count, current := s.current, curMap := s.curMap, prevMap := s.prevMap }

abbrev GInv (s : Gen.Ctx.Context) : Prop := Inv (toModel s)

/-- a `Result` as the model's answer -/
def resOut {α : Type} (f : α → Out) : Res α → Out
  | .ok a => f a
  | .err => .err

/-- a `&mut self` call: new context and answer; a panic leaves the context as it was (the case ends there) -/
def liftM {α : Type} (s : Gen.Ctx.Context) (r : Exec (Gen.Ctx.Context × α)) (f : α → Out) : Gen.Ctx.Context × Out :=
  match r with
  | .val (s', a) => (s', f a)
  | .panic => (s, .panic)

/-- a `&self` call -/
def liftR {α : Type} (s : Gen.Ctx.Context) (r : Exec α) (f : α → Out) : Gen.Ctx.Context × Out :=
  match r with
  | .val a => (s, f a)
  | .panic => (s, .panic)

/-- one operation of the `Context` API on the generated definitions, answered in the model's vocabulary -/
def genStep (s : Gen.Ctx.Context) : Op → Gen.Ctx.Context × Out
  | .addNode v => liftM s (Gen.Ctx.add_node s v) .idx
  | .containsNode i => liftR s (Gen.Ctx.contains_node s i) .bool
  | .getNode i => liftR s (Gen.Ctx.get_node s i) .optNat
  | .removeNode i => liftM s (Gen.Ctx.remove_node s i) (resOut fun _ => .ok)
  | .addEdge a b w => liftM s (Gen.Ctx.add_edge s a b w) (resOut fun _ => .ok)
  | .containsEdge a b => liftR s (Gen.Ctx.contains_edge s a b) .bool
  | .removeEdge a b => liftM s (Gen.Ctx.remove_edge s a b) (resOut fun _ => .ok)
  | .size => liftR s (Gen.Ctx.size s) .nat
  | .isEmpty => liftR s (Gen.Ctx.is_empty s) .bool
  | .nodeCount => liftR s (Gen.Ctx.node_count s) .nat
  | .edgeCount => liftR s (Gen.Ctx.edge_count s) .nat
  | .xAddNew d => liftM s (Gen.Ctx.extra_ctx_add_new s 0 d) .nat
  | .xCheckExists k => liftR s (Gen.Ctx.extra_ctx_check_exists s k) .bool
  | .xGetCurrent => liftR s (Gen.Ctx.extra_ctx_get_current_id s) .nat
  | .xSetCurrent k => liftM s (Gen.Ctx.extra_ctx_set_current_id s k) (resOut fun _ => .ok)
  | .xUnset => liftM s (Gen.Ctx.extra_ctx_unset_current_id s) (resOut fun _ => .ok)
  | .xAddNode v => liftM s (Gen.Ctx.extra_ctx_add_node s v) (resOut .idx)
  | .xContainsNode i => liftR s (Gen.Ctx.extra_ctx_contains_node s i) .bool
  | .xGetNode i => liftR s (Gen.Ctx.extra_ctx_get_node s i) (resOut fun v => .optNat (some v))
  | .xRemoveNode i => liftM s (Gen.Ctx.extra_ctx_remove_node s i) (resOut fun _ => .ok)
  | .xAddEdge a b w => liftM s (Gen.Ctx.extra_ctx_add_edge s a b w) (resOut fun _ => .ok)
  | .xContainsEdge a b => liftR s (Gen.Ctx.extra_ctx_contains_edge s a b) .bool
  | .xRemoveEdge a b => liftM s (Gen.Ctx.extra_ctx_remove_edge s a b) (resOut fun _ => .ok)
  | .xSize => liftR s (Gen.Ctx.extra_ctx_size s) (resOut .nat)
  | .xIsEmpty => liftR s (Gen.Ctx.extra_ctx_is_empty s) (resOut .bool)
  | .xNodeCount => liftR s (Gen.Ctx.extra_ctx_node_count s) (resOut .nat)
  | .xEdgeCount => liftR s (Gen.Ctx.extra_ctx_edge_count s) (resOut .nat)
  | .getIndex key cur => liftR s (Gen.Ctx.get_index s key cur) .optNat
  | .setIndex key idx cur => liftM s (Gen.Ctx.set_index s key idx cur) (fun _ => .ok)

def view (p : Gen.Ctx.Context × Out) : Ctx × Out := (toModel p.1, p.2)

def genRun (s : Gen.Ctx.Context) : List Op → Gen.Ctx.Context × List Out
  | [] => (s, [])
  | op :: rest =>
    let r := genStep s op
    let q := genRun r.1 rest
    (q.1, r.2 :: q.2)

/-- generated step and model step agree: same answer, same model state, `id` and `name` untouched -/
def Agrees (s : Gen.Ctx.Context) (op : Op) : Prop :=
  view (genStep s op) = Ctx.step (toModel s) op ∧ (genStep s op).1.id = s.id ∧ (genStep s op).1.name = s.name

/-- why the adapter `ug_result` may hand back the graph it was given when the model answers `err` -/
theorem ug_err_leaves_graph (g : UGraph) :
    (∀ i, (g.removeNode .repaired i).2 = .err → (g.removeNode .repaired i).1 = g) ∧
    (∀ a b w, (g.addEdgeW a b w).2 = .err → (g.addEdgeW a b w).1 = g) ∧
    (∀ a b, (g.removeEdge .repaired a b).2 = .err → (g.removeEdge .repaired a b).1 = g) :=
  ⟨fun i => C08.c08_failed_ops_change_nothing .repaired g (.removeNode i),
   fun a b w => C08.c08_failed_ops_change_nothing .repaired g (.addEdgeW a b w),
   fun a b => C08.c08_failed_ops_change_nothing .repaired g (.removeEdge a b)⟩

theorem removeNode_absent (g : UGraph) (i : Nat) (h : g.containsNode i = false) : g.removeNode .repaired i = (g, .err) := by
  simp [UGraph.removeNode, h]
theorem addEdgeW_absent_a (g : UGraph) (a b w : Nat) (h : g.containsNode a = false) : g.addEdgeW a b w = (g, .err) := by
  simp [UGraph.addEdgeW, h]
theorem addEdgeW_absent_b (g : UGraph) (a b w : Nat) (h : g.containsNode b = false) : g.addEdgeW a b w = (g, .err) := by
  simp [UGraph.addEdgeW, h]
theorem removeEdge_absent_a (g : UGraph) (a b : Nat) (h : g.containsNode a = false) : g.removeEdge .repaired a b = (g, .err) := by
  simp [UGraph.removeEdge, h]
theorem removeEdge_absent_b (g : UGraph) (a b : Nat) (h : g.containsNode b = false) : g.removeEdge .repaired a b = (g, .err) := by
  simp [UGraph.removeEdge, h]
theorem containsEdge_absent_a (g : UGraph) (a b : Nat) (h : g.containsNode a = false) : g.containsEdge a b = false := by
  simp [UGraph.containsEdge, h]
theorem containsEdge_absent_b (g : UGraph) (a b : Nat) (h : g.containsNode b = false) : g.containsEdge a b = false := by
  simp [UGraph.containsEdge, h]
theorem getNode_absent (g : UGraph) (i : Nat) (h : g.containsNode i = false) : g.getNode i = none := by
  simp [UGraph.getNode, h]
theorem getNode_present (g : UGraph) (i v : Nat) (h : g.getNode i = some v) : g.containsNode i = true := by
  cases hc : g.containsNode i
  · rw [getNode_absent g i hc] at h; cases h
  · rfl

/-- writing back the value an entry already has changes nothing (distinct keys) -/
theorem mUpdate_same (m : List (Nat × UGraph)) (k : Nat) (g : UGraph) (hn : (m.map (·.1)).Nodup) (hg : mGet m k = some g) :
    mUpdate m k g = m :=
  map_put_self m k g hn hg

/-- the situation `get_current_extra_context[_mut]` finds in a state that satisfies the invariant: nothing selected, or a
well-formed graph under the selected key -/
inductive SelCase (s : Gen.Ctx.Context) : Prop
  | zero (h0 : s.current = 0)
  | sel (h0 : ¬ s.current = 0) (hc : s.current ≤ s.count) (m : List (Nat × UGraph)) (hx : s.extras = some m)
      (g : UGraph) (hg : mGet m s.current = some g) (hsame : mUpdate m s.current g = m) (hwf : WF g)

theorem selCase {s : Gen.Ctx.Context} (h : GInv s) : SelCase s := by
  rcases getCurrent_spec h with ⟨h0, _, _⟩ | ⟨h0, g, _, _, hg, hwf, hex⟩
  · exact .zero h0
  · have hx : s.extras = some (toModel s).extrasList := hex
    exact .sel h0 h.cur _ hx g hg (mUpdate_same _ _ g h.keysNodup hg) hwf

/-- the model's write-back, in the generated definitions' vocabulary -/
theorem putCurrent_eq (c : Ctx) (g : UGraph) :
    c.putCurrent g = { c with extras := c.extras.map fun m => mUpdate m c.current g } := rfl

section
/- Every `simp` of this section unfolds the vocabulary the generated definitions are written in (`Exec`, `Res`, the `ug_*`
adapters, the two one-line functions the others call), the views and the model's step; a proof names the generated definition it
is about and evaluates both sides with the facts in the context. -/
attribute [local simp] Agrees view genStep liftM liftR resOut toModel Ctx.step Ctx.checkExists Ctx.getCurrent putCurrent_eq
  Ctx.extraContainsNode Ctx.lenOut Exec.bind Exec.sub Res.isOk Gen.Ctx.ug_new Gen.Ctx.ug_add_node Gen.Ctx.ug_contains_node
  Gen.Ctx.ug_get_node Gen.Ctx.ug_contains_edge Gen.Ctx.ug_result Gen.Ctx.ug_remove_node Gen.Ctx.ug_add_edge_with_weight
  Gen.Ctx.ug_add_edge Gen.Ctx.ug_remove_edge Gen.Ctx.ug_size Gen.Ctx.ug_number_nodes Gen.Ctx.ug_is_empty
  Gen.Ctx.ug_number_edges Gen.Ctx.contains_node Gen.Ctx.extra_ctx_check_exists

theorem add_node_eq (s : Gen.Ctx.Context) (h : GInv s) (v : Nat) : Agrees s (.addNode v) := by
  simp [Gen.Ctx.add_node, *]
theorem contains_node_eq (s : Gen.Ctx.Context) (h : GInv s) (i : Nat) : Agrees s (.containsNode i) := by
  simp [Gen.Ctx.contains_node, *]
theorem get_node_eq (s : Gen.Ctx.Context) (h : GInv s) (i : Nat) : Agrees s (.getNode i) := by
  simp [Gen.Ctx.get_node, *]
theorem remove_node_eq (s : Gen.Ctx.Context) (h : GInv s) (i : Nat) : Agrees s (.removeNode i) := by
  cases hc : s.base.containsNode i
  · simp [Gen.Ctx.remove_node, removeNode_absent, *]
  · rcases removeNode_answers (g := s.base) h.baseWF i with hr | ⟨_, g', hr⟩ <;> simp [Gen.Ctx.remove_node, *]
theorem add_edge_eq (s : Gen.Ctx.Context) (h : GInv s) (a b w : Nat) : Agrees s (.addEdge a b w) := by
  cases ha : s.base.containsNode a
  · simp [Gen.Ctx.add_edge, addEdgeW_absent_a, *]
  cases hb : s.base.containsNode b
  · simp [Gen.Ctx.add_edge, addEdgeW_absent_b, *]
  · rcases addEdgeW_answers (g := s.base) h.baseWF a b w with hr | ⟨_, g', hr⟩ <;> simp [Gen.Ctx.add_edge, *]
theorem contains_edge_eq (s : Gen.Ctx.Context) (h : GInv s) (a b : Nat) : Agrees s (.containsEdge a b) := by
  simp [Gen.Ctx.contains_edge, *]
theorem remove_edge_eq (s : Gen.Ctx.Context) (h : GInv s) (a b : Nat) : Agrees s (.removeEdge a b) := by
  cases ha : s.base.containsNode a
  · simp [Gen.Ctx.remove_edge, removeEdge_absent_a, *]
  cases hb : s.base.containsNode b
  · simp [Gen.Ctx.remove_edge, removeEdge_absent_b, *]
  · rcases removeEdge_answers (g := s.base) h.baseWF a b with hr | ⟨_, g', hr⟩ <;> simp [Gen.Ctx.remove_edge, *]
theorem size_eq (s : Gen.Ctx.Context) (h : GInv s) : Agrees s .size := by
  cases hl : s.base.ids.len <;> simp [Gen.Ctx.size, *]
theorem is_empty_eq (s : Gen.Ctx.Context) (h : GInv s) : Agrees s .isEmpty := by
  cases hl : s.base.ids.len <;> simp [Gen.Ctx.is_empty, *]
theorem node_count_eq (s : Gen.Ctx.Context) (h : GInv s) : Agrees s .nodeCount := by
  cases hl : s.base.ids.len <;> simp [Gen.Ctx.node_count, *]
theorem edge_count_eq (s : Gen.Ctx.Context) (h : GInv s) : Agrees s .edgeCount := by
  simp [Gen.Ctx.edge_count, *]

theorem extra_ctx_add_new_eq (s : Gen.Ctx.Context) (h : GInv s) (d : Bool) : Agrees s (.xAddNew d) := by
  cases hx : s.extras <;> cases d <;> simp [Gen.Ctx.extra_ctx_add_new, *]
theorem extra_ctx_check_exists_eq (s : Gen.Ctx.Context) (h : GInv s) (k : Nat) : Agrees s (.xCheckExists k) := by
  simp [Gen.Ctx.extra_ctx_check_exists, *] <;> rfl
theorem extra_ctx_get_current_id_eq (s : Gen.Ctx.Context) (h : GInv s) : Agrees s .xGetCurrent := by
  simp [Gen.Ctx.extra_ctx_get_current_id, *]
theorem extra_ctx_set_current_id_eq (s : Gen.Ctx.Context) (h : GInv s) (k : Nat) : Agrees s (.xSetCurrent k) := by
  by_cases hk : k ≤ s.count <;> simp [Gen.Ctx.extra_ctx_set_current_id, *]
theorem extra_ctx_unset_current_id_eq (s : Gen.Ctx.Context) (h : GInv s) : Agrees s .xUnset := by
  simp [Gen.Ctx.extra_ctx_unset_current_id, *]

theorem extra_ctx_add_node_eq (s : Gen.Ctx.Context) (h : GInv s) (v : Nat) : Agrees s (.xAddNode v) := by
  rcases selCase h with h0 | ⟨h0, hc, m, hx, g, hg, hsame, hwf⟩ <;>
    simp [Gen.Ctx.extra_ctx_add_node, *]
theorem extra_ctx_contains_node_eq (s : Gen.Ctx.Context) (h : GInv s) (i : Nat) : Agrees s (.xContainsNode i) := by
  rcases selCase h with h0 | ⟨h0, hc, m, hx, g, hg, hsame, hwf⟩ <;>
    simp [Gen.Ctx.extra_ctx_contains_node, *]
theorem extra_ctx_get_node_eq (s : Gen.Ctx.Context) (h : GInv s) (i : Nat) : Agrees s (.xGetNode i) := by
  rcases selCase h with h0 | ⟨h0, hc, m, hx, g, hg, hsame, hwf⟩
  · simp [Gen.Ctx.extra_ctx_get_node, *]
  · cases hv : g.getNode i <;> simp [Gen.Ctx.extra_ctx_get_node, *]
theorem extra_ctx_remove_node_eq (s : Gen.Ctx.Context) (h : GInv s) (i : Nat) : Agrees s (.xRemoveNode i) := by
  rcases selCase h with h0 | ⟨h0, hc, m, hx, g, hg, hsame, hwf⟩
  · simp [Gen.Ctx.extra_ctx_remove_node, *]
  cases hi : g.containsNode i
  · simp [Gen.Ctx.extra_ctx_remove_node, removeNode_absent, *]
  · rcases removeNode_answers hwf i with hr | ⟨_, g', hr⟩ <;> simp [Gen.Ctx.extra_ctx_remove_node, *]
theorem extra_ctx_add_edge_eq (s : Gen.Ctx.Context) (h : GInv s) (a b w : Nat) : Agrees s (.xAddEdge a b w) := by
  rcases selCase h with h0 | ⟨h0, hc, m, hx, g, hg, hsame, hwf⟩
  · simp [Gen.Ctx.extra_ctx_add_edge, Gen.Ctx.extra_ctx_contains_node, *]
  cases ha : g.containsNode a
  · simp [Gen.Ctx.extra_ctx_add_edge, Gen.Ctx.extra_ctx_contains_node, addEdgeW_absent_a, *]
  cases hb : g.containsNode b
  · simp [Gen.Ctx.extra_ctx_add_edge, Gen.Ctx.extra_ctx_contains_node, addEdgeW_absent_b, *]
  · rcases addEdgeW_answers hwf a b w with hr | ⟨_, g', hr⟩ <;>
      simp [Gen.Ctx.extra_ctx_add_edge, Gen.Ctx.extra_ctx_contains_node, *]
theorem extra_ctx_contains_edge_eq (s : Gen.Ctx.Context) (h : GInv s) (a b : Nat) : Agrees s (.xContainsEdge a b) := by
  rcases selCase h with h0 | ⟨h0, hc, m, hx, g, hg, hsame, hwf⟩
  · simp [Gen.Ctx.extra_ctx_contains_edge, Gen.Ctx.extra_ctx_contains_node, *]
  · cases ha : g.containsNode a <;> cases hb : g.containsNode b <;>
      simp [Gen.Ctx.extra_ctx_contains_edge, Gen.Ctx.extra_ctx_contains_node, containsEdge_absent_a, containsEdge_absent_b, *]
theorem extra_ctx_remove_edge_eq (s : Gen.Ctx.Context) (h : GInv s) (a b : Nat) : Agrees s (.xRemoveEdge a b) := by
  rcases selCase h with h0 | ⟨h0, hc, m, hx, g, hg, hsame, hwf⟩
  · simp [Gen.Ctx.extra_ctx_remove_edge, Gen.Ctx.extra_ctx_contains_node, *]
  cases ha : g.containsNode a
  · simp [Gen.Ctx.extra_ctx_remove_edge, Gen.Ctx.extra_ctx_contains_node, removeEdge_absent_a, *]
  cases hb : g.containsNode b
  · simp [Gen.Ctx.extra_ctx_remove_edge, Gen.Ctx.extra_ctx_contains_node, removeEdge_absent_b, *]
  · rcases removeEdge_answers hwf a b with hr | ⟨_, g', hr⟩ <;>
      simp [Gen.Ctx.extra_ctx_remove_edge, Gen.Ctx.extra_ctx_contains_node, *]
theorem extra_ctx_size_eq (s : Gen.Ctx.Context) (h : GInv s) : Agrees s .xSize := by
  rcases selCase h with h0 | ⟨h0, hc, m, hx, g, hg, hsame, hwf⟩
  · simp [Gen.Ctx.extra_ctx_size, *]
  · cases hl : g.ids.len <;> simp [Gen.Ctx.extra_ctx_size, *]
theorem extra_ctx_is_empty_eq (s : Gen.Ctx.Context) (h : GInv s) : Agrees s .xIsEmpty := by
  rcases selCase h with h0 | ⟨h0, hc, m, hx, g, hg, hsame, hwf⟩
  · simp [Gen.Ctx.extra_ctx_is_empty, *]
  · cases hl : g.ids.len <;> simp [Gen.Ctx.extra_ctx_is_empty, *]
theorem extra_ctx_node_count_eq (s : Gen.Ctx.Context) (h : GInv s) : Agrees s .xNodeCount := by
  rcases selCase h with h0 | ⟨h0, hc, m, hx, g, hg, hsame, hwf⟩
  · simp [Gen.Ctx.extra_ctx_node_count, *]
  · cases hl : g.ids.len <;> simp [Gen.Ctx.extra_ctx_node_count, *]
theorem extra_ctx_edge_count_eq (s : Gen.Ctx.Context) (h : GInv s) : Agrees s .xEdgeCount := by
  rcases selCase h with h0 | ⟨h0, hc, m, hx, g, hg, hsame, hwf⟩ <;>
    simp [Gen.Ctx.extra_ctx_edge_count, *]

theorem get_index_eq (s : Gen.Ctx.Context) (h : GInv s) (key : Nat) (cur : Bool) : Agrees s (.getIndex key cur) := by
  cases cur <;> simp [Gen.Ctx.get_index, *]
theorem set_index_eq (s : Gen.Ctx.Context) (h : GInv s) (key idx : Nat) (cur : Bool) : Agrees s (.setIndex key idx cur) := by
  cases cur <;> simp [Gen.Ctx.set_index, *]

end

theorem id_eq (s : Gen.Ctx.Context) : Gen.Ctx.id s = .val s.id := by simp [Gen.Ctx.id]
theorem name_eq (s : Gen.Ctx.Context) : Gen.Ctx.name s = .val s.name := by simp [Gen.Ctx.name]

/-- `Context::with_capacity(id, name, capacity)` never panics and yields the model's initial context with that id and name -/
theorem with_capacity_eq (i : Nat) (nm : String) (c : Nat) :
    ∃ s0, Gen.Ctx.with_capacity i nm c = .val s0 ∧ toModel s0 = Ctx.init ∧ s0.id = i ∧ s0.name = nm := by
  simp [Gen.Ctx.with_capacity, toModel, Ctx.init, Gen.Ctx.ug_new, Exec.bind]
  rfl

/-- **every operation**: on a context that satisfies the invariant the generated definitions answer as the model does -/
theorem genStep_agrees (s : Gen.Ctx.Context) (h : GInv s) (op : Op) : Agrees s op := by
  cases op
  case addNode v => exact add_node_eq s h v
  case containsNode i => exact contains_node_eq s h i
  case getNode i => exact get_node_eq s h i
  case removeNode i => exact remove_node_eq s h i
  case addEdge a b w => exact add_edge_eq s h a b w
  case containsEdge a b => exact contains_edge_eq s h a b
  case removeEdge a b => exact remove_edge_eq s h a b
  case size => exact size_eq s h
  case isEmpty => exact is_empty_eq s h
  case nodeCount => exact node_count_eq s h
  case edgeCount => exact edge_count_eq s h
  case xAddNew d => exact extra_ctx_add_new_eq s h d
  case xCheckExists k => exact extra_ctx_check_exists_eq s h k
  case xGetCurrent => exact extra_ctx_get_current_id_eq s h
  case xSetCurrent k => exact extra_ctx_set_current_id_eq s h k
  case xUnset => exact extra_ctx_unset_current_id_eq s h
  case xAddNode v => exact extra_ctx_add_node_eq s h v
  case xContainsNode i => exact extra_ctx_contains_node_eq s h i
  case xGetNode i => exact extra_ctx_get_node_eq s h i
  case xRemoveNode i => exact extra_ctx_remove_node_eq s h i
  case xAddEdge a b w => exact extra_ctx_add_edge_eq s h a b w
  case xContainsEdge a b => exact extra_ctx_contains_edge_eq s h a b
  case xRemoveEdge a b => exact extra_ctx_remove_edge_eq s h a b
  case xSize => exact extra_ctx_size_eq s h
  case xIsEmpty => exact extra_ctx_is_empty_eq s h
  case xNodeCount => exact extra_ctx_node_count_eq s h
  case xEdgeCount => exact extra_ctx_edge_count_eq s h
  case getIndex key cur => exact get_index_eq s h key cur
  case setIndex key idx cur => exact set_index_eq s h key idx cur

theorem genStep_eq (s : Gen.Ctx.Context) (h : GInv s) (op : Op) : view (genStep s op) = Ctx.step (toModel s) op :=
  (genStep_agrees s h op).1

theorem genStep_inv (s : Gen.Ctx.Context) (h : GInv s) (op : Op) : GInv (genStep s op).1 := by
  have h1 := (C09.c09_step_refines h op).1
  rw [← genStep_eq s h op] at h1
  exact h1

/-- **every history**: running the generated definitions = running the model -/
theorem genRun_eq (ops : List Op) : ∀ (s : Gen.Ctx.Context), GInv s →
    (toModel (genRun s ops).1, (genRun s ops).2) = Ctx.run (toModel s) ops ∧ GInv (genRun s ops).1 ∧
    (genRun s ops).1.id = s.id ∧ (genRun s ops).1.name = s.name := by
  induction ops with
  | nil => intro s h; exact ⟨rfl, h, rfl, rfl⟩
  | cons op rest ih =>
    intro s h
    obtain ⟨he, hid, hnm⟩ := genStep_agrees s h op
    obtain ⟨hr, hi, hid', hnm'⟩ := ih _ (genStep_inv s h op)
    refine ⟨?_, hi, hid'.trans hid, hnm'.trans hnm⟩
    simp only [genRun, Ctx.run, ← he, view, ← hr]

/-- **C09 on the generated definitions.** A context built by the generated `with_capacity` and driven through any
history of the 29 operations by the generated definitions: every answer is one the specification allows, the final
state corresponds to the specification's, every reachable context satisfies the invariant (each store a well-formed
`UltraGraph`), and `id` / `name` never change. -/
theorem c09gen_refinement (i : Nat) (nm : String) (c : Nat) (ops : List Op) :
    ∃ s0, Gen.Ctx.with_capacity i nm c = .val s0 ∧
      Spec.Context.run {} (ops.zip (genRun s0 ops).2) = some (absCtx (toModel (genRun s0 ops).1)) ∧
      GInv (genRun s0 ops).1 ∧ (genRun s0 ops).1.id = i ∧ (genRun s0 ops).1.name = nm := by
  obtain ⟨s0, hs, hm, hid, hnm⟩ := with_capacity_eq i nm c
  obtain ⟨hr, hi, hid', hnm'⟩ := genRun_eq ops s0 (hm ▸ inv_init : Inv (toModel s0))
  refine ⟨s0, hs, ?_, hi, hid'.trans hid, hnm'.trans hnm⟩
  have := C09.c09_refinement ops
  rwa [← hm, ← hr] at this

/-- an operation addressed to the base context changes nothing else; one addressed to the selected extra context
changes nothing but that extra context (generated definitions, reachable states) -/
theorem c09gen_frames (s : Gen.Ctx.Context) (h : GInv s) (op : Op) (gop : DiGraph.Op) :
    (op.graphOp = some (.base, gop) →
      (genStep s op).1.extras = s.extras ∧ (genStep s op).1.count = s.count ∧ (genStep s op).1.current = s.current ∧
      (genStep s op).1.curMap = s.curMap ∧ (genStep s op).1.prevMap = s.prevMap) ∧
    (op.graphOp = some (.extra, gop) →
      (genStep s op).1.base = s.base ∧ (genStep s op).1.count = s.count ∧ (genStep s op).1.current = s.current ∧
      (genStep s op).1.curMap = s.curMap ∧ (genStep s op).1.prevMap = s.prevMap ∧
      ∀ k, k ≠ s.current → (toModel (genStep s op).1).component k = (toModel s).component k) := by
  have e : toModel (genStep s op).1 = (Ctx.step (toModel s) op).1 := congrArg Prod.fst (genStep_eq s h op)
  refine ⟨fun hg => ?_, fun hg => ?_⟩
  · have := C09.c09_base_ops_frame h op gop hg
    rwa [← e] at this
  · have := C09.c09_extra_ops_frame h op gop hg
    rwa [← e] at this

/-- extra-context operations fail cleanly when nothing is selected (generated definitions, reachable states) -/
theorem c09gen_extra_ops_without_selection_fail_clean (s : Gen.Ctx.Context) (h : GInv s) (h0 : s.current = 0) (op : Op)
    (gop : DiGraph.Op) (hg : op.graphOp = some (.extra, gop)) : view (genStep s op) = (toModel s, noSel gop) := by
  rw [genStep_eq s h op]
  exact C09.c09_extra_ops_without_selection_fail_clean (toModel s) h0 op gop hg

/-- `get_index` after `set_index` on the same key and map returns the index just set (generated definitions) -/
theorem c09gen_index_get_after_set (s : Gen.Ctx.Context) (h : GInv s) (key idx : Nat) (cur : Bool) :
    (genStep (genStep s (.setIndex key idx cur)).1 (.getIndex key cur)).2 = .optNat (some idx) := by
  have h1 := genStep_inv s h (.setIndex key idx cur)
  have e1 := genStep_eq s h (.setIndex key idx cur)
  have e2 := genStep_eq _ h1 (.getIndex key cur)
  have := C09.c09_index_get_after_set (toModel s) key idx cur
  rw [← congrArg Prod.fst e1] at this
  rw [← this]
  exact congrArg Prod.snd e2

/-! non-vacuity: the generated `with_capacity` and the generated operations on a history with two extra contexts and the
base context holding the same indices, switching, removals, a refused selection and both index maps -/
example :
    let ops : List Op := [.addNode 4, .addNode 5, .addEdge 0 1 2, .xAddNode 7, .xAddNew true, .xAddNode 7, .xAddNode 8,
      .xAddEdge 0 1 3, .xAddNew false, .xSetCurrent 2, .xAddNode 9, .xSetCurrent 3, .xGetCurrent, .removeEdge 0 1,
      .getNode 0, .xGetNode 0, .xSetCurrent 1, .xRemoveNode 1, .xEdgeCount, .xGetNode 0, .getNode 1, .xSetCurrent 0,
      .xGetNode 0, .setIndex 1 5 true, .setIndex 1 6 false, .getIndex 1 true, .getIndex 1 false, .getIndex 2 true]
    (match Gen.Ctx.with_capacity 1 "base" 10 with
     | .val s0 => (genRun s0 ops).2
     | .panic => []) =
      [.idx 0, .idx 1, .ok, .err, .nat 1, .idx 0, .idx 1, .ok, .nat 2, .ok, .idx 0, .err, .nat 2, .ok,
       .optNat (some 4), .optNat (some 9), .ok, .ok, .nat 0, .optNat (some 7), .optNat (some 5), .ok,
       .err, .ok, .ok, .optNat (some 5), .optNat (some 6), .optNat none] := by decide

end C09Gen
