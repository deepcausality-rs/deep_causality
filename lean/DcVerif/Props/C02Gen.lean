import DcVerif.Gen.ReasoningN
import DcVerif.Model.Causaloid
import DcVerif.Props.C02
/-!
# C02 — the graph level of the nested model, tied to the source

`Gen/ReasoningN.lean` is the text of `Gen/Reasoning.lean` (regenerated from `graph_reasoning.rs` on every run) read against
`Model/ReasoningPrimN.lean`, where a node answers `is_singleton()` and `verify_all_causes(..)` itself. Here the nodes are the
causaloids of `Model/Causaloid.lean` (`toNode`: the recursive call into a wrapped collection / graph is the model's
`verifyAll`), and the theorems say that the generated `reason_all_causes` computes `Causal.reasonAllGraph` — the function
`verifyAll` uses for a graph wrapper and every theorem of `Props/C02.lean` speaks about.

Scope (hypotheses, each shown satisfiable below): no node evaluation panics (`Total`: every contextual singleton has its
context, every wrapped structure yields a verdict within the fuel) and the root is a singleton — the generated
definitions' vocabulary has total `verify_single_cause` / `verify_all_causes`; the panicking cases are theorems of
`Props/C02.lean` about the model (`root_wrapper_panics`, …) and are compared by the correspondence run.
-/
namespace C02Gen
open Causal
open Dfs (V)

variable {ε : Type}

/-- a causaloid of the nested model as the graph code sees it -/
def toNode (mk : Nat → Nat) (fuel : Nat) (c : Causaloid) : NestedGraph.Node :=
  { id := c.id, single := c.isSingleton,
    fn := ⟨fun o => (verifySingle mk c o).getD .e⟩,
    va := fun data idx => (verifyAll mk fuel c data idx).getD .e }

def toNG (mk : Nat → Nat) (fuel : Nat) (nodes : List Causaloid) (edges : List (Nat × Nat)) (root : Option Nat) :
    NestedGraph.CG :=
  { nodes := nodes.map (toNode mk fuel), edges := edges, root := root }

/-- a panic and an exhausted fuel are both "no verdict" in the nested model -/
def resV : Option (NestedGraph.Res × List ε) → Option V
  | none => none
  | some (.panic, _) => none
  | some (.err, _) => some .e
  | some (.ok true, _) => some .t
  | some (.ok false, _) => some .f

def Total (mk : Nat → Nat) (fuel : Nat) (nodes : List Causaloid) (data : List Nat) (idx : Idx) : Prop :=
  ∀ c ∈ nodes, (c.isSingleton = true → ∀ o, (verifySingle mk c o).isSome = true) ∧
    (c.isSingleton = false → (verifyAll mk fuel c data idx).isSome = true)

theorem get_obs_eq (id : Nat) (data : List Nat) (idx : Idx) : Gen.ReasoningN.get_obs id data idx = getObs id data idx := by
  unfold Gen.ReasoningN.get_obs getObs
  grind

theorem nodeTable_get (mk : Nat → Nat) (fuel : Nat) (nodes : List Causaloid) (data : List Nat) (idx : Idx) (v : Nat) :
    ((nodeTable mk fuel nodes data idx)[v]?).bind id =
      (nodes[v]?).bind (fun c => (getObs c.id data idx).bind (fun o => dispatch mk c (some o) (verifyAll mk fuel c data idx))) :=
  Causal.nodeTable_get mk fuel data idx nodes v

theorem toNG_getNode (mk : Nat → Nat) (fuel : Nat) (nodes : List Causaloid) (edges : List (Nat × Nat)) (root : Option Nat)
    (c : Nat) : NestedGraph.getNode (toNG mk fuel nodes edges root) c = (nodes[c]?).map (toNode mk fuel) := by
  simp [NestedGraph.getNode, toNG]

theorem toNG_outEdges (mk : Nat → Nat) (fuel : Nat) (nodes : List Causaloid) (edges : List (Nat × Nat)) (root : Option Nat)
    {c : Nat} (h : c < nodes.length) :
    NestedGraph.outEdges (toNG mk fuel nodes edges root) c = some (outOf nodes.length edges c) := by
  simp [NestedGraph.outEdges, NestedGraph.contains, NestedGraph.out, toNG, outOf, h]

/-- the verdict the generated code computes for a fetched node = the model's dispatch, when the evaluation does not panic -/
theorem node_verdict (mk : Nat → Nat) (fuel : Nat) (nodes : List Causaloid) (data : List Nat) (idx : Idx)
    (hT : Total mk fuel nodes data idx) (c : Causaloid) (hc : c ∈ nodes) (o : Nat) :
    dispatch mk c (some o) (verifyAll mk fuel c data idx) =
      some (if (toNode mk fuel c).isSingleton then (toNode mk fuel c).fn.apply o else (toNode mk fuel c).verifyAll data idx) := by
  have h := hT c hc
  cases c with
  | single cell id fn =>
    have := h.1 rfl o
    simp only [dispatch, toNode, NestedGraph.Node.isSingleton, Causaloid.isSingleton, verifySingle, Option.bind_some, if_true] at *
    cases hf : fn.apply mk o <;> simp_all
  | _ =>
    have := h.2 rfl
    simp only [dispatch, toNode, NestedGraph.Node.isSingleton, NestedGraph.Node.verifyAll, Causaloid.isSingleton] at *
    generalize verifyAll mk fuel _ data idx = v at *
    cases v <;> simp_all

/-- **the generated `while let` loop is the model's `loopO`** — for every fuel, log and stack -/
theorem loop_eq (mkE : Nat → Nat → ε) (mk : Nat → Nat) (fuel : Nat) (nodes : List Causaloid) (edges : List (Nat × Nat))
    (root : Option Nat) (sp : Nat → Nat → Option (List Nat)) (s stop : Nat) (data : List Nat) (idx : Idx)
    (hT : Total mk fuel nodes data idx) :
    ∀ (fl : Nat) (lg : List ε) (stack : List (List Nat)),
      resV (Gen.ReasoningN.reason_from_to_cause.loop1 mkE fuel (toNG mk fuel nodes edges root) sp s stop data idx fl lg stack) =
        loopO (outOf nodes.length edges) (fun v => ((nodeTable mk fuel nodes data idx)[v]?).bind id) stop fl stack := by
  intro fl
  induction fl with
  | zero => intro lg stack; simp [Gen.ReasoningN.reason_from_to_cause.loop1, loopO, resV]
  | succ fl ih =>
    intro lg stack
    match stack with
    | [] => simp [Gen.ReasoningN.reason_from_to_cause.loop1, loopO, resV]
    | [] :: rest => simp only [Gen.ReasoningN.reason_from_to_cause.loop1, loopO]; exact ih lg rest
    | (c :: cs) :: rest =>
      simp only [Gen.ReasoningN.reason_from_to_cause.loop1, loopO, get_obs_eq, toNG_getNode]
      rw [nodeTable_get mk fuel nodes data idx c]
      cases hn : nodes[c]? with
      | none => simp [resV]
      | some cz =>
        have ho := toNG_outEdges mk fuel nodes edges root (List.getElem?_eq_some_iff.1 hn).1
        have hid : (toNode mk fuel cz).id = cz.id := rfl
        simp only [Option.map_some, hid, Option.bind_some]
        cases hob : getObs cz.id data idx with
        | none => simp [resV]
        | some o =>
          simp only [Option.bind_some, node_verdict mk fuel nodes data idx hT cz (List.mem_of_getElem? hn) o]
          -- a singleton and a wrapper differ in the log only, which `resV` forgets
          grind [resV]

/-- the model's `reasonGraph` from a given start node (`reason_all_causes` starts at the root) -/
def modelFrom (mk : Nat → Nat) (fuel : Nat) (nodes : List Causaloid) (edges : List (Nat × Nat)) (r : Nat) (data : List Nat)
    (idx : Idx) : Option V :=
  reasonGraph fuel nodes.length edges (some r) data ((nodes[r]?).bind (fun c => startVerdict mk c data idx))
    (nodeTable mk fuel nodes data idx)

/-- the generated `reason_from_to_cause` from `r` to the stop index `reason_all_causes` uses (`get_last_index()`) -/
theorem reason_from_to_cause_eq (mkE : Nat → Nat → ε) (mk : Nat → Nat) (fuel : Nat) (nodes : List Causaloid)
    (edges : List (Nat × Nat)) (root : Option Nat) (sp : Nat → Nat → Option (List Nat)) (r : Nat) (data : List Nat) (idx : Idx)
    (hT : Total mk fuel nodes data idx)
    (hsing : ∀ c, nodes[r]? = some c → c.isSingleton = true)
    (hn0 : nodes.length ≠ 0) :
    resV (Gen.ReasoningN.reason_from_to_cause mkE fuel (toNG mk fuel nodes edges root) sp r nodes.length data idx) =
      modelFrom mk fuel nodes edges r data idx := by
  unfold Gen.ReasoningN.reason_from_to_cause modelFrom reasonGraph
  have hc0 : (NestedGraph.nodeCount (toNG mk fuel nodes edges root) == 0) = false := by
    simp [NestedGraph.nodeCount, toNG, hn0]
  simp only [hc0, Bool.false_eq_true, if_false]
  by_cases hd : data.isEmpty = true
  · simp [hd, resV]
  by_cases hle : nodes.length ≤ r
  · simp [hd, NestedGraph.contains, toNG, hle, Nat.not_lt.2 hle, resV]
  have hlt : r < nodes.length := Nat.lt_of_not_le hle
  obtain ⟨cz, hn⟩ : ∃ cz, nodes[r]? = some cz := ⟨nodes[r], List.getElem?_eq_getElem hlt⟩
  have hid : (toNode mk fuel cz).id = cz.id := rfl
  have hcont : NestedGraph.contains (toNG mk fuel nodes edges root) r = true := by simp [NestedGraph.contains, toNG, hlt]
  simp only [hd, Bool.false_eq_true, hcont, if_true, hle, if_false, toNG_getNode,
    toNG_outEdges mk fuel nodes edges root hlt, hn, Option.map_some, hid, get_obs_eq, Option.bind_some, startVerdict]
  cases hob : getObs cz.id data idx with
  | none => simp [resV]
  | some o =>
    -- the root is a singleton and its evaluation does not panic
    obtain ⟨v, hv⟩ := Option.isSome_iff_exists.1 ((hT cz (List.mem_of_getElem? hn)).1 (hsing cz hn) o)
    have hf : (toNode mk fuel cz).fn.apply o = v := by simp [toNode, hv]
    simp only [Option.bind_some, hv, hf]
    cases v <;> simp only [resV]
    exact loop_eq mkE mk fuel nodes edges root sp r nodes.length data idx hT fuel _ _

/-- **`reason_all_causes` of `CausableGraphReasoning`, as generated from the source, computes the model's verdict for a graph
of nested causaloids** — for every graph (any number of nodes, any nesting below them), data set, data index and fuel, when
no node evaluation panics, the root is a singleton and a graph with a root has a node -/
theorem reason_all_causes_eq (mkE : Nat → Nat → ε) (mk : Nat → Nat) (fuel : Nat) (nodes : List Causaloid)
    (edges : List (Nat × Nat)) (root : Option Nat) (sp : Nat → Nat → Option (List Nat)) (data : List Nat) (idx : Idx)
    (hT : Total mk fuel nodes data idx)
    (hroot : ∀ r c, root = some r → nodes[r]? = some c → c.isSingleton = true)
    (hne : root ≠ none → nodes ≠ []) :
    resV (Gen.ReasoningN.reason_all_causes mkE fuel (toNG mk fuel nodes edges root) sp data idx) =
      reasonAllGraph mk fuel nodes edges root data idx := by
  cases root with
  | none => simp [Gen.ReasoningN.reason_all_causes, reasonAllGraph, reasonGraph, toNG, resV]
  | some r =>
    have hn0 : nodes.length ≠ 0 := by
      have := hne (by simp); cases nodes <;> simp_all
    have hl : NestedGraph.lastIndexR (toNG mk fuel nodes edges (some r)) = some nodes.length := by
      simp [NestedGraph.lastIndexR, NestedGraph.nodeCount, toNG, hn0]
    have hr : (toNG mk fuel nodes edges (some r)).root = some r := rfl
    have key := reason_from_to_cause_eq mkE mk fuel nodes edges (some r) sp r data idx hT (fun c hc => hroot r c rfl hc) hn0
    have hm : reasonAllGraph mk fuel nodes edges (some r) data idx = modelFrom mk fuel nodes edges r data idx := by
      simp [reasonAllGraph, modelFrom]
    rw [hm, ← key]
    unfold Gen.ReasoningN.reason_all_causes
    rw [hr]; simp only [hl]
    generalize Gen.ReasoningN.reason_from_to_cause mkE fuel (toNG mk fuel nodes edges (some r)) sp r nodes.length data idx = x
    rcases x with _ | ⟨_ | _ | _, _⟩ <;> rfl

/-- hence **`verify_all_causes` of a causaloid that wraps a graph is the generated graph reasoning** over its nodes, whose own
`verify_all_causes` are the model's again: the recursion of the nested model closes through the code read from the source
(collections: `Props/C11Gen.lean`, `reason_all_causes_eq` there) -/
theorem verifyAll_graph_eq (mkE : Nat → Nat → ε) (mk : Nat → Nat) (fuel : Nat) (id : Nat) (nodes : List Causaloid)
    (edges : List (Nat × Nat)) (root : Option Nat) (sp : Nat → Nat → Option (List Nat)) (data : List Nat) (idx : Idx)
    (hT : Total mk fuel nodes data idx)
    (hroot : ∀ r c, root = some r → nodes[r]? = some c → c.isSingleton = true)
    (hne : root ≠ none → nodes ≠ []) :
    verifyAll mk fuel (.graph id nodes edges root) data idx =
      resV (Gen.ReasoningN.reason_all_causes mkE fuel (toNG mk fuel nodes edges root) sp data idx) := by
  rw [reason_all_causes_eq mkE mk fuel nodes edges root sp data idx hT hroot hne]
  simp [verifyAll, reasonAllGraph]

/-- **C02 on the generated definition**: the verdict the generated `reason_all_causes` returns for an acyclic graph of nested
causaloids is `true` exactly when every singleton the nested model contains (transitively, through collections and graphs
below its nodes) evaluates `true` on its routed observation -/
theorem c02gen_graph_true_iff (mkE : Nat → Nat → ε) (mk : Nat → Nat) (fuel : Nat) (id : Nat) (nodes : List Causaloid)
    (edges : List (Nat × Nat)) (root : Option Nat) (sp : Nat → Nat → Option (List Nat)) (data : List Nat) (idx : Idx)
    (hT : Total mk fuel nodes data idx)
    (hroot : ∀ r c, root = some r → nodes[r]? = some c → c.isSingleton = true)
    (hne : root ≠ none → nodes ≠ []) (hac : Spec.Nest.Acyclic (.graph id nodes edges root)) (r : V)
    (h : resV (Gen.ReasoningN.reason_all_causes mkE fuel (toNG mk fuel nodes edges root) sp data idx) = some r) :
    r = .t ↔ ∀ l ∈ Spec.Nest.contained mk (.graph id nodes edges root) data idx, l = some .t := by
  rw [← verifyAll_graph_eq mkE mk fuel id nodes edges root sp data idx hT hroot hne] at h
  exact C02.nested_true_iff mk fuel _ data idx r hac h

/-- … and it never answers `true` when something contained is not `true` -/
theorem c02gen_graph_err_never_true (mkE : Nat → Nat → ε) (mk : Nat → Nat) (fuel : Nat) (id : Nat) (nodes : List Causaloid)
    (edges : List (Nat × Nat)) (root : Option Nat) (sp : Nat → Nat → Option (List Nat)) (data : List Nat) (idx : Idx)
    (hT : Total mk fuel nodes data idx)
    (hroot : ∀ r c, root = some r → nodes[r]? = some c → c.isSingleton = true)
    (hne : root ≠ none → nodes ≠ []) (hac : Spec.Nest.Acyclic (.graph id nodes edges root)) (r : V)
    (h : resV (Gen.ReasoningN.reason_all_causes mkE fuel (toNG mk fuel nodes edges root) sp data idx) = some r)
    (hex : ∃ l ∈ Spec.Nest.contained mk (.graph id nodes edges root) data idx, l ≠ some .t) : r ≠ .t := by
  rw [← verifyAll_graph_eq mkE mk fuel id nodes edges root sp data idx hT hroot hne] at h
  exact C02.nested_err_never_true mk fuel _ data idx r hac h hex

/-- root singleton → a collection wrapper of two singletons → a leaf singleton; diamond edge root → leaf -/
def exNodes : List Causaloid :=
  [.single 0 0 .plain, .coll 1 [.single 10 10 .plain, .single 11 11 .inv], .single 2 2 .plain]
def exEdges : List (Nat × Nat) := [(0, 1), (1, 2), (0, 2)]

example : resV (Gen.ReasoningN.reason_all_causes (fun i _ => i) 20 (toNG (fun _ => 0) 20 exNodes exEdges (some 0)) (fun _ _ => none)
    [1, 0, 1] none) = some .t := by decide
example : resV (Gen.ReasoningN.reason_all_causes (fun i _ => i) 20 (toNG (fun _ => 0) 20 exNodes exEdges (some 0)) (fun _ _ => none)
    [1, 1, 1] none) = some .f := by decide
example : reasonAllGraph (fun _ => 0) 20 exNodes exEdges (some 0) [1, 0, 1] none = some .t := by decide
/-- the hypotheses of the theorems above are met by this graph -/
example : Total (fun _ => 0) 20 exNodes [1, 0, 1] none ∧
    (∀ r c, (some 0 : Option Nat) = some r → exNodes[r]? = some c → c.isSingleton = true) := by
  refine ⟨?_, ?_⟩
  · intro c hc
    simp only [exNodes, List.mem_cons, List.not_mem_nil, or_false] at hc
    rcases hc with rfl | rfl | rfl <;> refine ⟨?_, ?_⟩ <;> intro h <;> (try cases h) <;> (try intro o) <;>
      first | (simp [verifySingle, Fn.apply]) | decide
  · intro r c hr hc
    cases hr
    simp [exNodes] at hc
    subst hc; rfl

end C02Gen
