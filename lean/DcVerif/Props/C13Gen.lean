import DcVerif.Gen.RingWiring
import DcVerif.Model.Ring
/-!
# The wiring of the ring-buffer models, tied to the source (C13; shared by C04, C05, C06, C14)

`Gen/RingWiring.lean` is regenerated on every run by `tools/rs2lean_wiring.py` from `dsl/rust_disruptor_builder.rs`
(`with_barrier`, `handle_events[_mut|_with]`, `build[_with_executor]`, symbolically executed). Here the generated builder is *run*
on an arbitrary topology — any number of barrier stages, any number of handlers per stage, mutable or not in any mix — and the
result is shown to be the wiring `Model/Ring.lean` (`ndeps`, `dep`, `ngate`, `gate`) and `Model/RingMulti.lean` are written with:
the barrier of a stage-0 handler is over the producer cursor alone, the barrier of a stage-`k+1` handler over exactly the cursors
of all handlers of stage `k` in registration order, and the producer is gated by exactly the cursors of the last stage.
-/
namespace C13Gen
open Model.WiringPrim Gen.RingWiring

/-- cursors: the producer's and the one of handler `j` of stage `k` -/
inductive Cur
  | prod
  | h (k j : Nat)
deriving DecidableEq, Repr

def stageCursors (k h : Nat) : List Cur := (List.range h).map (Cur.h k)

/-- the closure a user hands to `with_barrier` for stage `k`: `h` calls of `handle_events` / `handle_events_mut`
(`mutable j` says which), each with the processor of a fresh handler -/
def stageFn (k h : Nat) (mutable : Nat → Bool) (s : BarrierScope Cur) : BarrierScope Cur :=
  (List.range h).foldl (fun s j => if mutable j then s.handle_events_mut ⟨.h k j⟩ else s.handle_events ⟨.h k j⟩) s

/-- the runnables a stage contributes when its barrier is over `deps` -/
def stageRuns (k h : Nat) (deps : List Cur) : List (Run Cur) := (List.range h).map (fun j => ⟨.h k j, ⟨deps⟩⟩)

theorem stageFn_eq (k h : Nat) (mutable : Nat → Bool) (s : BarrierScope Cur) :
    stageFn k h mutable s =
      { s with cursors := s.cursors ++ stageCursors k h,
               event_handlers := s.event_handlers ++ stageRuns k h s.gating_sequences } := by
  induction h with
  | zero => simp [stageFn, stageCursors, stageRuns]
  | succ h ih =>
    have : stageFn k (h + 1) mutable s =
        (if mutable h then (stageFn k h mutable s).handle_events_mut ⟨.h k h⟩ else (stageFn k h mutable s).handle_events ⟨.h k h⟩) := by
      simp [stageFn, List.range_succ, List.foldl_append]
    rw [this, ih]
    cases mutable h <;>
      simp [BarrierScope.handle_events, BarrierScope.handle_events_mut, BarrierScope.handle_events_with, Proc.get_cursor,
        Proc.prepare, Seq.create_barrier, stageCursors, stageRuns, List.range_succ]

/-- the remaining stages `k, k+1, …` added to a pipeline under construction -/
def addStages (mutable : Nat → Nat → Bool) : Nat → List Nat → WithEventHandlers Cur → WithEventHandlers Cur
  | _, [], w => w
  | k, h :: hs, w => addStages mutable (k + 1) hs (w.with_barrier (stageFn k h (mutable k)))

/-- the whole DSL chain for the topology `h0 :: hs` (stage sizes), from a sequencer that gates on nothing yet -/
def pipeline (mutable : Nat → Nat → Bool) (h0 : Nat) (hs : List Nat) : List (Run Cur) × Seq Cur :=
  (addStages mutable 1 hs ((⟨⟨.prod, []⟩⟩ : WithSequencer Cur).with_barrier (stageFn 0 h0 (mutable 0)))).build

/-- handlers of stage `k` in the topology `sizes` (0 beyond the last stage) -/
def sizeAt (sizes : List Nat) (k : Nat) : Nat := (sizes[k]?).getD 0

/-- what the model assumes: the dependencies of stage `k` in the topology `sizes` -/
def deps (sizes : List Nat) (k : Nat) : List Cur :=
  if k = 0 then [.prod] else stageCursors (k - 1) (sizeAt sizes (k - 1))

/-- all runnables of stages `k …` when stage `k` waits on `d` -/
def runsFrom : Nat → List Nat → List Cur → List (Run Cur)
  | _, [], _ => []
  | k, h :: hs, d => stageRuns k h d ++ runsFrom (k + 1) hs (stageCursors k h)

/-- the cursors of the last of the stages `k (size h), k+1, …` -/
def lastStage : Nat → Nat → List Nat → List Cur
  | k, h, [] => stageCursors k h
  | k, _, h' :: hs => lastStage (k + 1) h' hs

theorem addStages_eq (mutable : Nat → Nat → Bool) (k : Nat) (hs : List Nat) (w : WithEventHandlers Cur) :
    addStages mutable k hs w =
      { with_sequencer := w.with_sequencer,
        event_handlers := w.event_handlers ++ runsFrom k hs w.gating_sequences,
        gating_sequences := match hs with
          | [] => w.gating_sequences
          | h :: t => lastStage k h t } := by
  induction hs generalizing k w with
  | nil => simp [addStages, runsFrom]
  | cons h hs ih =>
    rw [addStages, ih]
    simp only [WithEventHandlers.with_barrier, stageFn_eq, runsFrom, List.nil_append, List.append_assoc]
    cases hs with
    | nil => simp [lastStage]
    | cons h' t => simp [lastStage]

theorem foldl_gating (l : List Cur) : ∀ s : Seq Cur,
    List.foldl (fun s x => ({ cursor := s.cursor, gating := s.gating ++ [x] } : Seq Cur)) s l =
      { cursor := s.cursor, gating := s.gating ++ l } := by
  induction l with
  | nil => intro s; simp
  | cons a t ih => intro s; simp only [List.foldl_cons]; rw [ih]; simp

/-- **the runnables and the producer's gating list the builder produces, for every topology** -/
theorem pipeline_eq (mutable : Nat → Nat → Bool) (h0 : Nat) (hs : List Nat) :
    pipeline mutable h0 hs =
      (runsFrom 0 (h0 :: hs) [.prod], { cursor := .prod, gating := lastStage 0 h0 hs }) := by
  simp only [pipeline, WithEventHandlers.build, WithEventHandlers.build_with_executor, addStages_eq, WithSequencer.with_barrier,
    stageFn_eq, Seq.get_cursor, runsFrom, List.nil_append, Seq.add_gating_sequence, foldl_gating]
  cases hs with
  | nil => simp [lastStage, runsFrom]
  | cons h' t => simp [lastStage, runsFrom]

theorem lastStage_eq (k h : Nat) (hs : List Nat) :
    lastStage k h hs = stageCursors (k + hs.length) (sizeAt (h :: hs) hs.length) := by
  induction hs generalizing k h with
  | nil => simp [lastStage, sizeAt]
  | cons h' t ih =>
    rw [lastStage, ih]
    simp only [List.length_cons, sizeAt]
    congr 1 <;> first | omega | simp

/-- a runnable of stage `k` is built over `deps sizes k` -/
theorem runsFrom_deps (sizes : List Nat) :
    ∀ (hs : List Nat) (k : Nat) (d : List Cur), sizes.drop k = hs → d = deps sizes k →
      ∀ r ∈ runsFrom k hs d, ∃ k' j, k ≤ k' ∧ r.cursor = .h k' j ∧ j < sizeAt sizes k' ∧ r.barrier.deps = deps sizes k' := by
  intro hs
  induction hs with
  | nil => intro k d _ _ r hr; simp [runsFrom] at hr
  | cons h hs ih =>
    intro k d hdrop hd r hr
    have hk : sizeAt sizes k = h := by
      have : (sizes.drop k)[0]? = some h := by rw [hdrop]; rfl
      simp only [List.getElem?_drop, Nat.add_zero] at this
      simp [sizeAt, this]
    simp only [runsFrom, List.mem_append] at hr
    rcases hr with hr | hr
    · simp only [stageRuns, List.mem_map, List.mem_range] at hr
      obtain ⟨j, hj, rfl⟩ := hr
      exact ⟨k, j, Nat.le_refl k, rfl, by omega, hd⟩
    · have hdrop' : sizes.drop (k + 1) = hs := by
        have : sizes.drop (k + 1) = (sizes.drop k).drop 1 := by rw [List.drop_drop]
        rw [this, hdrop]; rfl
      have hd' : stageCursors k h = deps sizes (k + 1) := by
        simp [deps, hk]
      obtain ⟨k', j, hle, h1, h2, h3⟩ := ih (k + 1) (stageCursors k h) hdrop' hd' r hr
      exact ⟨k', j, by omega, h1, h2, h3⟩

/-- **every handler waits on exactly what the models assume**: in the pipeline built for the topology `h0 :: hs`, the runnable
with cursor `(k, j)` has a barrier over the producer cursor (`k = 0`) resp. over all cursors of stage `k − 1`, in order -/
theorem c13gen_barrier_deps (mutable : Nat → Nat → Bool) (h0 : Nat) (hs : List Nat) :
    ∀ r ∈ (pipeline mutable h0 hs).1, ∃ k j, r.cursor = .h k j ∧ j < sizeAt (h0 :: hs) k ∧ r.barrier.deps = deps (h0 :: hs) k := by
  rw [pipeline_eq]
  intro r hr
  obtain ⟨k, j, _, h1, h2, h3⟩ := runsFrom_deps (h0 :: hs) (h0 :: hs) 0 [.prod] rfl (by simp [deps]) r hr
  exact ⟨k, j, h1, h2, h3⟩

/-- … and every handler of the topology is there, once, in registration order (stage by stage) -/
theorem c13gen_all_handlers (mutable : Nat → Nat → Bool) (h0 : Nat) (hs : List Nat) :
    (pipeline mutable h0 hs).1.map (·.cursor) =
      (List.range (hs.length + 1)).flatMap (fun k => stageCursors k (sizeAt (h0 :: hs) k)) := by
  rw [pipeline_eq]
  have key : ∀ (l : List Nat) (k : Nat) (d : List Cur),
      (runsFrom k l d).map (·.cursor) = (List.range l.length).flatMap (fun i => stageCursors (k + i) (sizeAt l i)) := by
    intro l
    induction l with
    | nil => intro k d; simp [runsFrom]
    | cons h t ih =>
      intro k d
      simp only [runsFrom, List.map_append, ih, List.length_cons, List.range_succ_eq_map, List.flatMap_cons, List.flatMap_map]
      congr 1
      · simp [stageRuns, stageCursors, sizeAt]
      · have : ∀ i, stageCursors (k + 1 + i) (sizeAt t i) = stageCursors (k + (i + 1)) (sizeAt (h :: t) (i + 1)) := by
          intro i
          simp only [sizeAt, List.getElem?_cons_succ]
          congr 1
          omega
        simp only [Function.comp_def, this]
  simpa using key (h0 :: hs) 0 [.prod]

/-- **the producer is gated by exactly the last stage** -/
theorem c13gen_producer_gating (mutable : Nat → Nat → Bool) (h0 : Nat) (hs : List Nat) :
    (pipeline mutable h0 hs).2.gating = stageCursors hs.length (sizeAt (h0 :: hs) hs.length) := by
  rw [pipeline_eq]
  simp [lastStage_eq]

/-- the value of a cursor in a state of the single-producer model -/
def val (s : Ring.St) : Cur → Nat
  | .prod => s.cursor
  | .h k j => (s.cons k j).cur

/-- **`Ring.ndeps` / `Ring.dep` are the generated wiring**: for a model state whose topology is `sizes`, stage `k` waits on
`ndeps s k` cursors and the `d`-th of them is the `d`-th cursor of the barrier the builder builds for stage `k` -/
theorem model_deps_is_generated (s : Ring.St) (sizes : List Nat) (hsz : ∀ k, s.h k = sizeAt sizes k) (k : Nat) :
    Ring.ndeps s k = (deps sizes k).length ∧
    ∀ d, d < Ring.ndeps s k → ((deps sizes k)[d]?).map (val s) = some (Ring.dep s k d) := by
  unfold Ring.ndeps Ring.dep deps
  by_cases hk : k = 0
  · subst hk
    refine ⟨by simp, ?_⟩
    intro d hd
    have : d = 0 := by simpa using hd
    subst this
    simp [val]
  · simp only [hk, if_false, stageCursors, List.length_map, List.length_range, hsz]
    refine ⟨trivial, ?_⟩
    intro d hd
    simp [List.getElem?_map, List.getElem?_range hd, val, hd]

/-- **`Ring.ngate` / `Ring.gate` are the generated gating list** (`K ≥ 1` stages) -/
theorem model_gate_is_generated (s : Ring.St) (h0 : Nat) (hs : List Nat) (mutable : Nat → Nat → Bool)
    (hK : s.K = hs.length + 1) (hsz : ∀ k, s.h k = sizeAt (h0 :: hs) k) :
    Ring.ngate s = (pipeline mutable h0 hs).2.gating.length ∧
    ∀ d, d < Ring.ngate s → (((pipeline mutable h0 hs).2.gating)[d]?).map (val s) = some (Ring.gate s d) := by
  rw [c13gen_producer_gating]
  unfold Ring.ngate Ring.gate
  have : s.K - 1 = hs.length := by omega
  simp only [this, stageCursors, List.length_map, List.length_range, hsz]
  refine ⟨trivial, ?_⟩
  intro d hd
  simp [List.getElem?_map, List.getElem?_range hd, val, hd]

/-! ## non-vacuity: three stages (2, 1, 3 handlers), evaluated through the generated builder -/
example : ((pipeline (fun k j => k == 1) 2 [1, 3]).1.map (fun r => (r.cursor, r.barrier.deps))) =
    [(.h 0 0, [.prod]), (.h 0 1, [.prod]), (.h 1 0, [.h 0 0, .h 0 1]),
     (.h 2 0, [.h 1 0]), (.h 2 1, [.h 1 0]), (.h 2 2, [.h 1 0])] := by decide
example : (pipeline (fun _ _ => false) 2 [1, 3]).2.gating = [.h 2 0, .h 2 1, .h 2 2] := by decide

end C13Gen
