import DcVerif.Gen.UGraphTypes
import DcVerif.Lemmas.UGraph
/-!
# C08 — UltraGraph behaves as a directed-graph store under any operation sequence

`Model.UGraph` mirrors `ultragraph/src/storage/matrix_graph/*.rs` on top of petgraph 0.7.1's `MatrixGraph`
(id allocator with reuse, adjacency cells, edge counter) — version `.repaired`, i.e. with the two repairs
`fixes/F2-remove-edge.diff` and `fixes/F3-number-edges.diff` applied; version `.legacy` is the code before them.
`Spec.DiGraph` is a plain directed graph: live nodes with values, a list of weighted edges, an optional root.

Main statement (`c08_refinement`): for **every** history of operations — mutators `add_node`, `add_root_node`,
`remove_node`, `add_edge`, `add_edge_with_weight`, `remove_edge`, `clear` and every observer, in any interleaving,
of any length, including index reuse after removals — the outputs of the implementation model are exactly the
outputs the specification allows (an `add` may return any index that is not live; every other answer is determined),
and the abstraction of the final implementation state is the specification's final state. Corollaries: the model
never panics; an index returned by an add is fresh and denotes the added value until that node is removed;
edges exist exactly between live nodes where added and not removed; failed operations change nothing.

Before the repairs the statement is false: `c08_F2_remove_edge_forgets_nodes`, `c08_F3_stale_edge_count`
(witnesses, same histories as replayed on the real code, DESIGN.md §6).
-/
namespace C08
open Spec Spec.DiGraph Model Model.UGraph

theorem abs_ext {g : UGraph} {n : List (Nat × Nat)} {e : List Edge} {r : Option Nat}
    (h1 : g.nodeMap = n) (h2 : g.adj = e) (h3 : g.root = r) : abs g = ⟨n, e, r⟩ := by
  unfold abs; rw [h1, h2, h3]

/-- a `Result<(), _>` mutator against the specification's `if c then (s', ok) else (s, err)`: with the guard false the model
answers `err` on the unchanged graph, with the guard true it answers `ok` on a well-formed graph that abstracts to `s'` -/
theorem mutator_refines {g : UGraph} (h : WF g) {p : UGraph × Out} (c : Bool) {s' : DiGraph}
    (herr : c = false → p = (g, .err))
    (hok : c = true → ∃ g', p = (g', .ok) ∧ WF g' ∧ g'.nodeMap = s'.nodes ∧ g'.adj = s'.edges ∧ g'.root = s'.root) :
    WF p.1 ∧ (if (if c then (s', Out.ok) else (abs g, Out.err)).2 = p.2
      then some (if c then (s', Out.ok) else (abs g, Out.err)).1 else none) = some (abs p.1) := by
  cases c
  · rw [herr rfl]; exact ⟨h, rfl⟩
  · obtain ⟨g', rfl, hwf, hnm, hadj, hroot⟩ := hok rfl
    exact ⟨hwf, congrArg some (abs_ext hnm hadj hroot).symm⟩

theorem addEdgeW_refines {g : UGraph} (h : WF g) (a b w : Nat) :
    WF (g.addEdgeW a b w).1 ∧ (if (addEdge (abs g) a b w).2 = (g.addEdgeW a b w).2
      then some (addEdge (abs g) a b w).1 else none) = some (abs (g.addEdgeW a b w).1) :=
  mutator_refines h (has g.nodeMap a && has g.nodeMap b && !g.hasCell a b) (addEdgeW_err h a b w) (addEdgeW_spec h a b w)

theorem c08_step_refines {g : UGraph} (h : WF g) (op : Op) :
    WF (step .repaired g op).1 ∧
    Spec.DiGraph.step (abs g) op (step .repaired g op).2 = some (abs (step .repaired g op).1) := by
  cases op with
  | addNode v =>
    obtain ⟨hwf, hf, hnm, _, hadj, hroot⟩ := addNode_ok h v
    refine ⟨hwf, (if_neg ?_).trans (congrArg some (abs_ext hnm hadj hroot).symm)⟩
    exact fun hl => Bool.false_ne_true (hf.symm.trans hl)
  | addRoot v =>
    obtain ⟨hwf, hf, hnm, hadj, hroot⟩ := addRoot_ok h v
    refine ⟨hwf, (if_neg ?_).trans (congrArg some (abs_ext hnm hadj hroot).symm)⟩
    exact fun hl => Bool.false_ne_true (hf.symm.trans hl)
  | removeNode i => exact mutator_refines h (has g.nodeMap i) (removeNode_err .repaired h i) (removeNode_ok h i)
  | addEdge a b => exact addEdgeW_refines h a b 0
  | addEdgeW a b w => exact addEdgeW_refines h a b w
  | removeEdge a b => exact mutator_refines h (g.hasCell a b) (removeEdge_err .repaired h a b) (removeEdge_ok h a b)
  | clear => exact ⟨wf_init, rfl⟩
  -- the observers: the state stays, the answer is the specification's once the guards are resolved by `WF`
  | containsNode i => exact ⟨h, if_pos (congrArg Out.bool (h.containsNode i).symm)⟩
  | getNode i => exact ⟨h, if_pos (congrArg Out.optNat (h.getNode i).symm)⟩
  | containsEdge a b => exact ⟨h, if_pos (congrArg Out.bool (h.containsEdge a b).symm)⟩
  | size | numNodes | isEmpty | allNodes => simp only [UGraph.step, h.len]; exact ⟨h, if_pos rfl⟩
  | numEdges => exact ⟨h, if_pos (congrArg Out.nat h.edgesOk.nb.symm)⟩
  | allEdges =>
    exact ⟨h, if_pos (congrArg Out.pairs
      (sortPairs_perm (allEdges_perm g h.keysNodup (fun e he => (h.edgesLive e he).1))).symm)⟩
  | outgoing a =>
    simp only [UGraph.step, h.containsNode]
    show _ ∧ (if (if has g.nodeMap a then (abs g, Out.nats (g.rowOf a)) else (abs g, .err)).2 = _
      then some (if has g.nodeMap a then (abs g, Out.nats (g.rowOf a)) else (abs g, .err)).1 else none) = _
    cases has g.nodeMap a <;> exact ⟨h, if_pos rfl⟩
  | containsRoot => exact ⟨h, if_pos rfl⟩
  | getRootNode =>
    simp only [UGraph.step]
    cases hr : g.root with
    | none => exact ⟨h, if_pos (congrArg (fun r : Option Nat => Out.optNat (r.bind (value (abs g)))) hr)⟩
    | some r => exact ⟨h, if_pos (congrArg (fun r : Option Nat => Out.optNat (r.bind (value (abs g)))) hr)⟩
  | getRootIndex => exact ⟨h, if_pos rfl⟩
  | getLastIndex =>
    simp only [UGraph.step, h.len]
    show _ ∧ (if (if g.nodeMap.length == 0 then (abs g, Out.err) else (abs g, .nat g.nodeMap.length)).2 = _
      then some (if g.nodeMap.length == 0 then (abs g, Out.err) else (abs g, .nat g.nodeMap.length)).1 else none) = _
    cases g.nodeMap.length == 0 <;> exact ⟨h, if_pos rfl⟩

theorem c08_run_refines (ops : List Op) : ∀ {g : UGraph}, WF g →
    WF (run .repaired g ops).1 ∧
    Spec.DiGraph.run (abs g) (ops.zip (run .repaired g ops).2) = some (abs (run .repaired g ops).1) := by
  induction ops with
  | nil => intro g h; exact ⟨h, rfl⟩
  | cons op rest ih =>
    intro g h
    obtain ⟨hwf, hst⟩ := c08_step_refines h op
    obtain ⟨hwf', hrun⟩ := ih hwf
    refine ⟨hwf', ?_⟩
    show Spec.DiGraph.run (abs g) ((op, (UGraph.step .repaired g op).2) ::
      rest.zip (run .repaired (UGraph.step .repaired g op).1 rest).2) = _
    simp only [Spec.DiGraph.run, hst]
    exact hrun

/-- **C08, main statement.** For every operation history (any length, any interleaving of mutators and
observers) started on the empty graph: every output of the implementation model is allowed by the plain
directed-graph specification, and the final states correspond. -/
theorem c08_refinement (ops : List Op) :
    Spec.DiGraph.run empty (ops.zip (run .repaired init ops).2) = some (abs (run .repaired init ops).1) :=
  (c08_run_refines ops wf_init).2

/-- every reachable state is well-formed (allocator, matrix, counter and both maps in step) -/
theorem c08_reachable_wf (ops : List Op) : WF (run .repaired init ops).1 :=
  (c08_run_refines ops wf_init).1

theorem spec_rejects_panic (s : DiGraph) (op : Op) : Spec.DiGraph.step s op .panic = none := by
  cases op <;> simp only [Spec.DiGraph.step, det, Spec.DiGraph.addEdge] <;> (repeat' split) <;> simp_all

/-- no operation of any history panics (no `unwrap` on `None`, no failed `assert!`, no underflow of
petgraph's edge counter or of `IdStorage::len`) -/
theorem c08_never_panics {g : UGraph} (h : WF g) (op : Op) : (UGraph.step .repaired g op).2 ≠ .panic := by
  intro hp
  have := (c08_step_refines h op).2
  rw [hp, spec_rejects_panic] at this
  cases this

theorem getNode_of_cons {g g' : UGraph} (h : WF g) (h' : WF g') {i v : Nat} (hf : has g.nodeMap i = false)
    (hnm : g'.nodeMap = (i, v) :: g.nodeMap) :
    g.containsNode i = false ∧ g.getNode i = none ∧ g'.getNode i = some v ∧ ∀ j, j ≠ i → g'.getNode j = g.getNode j :=
  ⟨(h.containsNode i).trans hf, (h.getNode i).trans ((mGet_eq_none_iff _ _).2 hf),
    by rw [h'.getNode, hnm, mGet_cons, if_pos rfl],
    fun j hj => by rw [h'.getNode, h.getNode, hnm, mGet_cons, if_neg (fun e => hj e.symm)]⟩

theorem add_fresh {g : UGraph} (h : WF g) (v : Nat) :
    g.containsNode (g.addNode v).2 = false ∧ g.getNode (g.addNode v).2 = none ∧
      (g.addNode v).1.getNode (g.addNode v).2 = some v ∧ ∀ j, j ≠ (g.addNode v).2 → (g.addNode v).1.getNode j = g.getNode j :=
  have ⟨hwf, hf, hnm, _⟩ := addNode_ok h v
  getNode_of_cons h hwf hf hnm

theorem add_root_fresh {g : UGraph} (h : WF g) (v : Nat) :
    g.containsNode (g.addRoot v).2 = false ∧ (g.addRoot v).1.getNode (g.addRoot v).2 = some v ∧
      (g.addRoot v).1.root = some (g.addRoot v).2 ∧ ∀ j, j ≠ (g.addRoot v).2 → (g.addRoot v).1.getNode j = g.getNode j :=
  have ⟨hwf, hf, hnm, _, hroot⟩ := addRoot_ok h v
  have ⟨h1, _, h3, h4⟩ := getNode_of_cons h hwf hf hnm
  ⟨h1, h3, hroot, h4⟩

/-- **add_fresh.** In every reachable state `add_node` returns an index that was not live, afterwards that
index denotes the added value, and every other index denotes what it denoted before. -/
theorem c08_add_fresh (ops : List Op) (v : Nat) :
    let g := (run .repaired init ops).1
    let r := g.addNode v
    g.containsNode r.2 = false ∧ g.getNode r.2 = none ∧ r.1.getNode r.2 = some v ∧
      ∀ j, j ≠ r.2 → r.1.getNode j = g.getNode j :=
  add_fresh (c08_reachable_wf ops) v

theorem c08_add_root_fresh (ops : List Op) (v : Nat) :
    let g := (run .repaired init ops).1
    let r := g.addRoot v
    g.containsNode r.2 = false ∧ r.1.getNode r.2 = some v ∧ r.1.root = some r.2 ∧
      ∀ j, j ≠ r.2 → r.1.getNode j = g.getNode j :=
  add_root_fresh (c08_reachable_wf ops) v

/-- **failed operations change nothing** (both versions of the code, any state): an operation answering
`err` — absent node, absent or duplicate edge, empty graph — leaves the whole implementation state as it was. -/
theorem c08_failed_ops_change_nothing (ver : Version) (g : UGraph) (op : Op)
    (h : (UGraph.step ver g op).2 = .err) : (UGraph.step ver g op).1 = g := by
  cases op <;> simp only [UGraph.step, UGraph.removeNode, UGraph.addEdgeW, UGraph.removeEdge] at h ⊢ <;>
    (repeat' split at h) <;> simp_all

theorem ite_some {α : Type} {c : Prop} [Decidable c] {a b : α} (h : (if c then some a else none) = some b) :
    c ∧ a = b := by
  by_cases hc : c
  · rw [if_pos hc] at h; exact ⟨hc, Option.some.inj h⟩
  · rw [if_neg hc] at h; cases h

def isAdd : DiGraph.Op → Bool
  | .addNode _ | .addRoot _ => true
  | _ => false

theorem step_nonadd {s s' : DiGraph} {gop : DiGraph.Op} {out : Out} (hna : isAdd gop = false)
    (h : DiGraph.step s gop out = some s') : (s.det gop).2 = out ∧ (s.det gop).1 = s' := by
  cases gop <;> first | (simp [isAdd] at hna; done) | exact ite_some h

theorem spec_value_kept {s s' : DiGraph} {op : Op} {out : Out} (hst : Spec.DiGraph.step s op out = some s')
    {i v : Nat} (hv : s.value i = some v) (hrm : op ≠ .removeNode i) (hcl : op ≠ .clear) : s'.value i = some v := by
  have hlive : s.live i = true := by
    have := mGet_isSome s.nodes i
    rw [show mGet s.nodes i = s.value i from rfl, hv] at this
    exact this.symm
  -- an `add` answers an index that is not live, hence not `i`
  have hadd : ∀ j v', s.live j = false → value { s with nodes := (j, v') :: s.nodes } i = some v := by
    intro j v' hj
    show mGet ((j, v') :: s.nodes) i = some v
    rw [mGet_cons, if_neg (fun e : j = i => by rw [e, hlive] at hj; cases hj)]; exact hv
  cases op with
  | addNode v' =>
    cases out <;> first | cases hst | skip
    simp only [Spec.DiGraph.step] at hst
    split at hst
    · cases hst
    · cases hst; exact hadd _ _ (Bool.eq_false_iff.2 ‹_›)
  | addRoot v' =>
    cases out <;> first | cases hst | skip
    simp only [Spec.DiGraph.step] at hst
    split at hst
    · cases hst
    · cases hst; exact hadd _ _ (Bool.eq_false_iff.2 ‹_›)
  | clear => exact absurd rfl hcl
  | removeNode j =>
    obtain ⟨_, rfl⟩ := step_nonadd rfl hst
    simp only [det]
    split
    · exact (mGet_mRemove_ne s.nodes j i (fun e => hrm (by rw [e]))).trans hv
    · exact hv
  | addEdge a b | addEdgeW a b w | removeEdge a b | outgoing a | getLastIndex =>
    obtain ⟨_, rfl⟩ := step_nonadd rfl hst
    simp only [det, addEdge]
    split <;> exact hv
  | _ => obtain ⟨_, rfl⟩ := step_nonadd rfl hst; exact hv

/-- **an index keeps denoting its node's value until that node is removed**: any operation other than
`remove_node(i)` and `clear` — in particular an `add` that reuses some other freed index, a `remove_edge`
touching `i`, a `remove_node` of a neighbour — leaves `get_node(i)` as it was -/
theorem c08_value_until_removed {g : UGraph} (h : WF g) (i v : Nat) (hv : g.getNode i = some v) (op : Op)
    (hrm : op ≠ .removeNode i) (hcl : op ≠ .clear) : (UGraph.step .repaired g op).1.getNode i = some v := by
  obtain ⟨hwf, hst⟩ := c08_step_refines h op
  rw [hwf.getNode]
  rw [h.getNode] at hv
  exact spec_value_kept hst hv hrm hcl

theorem edges_between_live {g : UGraph} (h : WF g) {a b : Nat} (hc : g.containsEdge a b = true) :
    g.containsNode a = true ∧ g.containsNode b = true := by
  rw [h.containsNode, h.containsNode]
  exact h.hasCell_live ((h.containsEdge a b).symm.trans hc)

/-- in every reachable state an edge connects live nodes -/
theorem c08_edges_between_live (ops : List Op) (a b : Nat) :
    let g := (run .repaired init ops).1
    g.containsEdge a b = true → g.containsNode a = true ∧ g.containsNode b = true :=
  edges_between_live (c08_reachable_wf ops)

theorem hasCell_filter {g g' : UGraph} {p : Edge → Bool} (h : g'.adj = g.adj.filter p) (c d : Nat) (q : Bool)
    (hq : ∀ x : Nat, p (c, d, x) = q) : g'.hasCell c d = (g.hasCell c d && q) := by
  unfold hasCell
  rw [h, List.any_filter]
  have : (fun e : Edge => p e && (e.1 == c && e.2.1 == d)) = fun e => (e.1 == c && e.2.1 == d) && q := by
    funext ⟨e1, e2, x⟩
    cases hf : (e1 == c && e2 == d)
    · exact Bool.and_false _
    · simp only [Bool.and_eq_true, beq_iff_eq] at hf
      rw [hf.1, hf.2, hq, Bool.and_true, Bool.true_and]
  rw [this]
  cases q
  · simp only [Bool.and_false, List.any_eq_false, Bool.false_eq_true, not_false_eq_true, implies_true]
  · simp only [Bool.and_true]

/-- **removing an edge removes nothing else**: a successful `remove_edge(a,b)` leaves every node (membership and
value) and every other edge as they were, and the edge `a→b` is gone -/
theorem c08_remove_edge_effect {g : UGraph} (h : WF g) (a b : Nat) (hok : (g.removeEdge .repaired a b).2 = .ok) :
    (∀ i, (g.removeEdge .repaired a b).1.containsNode i = g.containsNode i) ∧
    (∀ i, (g.removeEdge .repaired a b).1.getNode i = g.getNode i) ∧
    (∀ c d, (g.removeEdge .repaired a b).1.containsEdge c d = (g.containsEdge c d && !(c == a && d == b))) := by
  cases hc : g.hasCell a b
  · rw [removeEdge_err .repaired h a b hc] at hok; cases hok
  · obtain ⟨g', hg', hwf, hnm, hadj, _⟩ := removeEdge_ok h a b hc
    rw [hg']
    refine ⟨fun i => by rw [hwf.containsNode, h.containsNode, hnm], fun i => by rw [hwf.getNode, h.getNode, hnm], ?_⟩
    intro c d
    rw [hwf.containsEdge, h.containsEdge]
    exact hasCell_filter hadj c d _ fun _ => rfl

/-- **removing a node removes exactly the node and its incident edges**, and the edge count follows -/
theorem c08_remove_node_effect {g : UGraph} (h : WF g) (i : Nat) (hok : (g.removeNode .repaired i).2 = .ok) :
    (∀ j, (g.removeNode .repaired i).1.containsNode j = (g.containsNode j && j != i)) ∧
    (∀ j, j ≠ i → (g.removeNode .repaired i).1.getNode j = g.getNode j) ∧
    (∀ c d, (g.removeNode .repaired i).1.containsEdge c d = (g.containsEdge c d && c != i && d != i)) ∧
    (g.removeNode .repaired i).1.nbEdges = (g.adj.filter (fun e => e.1 != i && e.2.1 != i)).length := by
  cases hi : has g.nodeMap i
  · rw [removeNode_err .repaired h i hi] at hok; cases hok
  · obtain ⟨g', hg', hwf, hnm, hadj, _⟩ := removeNode_ok h i hi
    rw [hg']
    refine ⟨fun j => by rw [hwf.containsNode, h.containsNode, hnm, has_mRemove],
      fun j hj => by rw [hwf.getNode, h.getNode, hnm, mGet_mRemove_ne _ _ _ hj], ?_, by rw [hwf.edgesOk.nb, hadj]⟩
    intro c d
    rw [hwf.containsEdge, h.containsEdge, Bool.and_assoc]
    exact hasCell_filter hadj c d _ fun _ => rfl

/-- **adding an edge adds exactly that edge** (both ends live, not yet present), nodes untouched -/
theorem c08_add_edge_effect {g : UGraph} (h : WF g) (a b w : Nat) (hok : (g.addEdgeW a b w).2 = .ok) :
    g.containsNode a = true ∧ g.containsNode b = true ∧ g.containsEdge a b = false ∧
    (∀ i, (g.addEdgeW a b w).1.getNode i = g.getNode i) ∧
    (∀ c d, (g.addEdgeW a b w).1.containsEdge c d = (g.containsEdge c d || (c == a && d == b))) ∧
    (g.addEdgeW a b w).1.nbEdges = g.nbEdges + 1 := by
  cases hc : (has g.nodeMap a && has g.nodeMap b && !g.hasCell a b)
  · rw [addEdgeW_err h a b w hc] at hok; cases hok
  · obtain ⟨g', hg', hwf, hnm, hadj, _⟩ := addEdgeW_spec h a b w hc
    simp only [Bool.and_eq_true, Bool.not_eq_true'] at hc
    rw [hg', h.containsNode, h.containsNode, h.containsEdge]
    refine ⟨hc.1.1, hc.1.2, hc.2, fun i => by rw [hwf.getNode, h.getNode, hnm], ?_, ?_⟩
    · intro c d
      rw [hwf.containsEdge, h.containsEdge]
      unfold hasCell; rw [hadj, List.any_append]
      congr 1
      show ((a == c && b == d) || false) = (c == a && d == b)
      rw [Bool.or_false, @BEq.comm _ _ _ a c, @BEq.comm _ _ _ b d]
    · rw [hwf.edgesOk.nb, h.edgesOk.nb, hadj]; simp

/-- F2: with the legacy `remove_edge`, `add a; add b; add_edge(a,b); remove_edge(a,b)` makes both nodes
unreachable (`contains_node` false, `get_node` none) although they still exist (`number_nodes` = 2) -/
theorem c08_F2_remove_edge_forgets_nodes :
    (run .legacy init [.addNode 10, .addNode 11, .addEdge 0 1, .removeEdge 0 1,
        .containsNode 0, .getNode 1, .numNodes]).2 =
      [.idx 0, .idx 1, .ok, .ok, .bool false, .optNat none, .nat 2] := by decide

/-- F3: with the legacy `remove_node`, after `a→b→c; remove_node(b)` the graph reports 2 edges and lists none -/
theorem c08_F3_stale_edge_count :
    (run .legacy init [.addNode 1, .addNode 2, .addNode 3, .addEdge 0 1, .addEdge 1 2, .removeNode 1,
        .numEdges, .allEdges]).2 =
      [.idx 0, .idx 1, .idx 2, .ok, .ok, .ok, .nat 2, .pairs []] := by decide

theorem c08_F2_F3_repaired :
    (run .repaired init [.addNode 10, .addNode 11, .addEdge 0 1, .removeEdge 0 1,
        .containsNode 0, .getNode 1, .numNodes]).2 =
      [.idx 0, .idx 1, .ok, .ok, .bool true, .optNat (some 11), .nat 2] ∧
    (run .repaired init [.addNode 1, .addNode 2, .addNode 3, .addEdge 0 1, .addEdge 1 2, .removeNode 1,
        .numEdges, .allEdges]).2 =
      [.idx 0, .idx 1, .idx 2, .ok, .ok, .ok, .nat 0, .pairs []] := by decide

/-! ## non-vacuity: a concrete history with growth, index reuse, a self-loop, removal of a node with incident
edges, root handling — accepted by the specification step by step -/
example :
    let ops : List Op := [.addRoot 5, .addNode 6, .addNode 7, .addEdge 0 1, .addEdgeW 1 2 9, .addEdge 2 2, .addEdge 2 0,
      .removeNode 1, .numEdges, .allEdges, .addNode 8, .getNode 1, .outgoing 2, .removeEdge 2 2, .containsNode 2,
      .removeNode 0, .getRootNode, .getRootIndex, .getLastIndex]
    (run .repaired init ops).2 =
      [.idx 0, .idx 1, .idx 2, .ok, .ok, .ok, .ok, .ok, .nat 2, .pairs [(2, 0), (2, 2)], .idx 1, .optNat (some 8),
       .nats [0, 2], .ok, .bool true, .ok, .optNat none, .optNat (some 0), .nat 2] ∧
    (Spec.DiGraph.run empty (ops.zip (run .repaired init ops).2)).isSome = true := by decide

/-- **model assumptions that are facts of the source** (regenerated by `tools/rs2lean.py ugraph` on every run): the model's
node indices are unbounded naturals and its weights unbounded — sound as long as the real index type is 32 bits wide (an `add`
can only wrap after 2^32 nodes, which no history reaches) and weights are 64-bit; the matrix graph is directed. A narrower index
type breaks this obligation; the directed case `addmany 70000` of the generator then exhibits the wrap-around. -/
theorem c08_index_and_weight_widths :
    Gen.UGraphTypes.indexBits = 32 ∧ Gen.UGraphTypes.defaultIxBits = 32 ∧ Gen.UGraphTypes.weightBits = 64 ∧
    Gen.UGraphTypes.directed = true := by decide

end C08
