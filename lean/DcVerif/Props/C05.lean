import DcVerif.Lemmas.RingHB
import DcVerif.Lemmas.RingMultiSafe
import DcVerif.Lemmas.RingMultiHBW
/-!
# C05 — ring buffer slots: no overwrite before consumption, conflicting slot accesses ordered by happens-before,
a producer a full ring ahead blocks (single-producer pipelines)

Everything below holds for **every** ring size `n`, stage/handler topology (`K ≥ 1` stages, `h k ≥ 1` handlers), list of
batch sizes (each ≥ 1), wait strategy (spin *and* blocking) and **every schedule** (`Ring.Reachable` / `HReachable`).

(a)–(e) are about the single producer, (f) and (g) about the multi-producer sequencer (`Model/RingMulti.lean`,
`Model/RingMultiHB.lean`: any number of writer threads, ring size `2^e`). In (c) and (g) happens-before is that of the vector
clocks of `Model/RingHB.lean` (DESIGN.md §5.4) with the memory orderings **taken from the source** (`Gen.Orderings`,
regenerated from `atomic_sequence_ordered.rs` and `bit_map.rs` on every run); what the proofs need of them is
`c05_orderings_used` / `c05_multi_orderings_used`, checked by evaluation, so a weakened ordering in the source breaks these.

**Topology hypothesis / known finding F9** (e): handlers of the *same* stage are not
ordered with each other (no sequence counter connects them within one lap). `RaceFree.reader` therefore claims
ordering against the producer (R1), against every handler of every *earlier* stage (R2) and against everybody's
access one lap earlier (R4) — not against same-stage handlers of the current lap. That is exactly property C05 when a
stage that contains a mutable handler contains no other handler: then every conflicting pair (write/write,
write/read, mutable-handler/any) is a pair covered by R1–R4. The safe builder API also accepts stages holding a
mutable handler *and* others; for those the pair (mutable handler, same-stage handler) on the same sequence is
conflicting and unordered — F9, exhibited by `c05_same_stage_unordered` in the model and by the driver's clock oracle
on the implementation's own events.

Partial: happens-before over an interleaving semantics stands in for the C11 memory model; the mutex / condvar / `is_done` /
spawn / join edges are deliberately not used (fewer edges ⇒ harder to prove ⇒ sound); ordering between two handlers of one
stage is not claimed (F9); for the multi-producer sequencer the ring size is a power of two (as the bitmap requires).
-/
namespace C05
open Ring RingHB Gen.Orderings

theorem mod_ne_of_window {i w n : Nat} (h1 : i < w) (h2 : w < i + n) : w % n ≠ i % n := by
  intro he
  have h0 : (w - i) % n = 0 := Nat.sub_mod_eq_zero_of_mod_eq he
  have hd : n ∣ w - i := Nat.dvd_of_mod_eq_zero h0
  have := Nat.le_of_dvd (by omega) hd
  omega

/-- **C05 (a)**: in every reachable state, if the producer is about to write sequence `w` (`pc = write`, `w ≤ stop`) and a
handler of any stage is about to handle / handling sequence `i` (`pc = handle`, `i ≤ avail`), then `i < w < i + n`; so
the slot written (`w % n`) is not the slot read (`i % n`): no event is overwritten before every handler consumed it and no
handler reads a slot while it is written. -/
theorem c05_no_lap_reachable {x : PSt} (hr : Reachable x) (hw : x.p.pc = .write) (hww : x.p.w ≤ x.p.stop)
    (k j : Nat) (hk : k < x.s.K) (hj : j < x.s.h k)
    (hc : (x.s.cons k j).pc = .handle) (hi : (x.s.cons k j).i ≤ (x.s.cons k j).avail) :
    (x.s.cons k j).i < x.p.w ∧ x.p.w < (x.s.cons k j).i + x.s.n ∧ x.p.w % x.s.n ≠ (x.s.cons k j).i % x.s.n := by
  have := no_lap x (reachable_inv hr) hw hww k j hk hj hc hi
  exact ⟨this.1, this.2, mod_ne_of_window this.1 this.2⟩

/-- non-vacuity of (a): ring of 4, two batches; the producer is writing sequence 4 (second lap, slot 0) while the handler
is handling sequence 1 (slot 1) -/
def demoLap : PSt := runX (mk 4 1 (fun _ => 1) false [4, 1])
  (List.replicate 8 Tid.prod ++ List.replicate 4 (Tid.cons 0 0) ++ List.replicate 2 Tid.prod)

example : demoLap.p.pc = .write ∧ demoLap.p.w = 4 ∧ demoLap.p.stop = 4 ∧ (demoLap.s.cons 0 0).pc = .handle ∧
    (demoLap.s.cons 0 0).i = 1 ∧ (demoLap.s.cons 0 0).avail = 3 := by decide +kernel

/-- one step of any thread: while some last-stage cursor `c` has `c + n < end` (`end` = `stop`, the highest sequence of the
claim being made), the producer stays in the gate loop of `next`, writes nothing and publishes nothing -/
theorem c05_full_ring_blocks {x : PSt} (hr : Reachable x) (hpc : x.p.pc = .gateCheck ∨ x.p.pc = .gateLoad)
    (d : Nat) (hd : d < ngate x.s) (hfull : gate x.s d + x.s.n < x.p.stop) (t : Tid) :
    ((stepX x t).p.pc = .gateCheck ∨ (stepX x t).p.pc = .gateLoad) ∧ (stepX x t).p.pc ≠ .write ∧
    (stepX x t).p.written = x.p.written ∧ (stepX x t).p.stop = x.p.stop ∧ (stepX x t).s.cursor = x.s.cursor := by
  obtain ⟨hI, hK, hP, hb⟩ := reachable_inv hr
  have hmin := hP.minLe d hd
  cases t with
  | cons k j =>
    simp only [stepX]; split
    · rcases hpc with h | h <;> simp [h, stepC]
    · rcases hpc with h | h <;> simp [h]
  | prod =>
    simp only [stepX]
    rcases hpc with h | h
    · have hlt : x.p.min + x.s.n < x.p.stop := by omega
      simp [stepProd, h, hlt]
    · simp only [stepProd, h]; split <;> simp

/-- the same at the loop head, as a statement about the gate test itself: with a last-stage cursor a full ring behind, the
test `min_sequence + buffer_size < end` of `next` succeeds (whatever stale minimum the producer holds — it is never above
a real cursor), so the producer's step from `gateCheck` goes to `gateLoad` (re-read the gating sequences), never to `write` -/
theorem c05_full_ring_gate_fails {x : PSt} (hr : Reachable x) (hpc : x.p.pc = .gateCheck)
    (d : Nat) (hd : d < ngate x.s) (hfull : gate x.s d + x.s.n < x.p.stop) :
    x.p.min + x.s.n < x.p.stop ∧ (stepProd x).p.pc = .gateLoad ∧ (stepProd x).p.claims = x.p.claims := by
  obtain ⟨hI, hK, hP, hb⟩ := reachable_inv hr
  have hmin := hP.minLe d hd
  have hlt : x.p.min + x.s.n < x.p.stop := by omega
  exact ⟨hlt, by simp [stepProd, hpc, hlt], by simp [stepProd, hpc, hlt]⟩

theorem step_fixed (x : PSt) (t : Tid) (h : PInvAll x) :
    (stepX x t).s.K = x.s.K ∧ (stepX x t).s.h = x.s.h ∧ (stepX x t).s.n = x.s.n ∧
    ∀ d, gate x.s d ≤ gate (stepX x t).s d := by
  cases t with
  | prod =>
    obtain ⟨ec, eK, eh, en, _⟩ := cons_same_prod x
    refine ⟨eK, eh, en, fun d => ?_⟩
    show (x.s.cons (x.s.K - 1) d).cur ≤ ((stepProd x).s.cons ((stepProd x).s.K - 1) d).cur
    rw [ec, eK]; exact Nat.le_refl _
  | cons k j =>
    simp only [stepX]; split
    · rename_i hkj
      exact ⟨rfl, rfl, rfl, fun d => gate_mono_stepC x.s k j hkj.1 hkj.2 h.1 d⟩
    · exact ⟨rfl, rfl, rfl, fun _ => Nat.le_refl _⟩

theorem run_fixed (x : PSt) (sched : List Tid) (h : PInvAll x) :
    (runX x sched).s.K = x.s.K ∧ (runX x sched).s.h = x.s.h ∧ (runX x sched).s.n = x.s.n ∧
    ∀ d, gate x.s d ≤ gate (runX x sched).s d := by
  unfold runX
  induction sched generalizing x with
  | nil => exact ⟨rfl, rfl, rfl, fun _ => Nat.le_refl _⟩
  | cons t ts ih =>
    obtain ⟨i1, i2, i3, i4⟩ := ih (stepX x t) (inv_stepX x t h)
    obtain ⟨s1, s2, s3, s4⟩ := step_fixed x t h
    exact ⟨i1.trans s1, i2.trans s2, i3.trans s3, fun d => Nat.le_trans (s4 d) (i4 d)⟩

/-- **C05 (b)**, along every schedule: if at the end of an arbitrary run some last-stage cursor `c` still has
`c + n < end`, the producer — which was in its gate loop at the beginning — is still in it: it has had no enabled write
step (nothing written, nothing published) during the whole run. A producer a full ring ahead blocks until the slowest
last-stage handler advances. -/
theorem c05_full_ring_blocks_run {x : PSt} (hr : Reachable x) (hpc : x.p.pc = .gateCheck ∨ x.p.pc = .gateLoad)
    (sched : List Tid) (d : Nat) (hd : d < ngate x.s) (hfull : gate (runX x sched).s d + x.s.n < x.p.stop) :
    ((runX x sched).p.pc = .gateCheck ∨ (runX x sched).p.pc = .gateLoad) ∧
    (runX x sched).p.written = x.p.written ∧ (runX x sched).s.cursor = x.s.cursor := by
  induction sched generalizing x with
  | nil => exact ⟨hpc, rfl, rfl⟩
  | cons t ts ih =>
    have hrun : runX x (t :: ts) = runX (stepX x t) ts := rfl
    rw [hrun] at hfull ⊢
    have hinv := reachable_inv hr
    obtain ⟨_, _, _, f4⟩ := run_fixed (stepX x t) ts (inv_stepX x t hinv)
    obtain ⟨g1, g2, g3, g4⟩ := step_fixed x t hinv
    -- the gating cursors only grow: full at the end of the run means full now
    have hnow : gate x.s d + x.s.n < x.p.stop := by have := g4 d; have := f4 d; omega
    obtain ⟨b1, _, b3, b4, b5⟩ := c05_full_ring_blocks hr hpc d hd hnow t
    have hd' : d < ngate (stepX x t).s := by simpa [ngate, g1, g2] using hd
    have := ih (reachable_step hr t) b1 hd' (by rw [g3, b4]; exact hfull)
    exact ⟨this.1, this.2.1.trans b3, this.2.2.trans b5⟩

/-- the load loop of `get_min_cursor_sequence`, run by the producer alone -/
theorem gate_loop_solo (B : Nat) (r : Nat) : ∀ (x : PSt), x.p.pc = .gateLoad → x.p.idx + r = ngate x.s →
    (∀ d, d < ngate x.s → B ≤ gate x.s d) → (∀ m, x.p.acc = some m → B ≤ m) → (0 < x.p.idx → x.p.acc.isSome) →
    ∃ a', runX x (List.replicate r Tid.prod) = { x with p := { x.p with acc := a', idx := ngate x.s } } ∧
          (∀ m, a' = some m → B ≤ m) ∧ (0 < ngate x.s → a'.isSome) := by
  induction r with
  | zero =>
    intro x hpc hidx hg ha hs
    refine ⟨x.p.acc, ?_, ha, fun h => hs (by omega)⟩
    have hi : ngate x.s = x.p.idx := by omega
    simp only [List.replicate_zero, runX, List.foldl_nil]
    rw [hi]
  | succ r ih =>
    intro x hpc hidx hg ha hs
    have hlt : x.p.idx < ngate x.s := by omega
    have e : stepX x .prod = { x with p := { x.p with acc := minOpt x.p.acc (gate x.s x.p.idx), idx := x.p.idx + 1 } } := by
      simp [stepX, stepProd, hpc, hlt]
    have hrun : runX x (List.replicate (r + 1) Tid.prod) = runX (stepX x .prod) (List.replicate r Tid.prod) := rfl
    rw [hrun, e]
    obtain ⟨a', h1, h2, h3⟩ := ih { x with p := { x.p with acc := minOpt x.p.acc (gate x.s x.p.idx), idx := x.p.idx + 1 } }
      hpc (by simp only; omega) hg
      (by
        intro m hm
        cases hacc : x.p.acc with
        | none => simp [hacc, minOpt] at hm; subst hm; exact hg _ hlt
        | some m0 =>
          simp [hacc, minOpt] at hm; subst hm
          exact (Nat.le_min).2 ⟨ha m0 hacc, hg _ hlt⟩)
      (fun _ => minOpt_isSome _ _)
    exact ⟨a', h1, h2, h3⟩

/-- **C05 (b), converse**: once every last-stage cursor `c` satisfies `end ≤ c + n` (the slowest last-stage handler has
advanced far enough), the gate opens: running alone from the head of its gate loop the producer reaches the slot write
of the first sequence of its claim after at most `ngate + 3` steps (one failed check on the stale cached minimum, one load
per gating sequence, the minimum, the successful check). -/
theorem c05_gate_opens {x : PSt} (hr : Reachable x) (hpc : x.p.pc = .gateCheck)
    (hopen : ∀ d, d < ngate x.s → x.p.stop ≤ gate x.s d + x.s.n) :
    ∃ m, m ≤ ngate x.s + 3 ∧ (runX x (List.replicate m Tid.prod)).p.pc = .write ∧
      (runX x (List.replicate m Tid.prod)).p.w = x.p.start ∧ (runX x (List.replicate m Tid.prod)).p.stop = x.p.stop ∧
      (runX x (List.replicate m Tid.prod)).p.written = x.p.written := by
  obtain ⟨hI, hK, hP, hb⟩ := reachable_inv hr
  have hgpos := ngate_pos x.s hI.1 hK
  by_cases hlt : x.p.min + x.s.n < x.p.stop
  ·
    let x1 : PSt := { x with p := { x.p with pc := .gateLoad, acc := none, idx := 0 } }
    have e1 : stepX x .prod = x1 := by simp [stepX, stepProd, hpc, hlt, x1]
    obtain ⟨a', h1, h2, h3⟩ := gate_loop_solo (x.p.stop - x.s.n) (ngate x.s) x1 rfl (by simp [x1, ngate])
      (fun d hd => by have := hopen d hd; show x.p.stop - x.s.n ≤ gate x.s d; omega) (by simp [x1]) (by simp [x1])
    have hsome := h3 hgpos
    obtain ⟨mv, hmv⟩ := Option.isSome_iff_exists.mp hsome
    have hB := h2 mv hmv
    refine ⟨1 + ngate x.s + 1 + 1, by omega, ?_⟩
    have hrun : runX x (List.replicate (1 + ngate x.s + 1 + 1) Tid.prod) =
        stepX (stepX (runX (stepX x .prod) (List.replicate (ngate x.s) Tid.prod)) .prod) .prod := by
      have hl : List.replicate (1 + ngate x.s + 1 + 1) Tid.prod =
          [Tid.prod] ++ List.replicate (ngate x.s) Tid.prod ++ [Tid.prod] ++ [Tid.prod] := by
        simp only [← List.replicate_append_replicate]; rfl
      rw [hl]
      simp only [runX, List.foldl_append, List.foldl_cons, List.foldl_nil]
    rw [hrun, e1, h1]
    have hge : ¬ (mv + x.s.n < x.p.stop) := by omega
    simp [stepX, stepProd, x1, ngate, hmv, hge]
  · exact ⟨1, by omega, by simp [runX, stepX, stepProd, hpc, hlt]⟩

/-- non-vacuity of (b): ring of 2, batches 1, 2, 1 and a handler that has not run yet: the third claim has `end = 3`, the only
gating cursor is 0 and `0 + 2 < 3` — the producer is in its gate loop -/
def demoFull : PSt := runX (mk 2 1 (fun _ => 1) false [1, 2, 1]) (List.replicate 13 Tid.prod)

example : (demoFull.p.pc = .gateLoad) ∧ demoFull.p.stop = 3 ∧ gate demoFull.s 0 + demoFull.s.n < demoFull.p.stop ∧
    0 < ngate demoFull.s := by decide +kernel

/-- the two facts about the source's memory orderings the proof of (c) rests on: every store of a sequence counter
(`AtomicSequenceOrdered::set`) is at least `Release`, every load (`AtomicSequenceOrdered::get`) at least `Acquire`.
`Gen/Orderings.lean` is regenerated from `atomic_sequence_ordered.rs` on every run — weakening either ordering there
makes this theorem (and nothing else in the development) fail. -/
theorem c05_orderings_used : seqSet.isRelease = true ∧ seqGet.isAcquire = true := by decide

/-- a state (system + clocks) reachable in a well-formed single-producer pipeline with the orderings of the source: any
ring size, topology, wait strategy, batch list, **any schedule** -/
def HReachable (s : HSt) : Prop :=
  ∃ (n K : Nat) (h : Nat → Nat) (blocking : Bool) (batches : List Nat) (sched : List Tid),
    0 < K ∧ (∀ k, k < K → 0 < h k) ∧ (∀ b, b ∈ batches → 1 ≤ b) ∧ s = runSrc (mkH n K h blocking batches) sched

/-- the clocks are ghost state: the system component of a clocked run is the plain run of `Model/Ring.lean`, so
`HReachable` projects onto `Ring.Reachable` and every `Ring.Reachable` state is the projection of an `HReachable` one -/
theorem c05_clocks_are_ghost (n K : Nat) (h : Nat → Nat) (blocking : Bool) (batches : List Nat) (sched : List Tid) :
    (runSrc (mkH n K h blocking batches) sched).x = runX (mk n K h blocking batches) sched :=
  runH_x seqSet seqGet _ sched

theorem hreachable_x {s : HSt} (hr : HReachable s) : Reachable s.x := by
  obtain ⟨n, K, h, bl, bs, sched, hK, hh, hb, rfl⟩ := hr
  exact ⟨n, K, h, bl, bs, sched, hK, hh, hb, c05_clocks_are_ghost n K h bl bs sched⟩

theorem reachable_lifts {x : PSt} (hr : Reachable x) : ∃ s, HReachable s ∧ s.x = x := by
  obtain ⟨n, K, h, bl, bs, sched, hK, hh, hb, rfl⟩ := hr
  exact ⟨_, ⟨n, K, h, bl, bs, sched, hK, hh, hb, rfl⟩, c05_clocks_are_ghost n K h bl bs sched⟩

theorem c05_hb_invariant {s : HSt} (hr : HReachable s) : HGood s := by
  obtain ⟨n, K, h, bl, bs, sched, hK, hh, hb, rfl⟩ := hr
  exact hgood_run seqSet seqGet c05_orderings_used.1 c05_orderings_used.2 _ sched (hgood_init n K h bl bs hK hh hb)

/-- **C05 (c)**: for every ring size, topology, batch list, wait strategy and schedule, with the orderings the source
uses, the obligations R1–R4 hold before every slot access:
* reader (`RaceFree.reader`): a handler `(k,j)` about to handle sequence `i` knows the producer's write of `i`
  (R1: write → read), every access of `i` by every handler of every earlier stage (R2: earlier-stage access, possibly a
  mutation → later-stage access), and everybody's access of `i − n`, the previous occupant of the slot (R4);
* writer (`RaceFree.writer`): the producer about to write `w` knows everybody's access of `w − n` (R3: read → overwrite);
  write/write pairs are ordered by the producer's program order.
So every pair of conflicting accesses to one slot — except pairs inside one stage, see (e) — is ordered by the
happens-before relation the sequence counters establish. -/
theorem c05_race_free_reachable {s : HSt} (hr : HReachable s) : RaceFree s := by
  have := c05_hb_invariant hr
  exact raceFree_of_inv s this.1 this.2

/-- (c) spelled out for a handler: R1, R2, R4 as inequalities on its clock -/
theorem c05_reader_knows {s : HSt} (hr : HReachable s) (k j : Nat) (hk : k < s.x.s.K) (hj : j < s.x.s.h k)
    (hpc : (s.x.s.cons k j).pc = .handle) (hi : (s.x.s.cons k j).i ≤ (s.x.s.cons k j).avail) :
    (s.x.s.cons k j).i + 1 ≤ (s.vcC k j).pw ∧
    (∀ k' j', k' < k → j' < s.x.s.h k' → (s.x.s.cons k j).i ≤ (s.vcC k j).ha k' j') ∧
    (∀ k' j', k' < s.x.s.K → j' < s.x.s.h k' → (s.x.s.cons k j).i ≤ (s.vcC k j).ha k' j' + s.x.s.n) := by
  have hc := (c05_race_free_reachable hr).reader k j hk hj hpc hi
  have hinv := (c05_hb_invariant hr).1
  have hci := hinv.1.2 k j hk hj
  have h1 := hci.iGe hpc
  have h2 := hci.nextEq (by simp [hpc])
  exact ⟨hc.pw (by omega), fun k' j' hk' hj' => hc.prev k' j' hk' (by omega) hj', hc.old⟩

/-- non-vacuity of (c): two stages, ring of 2, the ring wraps: the second-stage handler is about to handle sequence 3
(slot 1, previously holding sequence 1) and the producer is about to write sequence 4 (slot 0, previously 2) -/
def demoHB : HSt := runSrc (mkH 2 2 (fun _ => 1) false [1, 1, 1, 1, 1])
  (List.replicate 10 Tid.prod ++ List.replicate 8 (Tid.cons 0 0) ++ List.replicate 8 (Tid.cons 1 0) ++
   List.replicate 10 Tid.prod ++ List.replicate 8 (Tid.cons 0 0) ++ List.replicate 8 (Tid.cons 1 0) ++
   List.replicate 8 Tid.prod ++ List.replicate 9 (Tid.cons 0 0) ++ List.replicate 6 (Tid.cons 1 0))

example : (demoHB.x.s.cons 1 0).pc = .handle ∧ (demoHB.x.s.cons 1 0).i = 3 ∧ (demoHB.x.s.cons 1 0).avail = 3 ∧
    (demoHB.vcC 1 0).pw = 4 ∧ (demoHB.vcC 1 0).ha 0 0 = 3 ∧ (demoHB.vcC 1 0).ha 1 0 = 2 ∧
    demoHB.x.p.pc = .write ∧ demoHB.x.p.w = 4 ∧ demoHB.x.p.stop = 4 ∧ demoHB.vcP.ha 1 0 = 2 ∧ demoHB.vcP.ha 0 0 = 2 := by
  decide +kernel

/-- a state in which handler `(0,0)` is about to handle a sequence `i ≥ 1` while its clock knows no more than `i` writes of the
producer (the write of sequence `i` is the `i+1`-st) violates the reader obligation R1 -/
theorem not_raceFree_of (r : HSt)
    (h : 0 < r.x.s.K ∧ 0 < r.x.s.h 0 ∧ (r.x.s.cons 0 0).pc = .handle ∧ (r.x.s.cons 0 0).i ≤ (r.x.s.cons 0 0).avail ∧
      1 ≤ (r.x.s.cons 0 0).i ∧ (r.vcC 0 0).pw ≤ (r.x.s.cons 0 0).i) : ¬ RaceFree r := by
  intro hr
  have := (hr.reader 0 0 h.1 h.2.1 h.2.2.1 h.2.2.2.1).pw h.2.2.2.2.1
  omega

/-- the schedule "producer writes and publishes a batch of two, then the handler waits for it" with a **Relaxed** cursor
store (everything else as in the source) -/
def relaxedStoreRun : HSt :=
  runH .relaxed seqGet (mkH 4 1 (fun _ => 1) false [2]) (List.replicate 6 Tid.prod ++ List.replicate 4 (Tid.cons 0 0))

/-- **C05 (d)**: were `AtomicSequenceOrdered::set` a `Relaxed` store, the handler would be about to read slot 1 without
knowing the producer's write of it (its clock entry for the producer is 0): the reader obligation R1 fails on a concrete
schedule. This is also the replay the check produces when the ordering is weakened in the source. -/
theorem c05_relaxed_store_races : ¬ RaceFree relaxedStoreRun := not_raceFree_of _ (by decide +kernel)

/-- the same with a **Relaxed** cursor load (`AtomicSequenceOrdered::get`) -/
def relaxedLoadRun : HSt :=
  runH seqSet .relaxed (mkH 4 1 (fun _ => 1) false [2]) (List.replicate 6 Tid.prod ++ List.replicate 4 (Tid.cons 0 0))

theorem c05_relaxed_load_races : ¬ RaceFree relaxedLoadRun := not_raceFree_of _ (by decide +kernel)

/-- the same schedule with the orderings of the source: the handler knows both writes -/
def releaseRun : HSt :=
  runSrc (mkH 4 1 (fun _ => 1) false [2]) (List.replicate 6 Tid.prod ++ List.replicate 4 (Tid.cons 0 0))

example : (releaseRun.x.s.cons 0 0).pc = .handle ∧ (releaseRun.x.s.cons 0 0).i = 1 ∧ (releaseRun.vcC 0 0).pw = 2 ∧
    (relaxedStoreRun.x.s.cons 0 0).pc = .handle ∧ (relaxedStoreRun.x.s.cons 0 0).i = 1 ∧
    (relaxedStoreRun.x.s.cons 0 0).avail = 1 ∧ (relaxedStoreRun.vcC 0 0).pw = 0 ∧ (relaxedLoadRun.vcC 0 0).pw = 0 := by
  decide +kernel

/-- one stage with two handlers, ring of 4, one batch of two; handler `(0,1)` has handled sequence 1, handler `(0,0)` is
about to -/
def sameStageRun : HSt :=
  runSrc (mkH 4 1 (fun _ => 2) false [2])
    (List.replicate 6 Tid.prod ++ List.replicate 4 (Tid.cons 0 0) ++ List.replicate 5 (Tid.cons 0 1))

/-- **C05 (e), F9**: in a reachable state (orderings of the source) handler `(0,0)` is about to access the slot of
sequence 1, handler `(0,1)` of the same stage has already accessed it, and `(0,0)` does not know that access — nor the
other way round: the two accesses are not ordered by happens-before. If one of the two handlers is mutable this is a
data race on the slot (`BarrierScope::handle_events_mut` puts no sequence counter between handlers of one stage); if
both are immutable the accesses are two reads and do not conflict. Hence the topology hypothesis of C05: a stage that
contains a mutable handler contains only that handler. -/
theorem c05_same_stage_unordered :
    HReachable sameStageRun ∧
    (sameStageRun.x.s.cons 0 0).pc = .handle ∧ (sameStageRun.x.s.cons 0 0).i = 1 ∧ (sameStageRun.x.s.cons 0 0).avail = 1 ∧
    (sameStageRun.x.s.cons 0 1).log = [1] ∧ (sameStageRun.vcC 0 1).ha 0 1 = 1 ∧
    (sameStageRun.vcC 0 0).ha 0 1 = 0 ∧ (sameStageRun.vcC 0 1).ha 0 0 = 0 := by
  refine ⟨⟨4, 1, fun _ => 2, false, [2], _, by decide, fun _ _ => Nat.zero_lt_two, by decide, rfl⟩, ?_⟩
  decide +kernel

section Multi
open RingMulti

/-- **C05 (f), capacity side for the multi-producer sequencer** — every ring size, topology, wait strategy, number of writer
threads, batch lists, **every schedule**: whenever a writer thread is about to write sequence `w` of its claim (`pc = write`,
`w ≤ hi`), every handler `(k,j)` of every stage has already *published* a cursor `cur` with `w < cur + n` (so `w ≤ cur + n`,
the bound of the single producer, with one slot to spare: `has_capacity` is strict). Hence the previous occupant `w − n` of the
slot has been handed to — and finished by — every handler: it is in every log. `has_capacity` compares against a minimum of
last-stage cursors read *after* the high watermark and only the winner of the CAS on that same high watermark proceeds; cursors
only grow, so the fact survives every interleaving. -/
theorem c05_multi_no_overwrite {x : MSt} (hr : MReachableWF x) (i : Nat) (hi : i < x.P)
    (hpc : (x.wr i).pc = .write) (hw : (x.wr i).w ≤ (x.wr i).hi) (k j : Nat) (hk : k < x.s.K) (hj : j < x.s.h k) :
    (x.wr i).w < (x.s.cons k j).cur + x.s.n ∧
    ∀ q, 1 ≤ q → q + x.s.n ≤ (x.wr i).w → q ∈ (x.s.cons k j).log := by
  have hc := mreachableWF_cap hr
  have h1 := (hc.2 i hi).hiLt (Or.inl hpc)
  have h2 := minG_le_all x hc i hi k j hk hj
  refine ⟨by omega, fun q hq1 hq2 => ?_⟩
  exact RingPay.mem_log_of_le_cur x.s hc.1.2.1 k j hk hj q hq1 (by omega)

/-- the same against a handler that is in the middle of a batch: the writer writing `w` and a handler handling `i` have
`i < w < i + n`, so they touch different slots (`n = 2^k`: the release-safety invariant is needed for `i < w`) -/
theorem c05_multi_no_lap {x : MSt} (hr : MReachableWF x) (e : Nat) (hn : x.s.n = 2 ^ e) (i : Nat) (hi : i < x.P)
    (hpc : (x.wr i).pc = .write) (hw : (x.wr i).w ≤ (x.wr i).hi) (k j : Nat) (hk : k < x.s.K) (hj : j < x.s.h k)
    (hc : (x.s.cons k j).pc = .handle) (hia : (x.s.cons k j).i ≤ (x.s.cons k j).avail) :
    (x.s.cons k j).i < (x.wr i).w ∧ (x.wr i).w < (x.s.cons k j).i + x.s.n ∧
    (x.wr i).w % x.s.n ≠ (x.s.cons k j).i % x.s.n := by
  have hs := mreachableWF_safe hr e hn
  have hI := hs.1.1.2.1
  have h1 := (writing_above_cursor x hs i hi hpc hw).1
  have h2 := avail_le_cursor x.s hI k j hk hj (by simp [hc])
  have h3 := (c05_multi_no_overwrite hr i hi hpc hw k j hk hj).1
  have hci := hI.2 k j hk hj
  have h4 := hci.nextEq (by simp [hc])
  have h5 := hci.iGe hc
  have a : (x.s.cons k j).i < (x.wr i).w := by omega
  have b : (x.wr i).w < (x.s.cons k j).i + x.s.n := by omega
  exact ⟨a, b, mod_ne_of_window a b⟩

/-- two writer threads that are both about to write a slot write different slots: their sequences differ (claims are
disjoint) and both lie in the window `(cursor, cursor + n)` -/
theorem c05_multi_writers_distinct_slots {x : MSt} (hr : MReachableWF x) (e : Nat) (hn : x.s.n = 2 ^ e) (a b : Nat)
    (ha : a < x.P) (hb : b < x.P) (hab : a ≠ b)
    (hpa : (x.wr a).pc = .write) (hwa : (x.wr a).w ≤ (x.wr a).hi)
    (hpb : (x.wr b).pc = .write) (hwb : (x.wr b).w ≤ (x.wr b).hi) :
    (x.wr a).w ≠ (x.wr b).w ∧ (x.wr a).w % x.s.n ≠ (x.wr b).w % x.s.n := by
  have hs := mreachableWF_safe hr e hn
  obtain ⟨a1, a2⟩ := writing_above_cursor x hs a ha hpa hwa
  obtain ⟨b1, b2⟩ := writing_above_cursor x hs b hb hpb hwb
  have hne : (x.wr a).w ≠ (x.wr b).w := by
    intro he
    have p1 : wpend (x.wr a) (x.wr a).w := Or.inl ⟨hpa, (hs.2.ws a ha).wGe hpa, hwa⟩
    have p2 : wpend (x.wr b) (x.wr a).w := by rw [he]; exact Or.inl ⟨hpb, (hs.2.ws b hb).wGe hpb, hwb⟩
    exact hab (hs.2.disj a b _ ha hb p1 p2)
  refine ⟨hne, fun hm => hne ?_⟩
  rcases Nat.le_total (x.wr a).w (x.wr b).w with hle | hle
  · exact eq_of_mod_eq_window hm hle (by omega)
  · exact (eq_of_mod_eq_window hm.symm hle (by omega)).symm

/-- non-vacuity of (f): ring of 4, one handler, the ring wraps: writer 0 is about to write sequence 5 (slot 1, previously
sequence 1) while the handler is handling sequence 3 of the batch 3…4 and has published cursor 2 -/
def demoMulti : MSt := runM (mkM 4 1 (fun _ => 1) false [[1, 1, 1, 1, 1], [1]])
  (List.replicate 40 (MTid.writer 0) ++ List.replicate 12 (MTid.cons 0 0) ++ List.replicate 40 (MTid.writer 0) ++
   List.replicate 4 (MTid.cons 0 0) ++ List.replicate 2 (MTid.writer 0))

example : (demoMulti.wr 0).pc = .write ∧ (demoMulti.wr 0).w = 5 ∧ (demoMulti.wr 0).hi = 5 ∧
    (demoMulti.s.cons 0 0).pc = .handle ∧ (demoMulti.s.cons 0 0).i = 3 ∧ (demoMulti.s.cons 0 0).avail = 4 ∧
    (demoMulti.s.cons 0 0).cur = 2 ∧ (demoMulti.s.cons 0 0).log = [1, 2] := by decide +kernel

theorem demoMulti_reachable : MReachableWF demoMulti :=
  ⟨4, 1, fun _ => 1, false, [[1, 1, 1, 1, 1], [1]], _, by decide, fun _ _ => Nat.one_pos, by decide, rfl⟩

example : (demoMulti.s.cons 0 0).i < (demoMulti.wr 0).w ∧ (demoMulti.wr 0).w < (demoMulti.s.cons 0 0).i + demoMulti.s.n ∧
    (demoMulti.wr 0).w % demoMulti.s.n ≠ (demoMulti.s.cons 0 0).i % demoMulti.s.n :=
  have ⟨hn, hP, hpc, hw, hK, hh, hc, hi⟩ : demoMulti.s.n = 2 ^ 2 ∧ 0 < demoMulti.P ∧ (demoMulti.wr 0).pc = .write ∧
      (demoMulti.wr 0).w ≤ (demoMulti.wr 0).hi ∧ 0 < demoMulti.s.K ∧ 0 < demoMulti.s.h 0 ∧
      (demoMulti.s.cons 0 0).pc = .handle ∧ (demoMulti.s.cons 0 0).i ≤ (demoMulti.s.cons 0 0).avail := by decide +kernel
  c05_multi_no_lap demoMulti_reachable 2 hn 0 hP hpc hw 0 0 hK hh hc hi

/-- two writers holding the claims 1 and 2, both about to write -/
def demoTwoWriters : MSt := runM (mkM 4 1 (fun _ => 1) false [[1], [1]])
  (List.replicate 6 (MTid.writer 0) ++ List.replicate 6 (MTid.writer 1))

example : (demoTwoWriters.wr 0).pc = .write ∧ (demoTwoWriters.wr 0).w = 1 ∧ (demoTwoWriters.wr 1).pc = .write ∧
    (demoTwoWriters.wr 1).w = 2 := by decide +kernel

end Multi

section MultiHB
open RingMulti
open RingMultiHB (HMSt Ords srcOrds OrdsOk RaceFreeM CoversM KnowsW wlog mkMH runMH HMGood)

/-- the facts about the source's memory orderings the proof of (g) rests on (`Gen/Orderings.lean` is regenerated from
`atomic_sequence_ordered.rs` and `bit_map.rs` on every run): sequence loads (`get`: handler cursors, cursor, low watermark)
are at least `Acquire`, sequence stores (`set`: handler cursors, low watermark) at least `Release`, the **successful
`compare_and_swap`** (cursor) at least `Release`, `BitMap::set`'s `fetch_or` at least `Release`, `BitMap::is_set`'s load at
least `Acquire`. Weakening any of them in the source makes this theorem — and with it `c05_multi_race_free_reachable` — fail.
Not needed (an RMW continues the release sequences it reads from whatever its own ordering, and the cursor, the high watermark
and the bitmap words are only ever modified by RMWs): the acquire side of the successful CAS, the failure ordering of the CAS,
the ordering of `BitMap::unset`'s `fetch_and`. -/
theorem c05_multi_orderings_used :
    seqGet.isAcquire = true ∧ seqSet.isRelease = true ∧ seqCasOk.isRelease = true ∧ bmOr.isRelease = true ∧
    bmLoad.isAcquire = true := by decide

theorem c05_multi_orderings_ok : OrdsOk srcOrds :=
  ⟨c05_multi_orderings_used.1, c05_multi_orderings_used.2.1, c05_multi_orderings_used.2.2.1,
   c05_multi_orderings_used.2.2.2.1, c05_multi_orderings_used.2.2.2.2⟩

/-- the three generated word-index functions of the bitmap are one function: the clocks of `set` / `is_set` / `unset` of one
sequence meet on the same word -/
theorem c05_multi_bitmap_word_index (b : Gen.BitMap.BitMap) (q : Nat) :
    Gen.BitMap.set_index b q = Gen.BitMap.is_set_index b q ∧ Gen.BitMap.unset_index b q = Gen.BitMap.is_set_index b q :=
  ⟨rfl, rfl⟩

/-- a state (system + clocks) reachable in a well-formed multi-producer pipeline with the orderings of the source: any ring
size `2^e`, topology, wait strategy, any number of writer threads with any batch lists, **any schedule** -/
def HMReachable (s : HMSt) : Prop :=
  ∃ (e K : Nat) (h : Nat → Nat) (blocking : Bool) (batches : List (List Nat)) (sched : List MTid),
    0 < K ∧ (∀ k, k < K → 0 < h k) ∧ (∀ l, l ∈ batches → ∀ b, b ∈ l → 1 ≤ b) ∧
    s = RingMultiHB.runSrc (mkMH (2 ^ e) K h blocking batches) sched

/-- the clocks are ghost state: the system component of a clocked run is the plain run of `Model/RingMulti.lean` -/
theorem c05_multi_clocks_are_ghost (n K : Nat) (h : Nat → Nat) (blocking : Bool) (batches : List (List Nat))
    (sched : List MTid) :
    (RingMultiHB.runSrc (mkMH n K h blocking batches) sched).x = runM (mkM n K h blocking batches) sched :=
  RingMultiHB.runMH_x srcOrds _ sched

theorem hmreachable_x {s : HMSt} (hr : HMReachable s) : MReachableWF s.x ∧ ∃ e, s.x.s.n = 2 ^ e := by
  obtain ⟨e, K, h, bl, bs, sched, hK, hh, hb, rfl⟩ := hr
  refine ⟨⟨2 ^ e, K, h, bl, bs, sched, hK, hh, hb, c05_multi_clocks_are_ghost _ K h bl bs sched⟩, e, ?_⟩
  rw [c05_multi_clocks_are_ghost]; exact (runM_cfg _ sched).n

theorem mreachable_lifts {x : MSt} (hr : MReachableWF x) (e : Nat) (hn : x.s.n = 2 ^ e) : ∃ s, HMReachable s ∧ s.x = x := by
  obtain ⟨n, K, h, bl, bs, sched, hK, hh, hb, rfl⟩ := hr
  have : n = 2 ^ e := (runM_cfg _ sched).n.symm.trans hn
  subst this
  exact ⟨_, ⟨e, K, h, bl, bs, sched, hK, hh, hb, rfl⟩, c05_multi_clocks_are_ghost _ K h bl bs sched⟩

theorem c05_multi_hb_invariant {s : HMSt} (hr : HMReachable s) : HMGood s := by
  obtain ⟨e, K, h, bl, bs, sched, hK, hh, hb, rfl⟩ := hr
  exact RingMultiHB.hmgood_run srcOrds c05_multi_orderings_ok _ sched (RingMultiHB.hmgood_init e K h bl bs hK hh hb)

/-- **C05 (g)**: for every ring size `2^e`, topology, wait strategy, number of writer threads, batch lists and **every
schedule**, with the orderings the source uses, before every slot access:
* reader (`RaceFreeM.reader`): a handler `(k,j)` about to handle sequence `i` knows the slot write of `i` by its claimant
  (R1 — through the claimant's `fetch_or` on the bitmap word, a publisher's scan of that word, that publisher's successful CAS
  on the cursor and the handler's acquire load of the cursor or of an earlier stage's cursor), indeed of every sequence `≤ i`,
  every access of `i` by every handler of every earlier stage (R2) and every handler's access of `i − n` (R4);
* writer (`RaceFreeM.writer`): a writer thread about to write `w` knows every handler's access of `w − n` (R3);
* writer / writer (`RaceFreeM.writerW`): it also knows the slot write of every sequence `≤ w − n`, whichever writer made it —
  the earlier writes to the same slot; two writers that are about to write at the same time write different slots
  (`c05_multi_writers_distinct_slots`).
So every pair of conflicting accesses to one slot — except pairs inside one stage, F9 — is ordered by happens-before. -/
theorem c05_multi_race_free_reachable {s : HMSt} (hr : HMReachable s) : RaceFreeM s :=
  RingMultiHB.raceFreeM_of_inv s (c05_multi_hb_invariant hr)

/-- (g) spelled out for a handler: R1 (the write of `i` is the `m`-th write of some writer `a`, and the handler knows more
than `m` writes of `a`), R2, R4 (the previous occupant `i − n`: its write and every handler's access) -/
theorem c05_multi_reader_knows {s : HMSt} (hr : HMReachable s) (k j : Nat) (hk : k < s.x.s.K) (hj : j < s.x.s.h k)
    (hpc : (s.x.s.cons k j).pc = .handle) (hi : (s.x.s.cons k j).i ≤ (s.x.s.cons k j).avail) :
    (∃ a m, (wlog s.x.written a)[m]? = some (s.x.s.cons k j).i ∧ m < (s.vcC k j).pw a) ∧
    (∀ k' j', k' < k → j' < s.x.s.h k' → (s.x.s.cons k j).i ≤ (s.vcC k j).ha k' j') ∧
    (∀ k' j', k' < s.x.s.K → j' < s.x.s.h k' → (s.x.s.cons k j).i ≤ (s.vcC k j).ha k' j' + s.x.s.n) ∧
    (s.x.s.n < (s.x.s.cons k j).i → KnowsW s.x.written (s.vcC k j) ((s.x.s.cons k j).i - s.x.s.n)) := by
  have hc := (c05_multi_race_free_reachable hr).reader k j hk hj hpc hi
  have hci := (c05_multi_hb_invariant hr).1.1.1.2.1.2 k j hk hj
  have h1 := hci.iGe hpc
  have h2 := hci.nextEq (by simp [hpc])
  exact ⟨hc.pw _ (by omega) (Nat.le_refl _), fun k' j' hk' hj' => hc.prev k' j' hk' (by omega) hj', hc.old,
    fun hn => hc.pw _ (by omega) (by omega)⟩

/-- (g) spelled out for a writer thread: R3 and writer/writer across laps -/
theorem c05_multi_writer_knows {s : HMSt} (hr : HMReachable s) (a : Nat) (ha : a < s.x.P)
    (hpc : (s.x.wr a).pc = .write) (hw : (s.x.wr a).w ≤ (s.x.wr a).hi) :
    (∀ k j, k < s.x.s.K → j < s.x.s.h k → (s.x.wr a).w ≤ (s.vcW a).ha k j + s.x.s.n) ∧
    (∀ q, 1 ≤ q → q + s.x.s.n ≤ (s.x.wr a).w → ∃ b m, (wlog s.x.written b)[m]? = some q ∧ m < (s.vcW a).pw b) :=
  ⟨(c05_multi_race_free_reachable hr).writer a ha hpc hw, (c05_multi_race_free_reachable hr).writerW a ha hpc hw⟩

/-- (g) against the ghost access logs — **every conflicting access already made to the slot is known**, for a writer thread
about to write `w`: every slot write in the log `written` that went to the same slot (`q ≡ w mod n`), whichever writer made it
(write / write), and every access in the log of any handler to that slot (read or mutation / overwrite). The logged accesses to
the slot are all at least one lap below `w` (each sequence is written once, all live sequences lie in a window of fewer than `n`
above the cursor, handlers are handed nothing above the cursor), so `RaceFreeM.writerW` and R3 cover them. -/
theorem c05_multi_writer_knows_slot_history {s : HMSt} (hr : HMReachable s) (b : Nat) (hb : b < s.x.P)
    (hpc : (s.x.wr b).pc = .write) (hw : (s.x.wr b).w ≤ (s.x.wr b).hi) :
    (∀ q a, (q, a) ∈ s.x.written → q % s.x.s.n = (s.x.wr b).w % s.x.s.n → KnowsW s.x.written (s.vcW b) q) ∧
    (∀ k j, k < s.x.s.K → j < s.x.s.h k → ∀ q, q ∈ (s.x.s.cons k j).log → q % s.x.s.n = (s.x.wr b).w % s.x.s.n →
      q ≤ (s.vcW b).ha k j) := by
  obtain ⟨hx, e, hn⟩ := hmreachable_x hr
  have hS := mreachableWF_safe hx e hn
  have hL := mreachableWF_once hx e hn
  have hrf := c05_multi_race_free_reachable hr
  refine ⟨fun q a hq hres => ?_, fun k j hk hj q hq hres => ?_⟩
  · obtain ⟨h1, h2⟩ := RingMultiHB.earlier_write_lap_below s.x hS hL b hb hpc hw q a hq hres
    exact hrf.writerW b hb hpc hw q h1 h2
  · have h1 := RingMultiHB.log_le_cursor s.x.s hS.1.1.2.1 k j hk hj q hq
    have h2 := (writing_above_cursor s.x hS b hb hpc hw).1
    have h3 := lap_of_mod_eq hres (by omega)
    have h4 := hrf.writer b hb hpc hw k j hk hj
    omega

/-- … and for a handler about to access the slot of `i`: every slot write in the log that went to the same slot is known to it
(write / read, write / mutation) — no sequence above `i` has been written to that slot, since a writer only writes `q` once every
handler has published a cursor above `q − n`. -/
theorem c05_multi_reader_knows_slot_history {s : HMSt} (hr : HMReachable s) (k j : Nat) (hk : k < s.x.s.K)
    (hj : j < s.x.s.h k) (hpc : (s.x.s.cons k j).pc = .handle) (hi : (s.x.s.cons k j).i ≤ (s.x.s.cons k j).avail) :
    ∀ q a, (q, a) ∈ s.x.written → q % s.x.s.n = (s.x.s.cons k j).i % s.x.s.n → KnowsW s.x.written (s.vcC k j) q := by
  obtain ⟨hx, e, hn⟩ := hmreachable_x hr
  have hS := mreachableWF_safe hx e hn
  have hL := mreachableWF_once hx e hn
  have hP := mreachableWF_fit hx e hn
  intro q a hq hres
  obtain ⟨h1, h2⟩ := RingMultiHB.earlier_write_le_handled s.x hS hL hP k j hk hj hpc q a hq hres
  exact ((c05_multi_race_free_reachable hr).reader k j hk hj hpc hi).pw q h1 h2

/-- non-vacuity of (g): ring of 4, two stages, two writer threads. Writer 0 wrote 1, 2, 4, writer 1 wrote 3; now writer 1 is
about to write 5 (slot 1, previously sequence 1 of writer 0), writer 0 is about to write 6 (slot 2), the stage-0 handler is
about to handle 4 -/
def demoMultiSched : List MTid :=
  List.replicate 23 (MTid.writer 0) ++ List.replicate 19 (MTid.writer 1) ++ List.replicate 10 (MTid.cons 0 0) ++
  List.replicate 10 (MTid.cons 1 0) ++ List.replicate 19 (MTid.writer 0) ++ List.replicate 6 (MTid.writer 1) ++
  List.replicate 3 (MTid.cons 0 0) ++ List.replicate 6 (MTid.writer 0)

def demoMultiHB : HMSt := RingMultiHB.runSrc (mkMH (2 ^ 2) 2 (fun _ => 1) false [[2, 1, 1], [1, 1]]) demoMultiSched

theorem demoMultiHB_reachable : HMReachable demoMultiHB :=
  ⟨2, 2, fun _ => 1, false, [[2, 1, 1], [1, 1]], demoMultiSched, by decide, fun _ _ => Nat.one_pos, by decide, rfl⟩

example : (demoMultiHB.x.wr 0).pc = .write ∧ (demoMultiHB.x.wr 0).w = 6 ∧ (demoMultiHB.x.wr 0).hi = 6 ∧
    (demoMultiHB.x.wr 1).pc = .write ∧ (demoMultiHB.x.wr 1).w = 5 ∧ (demoMultiHB.x.wr 1).hi = 5 ∧
    demoMultiHB.x.written = [(1, 0), (2, 0), (3, 1), (4, 0)] ∧ demoMultiHB.x.s.cursor = 4 ∧
    (demoMultiHB.x.s.cons 0 0).pc = .handle ∧ (demoMultiHB.x.s.cons 0 0).i = 4 ∧ (demoMultiHB.x.s.cons 0 0).avail = 4 ∧
    -- the handler knows all three writes of writer 0 (sequence 4 is the third) and the one of writer 1
    (demoMultiHB.vcC 0 0).pw 0 = 3 ∧ (demoMultiHB.vcC 0 0).pw 1 = 1 ∧
    -- writer 1, about to overwrite sequence 1 (writer 0's first write), knows two writes of writer 0 and three accesses of
    -- either handler
    (demoMultiHB.vcW 1).pw 0 = 2 ∧ (demoMultiHB.vcW 1).ha 0 0 = 3 ∧ (demoMultiHB.vcW 1).ha 1 0 = 3 := by
  decide +kernel

example : ∃ a m, (wlog demoMultiHB.x.written a)[m]? = some 4 ∧ m < (demoMultiHB.vcC 0 0).pw a := by
  have ⟨hK, hh, hpc, hi, hi4⟩ : 0 < demoMultiHB.x.s.K ∧ 0 < demoMultiHB.x.s.h 0 ∧ (demoMultiHB.x.s.cons 0 0).pc = .handle ∧
      (demoMultiHB.x.s.cons 0 0).i ≤ (demoMultiHB.x.s.cons 0 0).avail ∧ (demoMultiHB.x.s.cons 0 0).i = 4 := by decide +kernel
  have := (c05_multi_reader_knows demoMultiHB_reachable 0 0 hK hh hpc hi).1
  rwa [hi4] at this

/-- writer 1, about to overwrite slot 1, knows the only write made to that slot so far: sequence 1, writer 0's first write -/
example : KnowsW demoMultiHB.x.written (demoMultiHB.vcW 1) 1 := by
  have ⟨hP, hpc, hw, hw5, hn, hmem⟩ : 1 < demoMultiHB.x.P ∧ (demoMultiHB.x.wr 1).pc = .write ∧
      (demoMultiHB.x.wr 1).w ≤ (demoMultiHB.x.wr 1).hi ∧ (demoMultiHB.x.wr 1).w = 5 ∧ demoMultiHB.x.s.n = 4 ∧
      (1, 0) ∈ demoMultiHB.x.written := by decide +kernel
  exact (c05_multi_writer_knows_slot_history demoMultiHB_reachable 1 hP hpc hw).1 1 0 hmem (by rw [hw5, hn])

/-- one writer claims, writes and publishes sequence 1, the handler waits for it -/
def casSched : List MTid := List.replicate 18 (MTid.writer 0) ++ List.replicate 4 (MTid.cons 0 0)

/-- a state in which handler `(0,0)` is about to handle a sequence `≥ 1` (so it must know the write of sequence 1), sequence 1
was written by writer 0 only, and the handler's clock knows no write of writer 0 violates the reader obligation -/
theorem not_raceFreeM_of (r : HMSt)
    (h : 0 < r.x.s.K ∧ 0 < r.x.s.h 0 ∧ (r.x.s.cons 0 0).pc = .handle ∧ 1 ≤ (r.x.s.cons 0 0).i ∧
      (r.x.s.cons 0 0).i ≤ (r.x.s.cons 0 0).avail ∧ (∀ e ∈ r.x.written, e.1 = 1 → e.2 = 0) ∧ (r.vcC 0 0).pw 0 = 0) :
    ¬ RaceFreeM r := by
  intro hr
  obtain ⟨hk, hj, hpc, h1, hi, hW, hv⟩ := h
  obtain ⟨a, ha, hpos⟩ := RingMultiHB.knowsW_mem ((hr.reader 0 0 hk hj hpc hi).pw 1 (Nat.le_refl _) h1)
  have : a = 0 := hW _ ha rfl
  subst this
  omega

/-- the same schedule with the **success ordering of `compare_and_swap` weakened to `Acquire`** (everything else as in the
source) -/
def relaxedCasRun : HMSt := runMH { srcOrds with casOk := .acquire } (mkMH 4 1 (fun _ => 1) false [[1]]) casSched

/-- **C05 (g), the table is load-bearing**: were the successful CAS on the cursor `Acquire` only (or `Relaxed`), the handler
would be about to read slot 1 without knowing writer 0's write of it — the reader obligation R1 fails on a concrete schedule.
This is also what the check reports when the ordering is weakened in the source. -/
theorem c05_multi_relaxed_cas_races : ¬ RaceFreeM relaxedCasRun :=
  not_raceFreeM_of _ (by decide +kernel)

/-- two writers: writer 0 claims 1, writer 1 claims 2; writer 0 writes its slot and sets its bit; writer 1 writes, sets its bit,
scans both bits and releases 1 … 2 with its CAS; the handler waits for the cursor and is about to handle 1 — writer 0's write
reaches it only through the bitmap word -/
def relaySched : List MTid :=
  List.replicate 6 (MTid.writer 0) ++ List.replicate 6 (MTid.writer 1) ++ List.replicate 3 (MTid.writer 0) ++
  List.replicate 14 (MTid.writer 1) ++ List.replicate 4 (MTid.cons 0 0)

/-- … with a `Relaxed` `fetch_or` in `BitMap::set` -/
def relaxedOrRun : HMSt := runMH { srcOrds with bOr := .relaxed } (mkMH 4 1 (fun _ => 1) false [[1], [1]]) relaySched

theorem c05_multi_relaxed_fetch_or_races : ¬ RaceFreeM relaxedOrRun :=
  not_raceFreeM_of _ (by decide +kernel)

/-- … with the CAS weakened, on the relay schedule -/
def relaxedCasRelayRun : HMSt :=
  runMH { srcOrds with casOk := .acquire } (mkMH 4 1 (fun _ => 1) false [[1], [1]]) relaySched

theorem c05_multi_relaxed_cas_races_relay : ¬ RaceFreeM relaxedCasRelayRun :=
  not_raceFreeM_of _ (by decide +kernel)

/-- the relay schedule with the orderings of the source, and with a `Relaxed` load in `BitMap::is_set`: in both the handler
knows writer 0's write. The proof of (g) uses the acquire side of the scan's load (`bmLoad`); the publisher's `fetch_and` on
the same words (`bmAnd`, before its CAS) would carry the same edge, so the scan's ordering alone is *not* load-bearing — a
weakened `bmLoad` breaks the proof obligation `c05_multi_orderings_used` although this model run stays ordered. -/
def relaySrcRun : HMSt := RingMultiHB.runSrc (mkMH 4 1 (fun _ => 1) false [[1], [1]]) relaySched
def relaxedScanRun : HMSt := runMH { srcOrds with bLoad := .relaxed } (mkMH 4 1 (fun _ => 1) false [[1], [1]]) relaySched

example : (relaySrcRun.x.s.cons 0 0).pc = .handle ∧ (relaySrcRun.x.s.cons 0 0).i = 1 ∧ (relaySrcRun.x.wr 0).pc = .setBit ∧
    relaySrcRun.x.s.cursor = 2 ∧ (relaySrcRun.vcC 0 0).pw 0 = 1 ∧ (relaySrcRun.vcC 0 0).pw 1 = 1 ∧
    (relaxedScanRun.vcC 0 0).pw 0 = 1 ∧ (relaxedOrRun.vcC 0 0).pw 0 = 0 ∧ (relaxedOrRun.vcC 0 0).pw 1 = 1 := by
  decide +kernel

/-- the same schedule with the orderings of the source: the handler knows the write -/
def sourceCasRun : HMSt := RingMultiHB.runSrc (mkMH 4 1 (fun _ => 1) false [[1]]) casSched

example : (sourceCasRun.x.s.cons 0 0).pc = .handle ∧ (sourceCasRun.x.s.cons 0 0).i = 1 ∧ (sourceCasRun.vcC 0 0).pw 0 = 1 ∧
    (relaxedCasRun.x.s.cons 0 0).pc = .handle ∧ (relaxedCasRun.x.s.cons 0 0).i = 1 ∧ (relaxedCasRun.vcC 0 0).pw 0 = 0 := by
  decide +kernel

end MultiHB

end C05
