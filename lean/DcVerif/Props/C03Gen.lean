import DcVerif.Gen.Csm
import DcVerif.Props.C03
/-!
# C03, tie to the source: what the translator read = the hand model

`Gen/Csm.lean` is regenerated on every run from the current Rust source of `csm_types/{mod.rs,csm_state.rs,csm_action.rs}`
(`tools/rs2lean_csm.py`: symbolic execution, one definition per Rust function, a `for` loop = an auxiliary recursive definition).
Every theorem `…_eq` / `…_sim` below ties one generated definition to the corresponding function of `Model/Csm.lean` **for all
inputs**: every type of state / action references and data values, every `key` (the id a state carries), every environment (what
each causaloid answers on each data value, which actions fail), every table, every enumeration order of the hash map.
The evaluations and getters are *equal* to the model's. The table operations are tied up to `Same`: run on tables that hold the same
pair under every id (and no id twice) the generated function and the model function answer the same and leave tables that again
hold the same pair under every id — all a `HashMap` lets anybody observe; the position of an entry in the association list is an
artefact of the model (so `remove` + `insert` instead of an in-place `insert` is the same function here). Hence
every theorem of `Props/C03.lean` is a statement about what the translator read; the corollaries `c03gen_*` at the end spell the
headline laws out on the generated definitions themselves.

The proofs unfold the generated decision trees and let `grind` / `simp` case-split on whatever the tree splits on, and go by
induction over the list a loop walks; they do not depend on the text of the generated file beyond the names and parameter lists of
the definitions, so meaning-preserving edits of the Rust source regenerate a different file that still checks.
-/
set_option linter.unusedSimpArgs false   -- the simp sets cover spellings the current source does not use
namespace C03Gen
open Spec.Csm Model.Csm

variable {σ α δ : Type}

theorem state_eval_eq (key : σ → Nat) (env : Env σ α δ) (s : σ) :
    Gen.Csm.CausalState.eval key env s = (env.eval s (env.stored s), [Ev.call s (env.stored s)]) := by
  unfold Gen.Csm.CausalState.eval; grind

theorem state_eval_with_data_eq (key : σ → Nat) (env : Env σ α δ) (s : σ) (d : δ) :
    Gen.Csm.CausalState.eval_with_data key env s d = (env.eval s d, [Ev.call s d]) := by
  unfold Gen.Csm.CausalState.eval_with_data; grind

theorem action_fire_eq (key : σ → Nat) (env : Env σ α δ) (a : α) :
    Gen.Csm.CausalAction.fire key env a = (env.fire a, [Ev.fire a]) := by
  unfold Gen.Csm.CausalAction.fire; grind

/- Map facts the generated text may need (a `remove` whose result is inspected instead of a `get` before it, an `insert`
that is undone, …): handed to `grind` where a generated function must leave the table as the model does. -/

theorem delete_of_lookup_none (t : Table σ α) (k : Nat) (h : lookup t k = none) : delete t k = t := by
  induction t with
  | nil => rfl
  | cons e r ih => grind [lookup, delete]

theorem upsert_of_lookup_some (t : Table σ α) (k : Nat) (v : σ × α) (h : lookup t k = some v) : upsert t k v = t := by
  induction t with
  | nil => simp [lookup] at h
  | cons e r ih => grind [lookup, upsert]

theorem upsert_upsert (t : Table σ α) (k : Nat) (v w : σ × α) : upsert (upsert t k v) k w = upsert t k w := by
  induction t with
  | nil => simp [upsert]
  | cons e r ih => grind [upsert]

theorem delete_upsert_of_lookup_none (t : Table σ α) (k : Nat) (v : σ × α) (h : lookup t k = none) :
    delete (upsert t k v) k = t := by
  induction t with
  | nil => simp [upsert, delete]
  | cons e r ih => grind [lookup, upsert, delete]

/-- the same pair under every id, and no id twice in either list -/
def Same (t u : Table σ α) : Prop := (∀ j, lookup t j = lookup u j) ∧ (keys t).Nodup ∧ (keys u).Nodup

theorem Same.refl {t : Table σ α} (h : (keys t).Nodup) : Same t t := ⟨fun _ => rfl, h, h⟩

theorem Same.lookup {t u : Table σ α} (h : Same t u) (j : Nat) : Model.Csm.lookup t j = Model.Csm.lookup u j := h.1 j

theorem Same.abs_eq {t u : Table σ α} (h : Same t u) : C03.abs t = C03.abs u := funext h.1

theorem Same.length_eq {t u : Table σ α} (h : Same t u) : t.length = u.length := by
  have hp : (keys t).Perm (keys u) := by
    rw [List.perm_ext_iff_of_nodup h.2.1 h.2.2]
    intro k
    rw [C03.mem_keys_iff, C03.mem_keys_iff, h.1 k]
  simpa [keys] using hp.length_eq

theorem Same.upsert {t u : Table σ α} (h : Same t u) (k : Nat) (v : σ × α) :
    Same (Model.Csm.upsert t k v) (Model.Csm.upsert u k v) :=
  ⟨fun j => by rw [C03.lookup_upsert, C03.lookup_upsert, h.1 j], C03.nodup_upsert _ _ _ h.2.1, C03.nodup_upsert _ _ _ h.2.2⟩

theorem Same.delete {t u : Table σ α} (h : Same t u) (k : Nat) : Same (Model.Csm.delete t k) (Model.Csm.delete u k) :=
  ⟨fun j => by rw [C03.lookup_delete, C03.lookup_delete, h.1 j], C03.nodup_delete _ _ h.2.1, C03.nodup_delete _ _ h.2.2⟩

/-- `remove` then `insert` is an `insert` that moves the entry to the end: not the same list, the same map -/
theorem Same.upsert_delete {t u : Table σ α} (h : Same t u) (k : Nat) (v : σ × α) :
    Same (Model.Csm.upsert (Model.Csm.delete t k) k v) (Model.Csm.upsert u k v) :=
  ⟨fun j => by
      rw [C03.lookup_upsert, C03.lookup_upsert, C03.lookup_delete, ← h.1 j]
      by_cases e : j = k
      · rw [if_pos e, if_pos e]
      · rw [if_neg e, if_neg e, if_neg e],
    C03.nodup_upsert _ _ _ (C03.nodup_delete _ _ h.2.1), C03.nodup_upsert _ _ _ h.2.2⟩

/-- closes `Same _ _ ∧ outcome = outcome` goals about unfolded decision trees: case analysis on what the tree looks up
(`Same` tables answer alike), then the congruence of `Same` under the table operations, after the map facts above have undone
what the generated text does and takes back -/
local macro "same_crush" : tactic =>
  `(tactic| grind [Out.done, Out.fail, Same.upsert, Same.delete, Same.upsert_delete, Same.lookup, delete_of_lookup_none,
    upsert_of_lookup_some, upsert_upsert, delete_upsert_of_lookup_none])

theorem new_loop_sim (key : σ → Nat) (env : Env σ α δ) (l0 l : List (σ × α)) {m m' : Table σ α} (h : Same m m') :
    Same (Gen.Csm.new.loop1 key env l0 m l) (l.foldl (fun t sa => upsert t (key sa.1) sa) m') := by
  induction l generalizing m m' with
  | nil => simpa [Gen.Csm.new.loop1] using h
  | cons x r ih =>
    rw [Gen.Csm.new.loop1, List.foldl_cons]
    apply ih
    same_crush

theorem new_sim (key : σ → Nat) (env : Env σ α δ) (l : List (σ × α)) :
    Same (Gen.Csm.new key env l) (ofSlice key l) := by
  unfold Gen.Csm.new ofSlice
  exact new_loop_sim key env l l (Same.refl (by simp [keys]))

theorem len_eq (key : σ → Nat) (env : Env σ α δ) (t : Table σ α) : Gen.Csm.len key env t = Model.Csm.len t := by
  simp [Gen.Csm.len, Model.Csm.len]

theorem is_empty_eq (key : σ → Nat) (env : Env σ α δ) (t : Table σ α) :
    Gen.Csm.is_empty key env t = Model.Csm.isEmpty t := by
  unfold Gen.Csm.is_empty Model.Csm.isEmpty
  cases t <;> simp [Gen.Csm.len]

theorem add_single_state_sim (key : σ → Nat) (env : Env σ α δ) {t u : Table σ α} (h : Same t u) (k : Nat) (v : σ × α) :
    Same (Gen.Csm.add_single_state key env t k v).1 (addSingle (δ := δ) u k v).1 ∧
    (Gen.Csm.add_single_state key env t k v).2 = (addSingle u k v).2 := by
  unfold Gen.Csm.add_single_state addSingle
  same_crush

theorem update_single_state_sim (key : σ → Nat) (env : Env σ α δ) {t u : Table σ α} (h : Same t u) (k : Nat) (v : σ × α) :
    Same (Gen.Csm.update_single_state key env t k v).1 (updateSingle (δ := δ) u k v).1 ∧
    (Gen.Csm.update_single_state key env t k v).2 = (updateSingle u k v).2 := by
  unfold Gen.Csm.update_single_state updateSingle
  same_crush

theorem remove_single_state_sim (key : σ → Nat) (env : Env σ α δ) {t u : Table σ α} (h : Same t u) (k : Nat) :
    Same (Gen.Csm.remove_single_state key env t k).1 (removeSingle (δ := δ) u k).1 ∧
    (Gen.Csm.remove_single_state key env t k).2 = (removeSingle u k).2 := by
  unfold Gen.Csm.remove_single_state removeSingle
  same_crush

theorem update_all_loop_sim (key : σ → Nat) (env : Env σ α δ) (t : Table σ α) (l0 l : List (σ × α)) {m m' : Table σ α}
    (h : Same m m') :
    Same (Gen.Csm.update_all_states.loop1 key env t l0 m l).1 (l.foldl (fun t sa => upsert t (key sa.1) sa) m') ∧
    (Gen.Csm.update_all_states.loop1 key env t l0 m l).2 = (Out.done : Out σ α δ) := by
  induction l generalizing m m' with
  | nil => simpa [Gen.Csm.update_all_states.loop1, Out.done] using h
  | cons x r ih =>
    rw [Gen.Csm.update_all_states.loop1, List.foldl_cons]
    apply ih
    same_crush

theorem update_all_states_sim (key : σ → Nat) (env : Env σ α δ) (t : Table σ α) (l : List (σ × α)) :
    Same (Gen.Csm.update_all_states key env t l).1 (ofSlice key l) ∧
    (Gen.Csm.update_all_states key env t l).2 = (Out.done : Out σ α δ) := by
  unfold Gen.Csm.update_all_states ofSlice
  exact update_all_loop_sim key env t l l (Same.refl (by simp [keys]))

theorem eval_single_state_eq (key : σ → Nat) (env : Env σ α δ) (t : Table σ α) (k : Nat) (d : δ) :
    Gen.Csm.eval_single_state key env t k d = (t, evalSingle env t k d) := by
  unfold Gen.Csm.eval_single_state evalSingle evalEntry
  grind [Out.done, Out.fail, C03.lookup_upsert, C03.lookup_delete, delete_of_lookup_none, upsert_of_lookup_some, upsert_upsert,
    delete_upsert_of_lookup_none]

/-- the loop of the hand model's `evalAll`, over the entries instead of over the ids -/
def evalEntries (env : Env σ α δ) : List (Nat × (σ × α)) → Out σ α δ
  | [] => ⟨true, []⟩
  | e :: rest =>
    let o := evalEntry env e.2.1 e.2.2 (env.stored e.2.1)
    if o.ok then
      let r := evalEntries env rest
      ⟨r.ok, o.log ++ r.log⟩
    else o

theorem evalAll_eq_evalEntries (env : Env σ α δ) (t : Table σ α) (order : List Nat) :
    Model.Csm.evalAll env t order = evalEntries env (entries t order) := by
  induction order with
  | nil => rfl
  | cons k rest ih =>
    cases h : lookup t k with
    | none => simp [Model.Csm.evalAll, entries, h] at ih ⊢; exact ih
    | some sa =>
      obtain ⟨s, a⟩ := sa
      simp [Model.Csm.evalAll, entries, h, evalEntries] at ih ⊢
      rw [ih]

theorem eval_all_loop_eq (key : σ → Nat) (env : Env σ α δ) (order : List Nat) (t : Table σ α)
    (lg : List (Ev σ α δ)) (l : List (Nat × (σ × α))) :
    Gen.Csm.eval_all_states.loop1 key env order t lg l =
      (t, ⟨(evalEntries env l).ok, lg ++ (evalEntries env l).log⟩) := by
  induction l generalizing lg with
  | nil => simp [Gen.Csm.eval_all_states.loop1, evalEntries]
  | cons x r ih =>
    unfold Gen.Csm.eval_all_states.loop1 evalEntries evalEntry
    grind

theorem eval_all_states_eq (key : σ → Nat) (env : Env σ α δ) (order : List Nat) (t : Table σ α) :
    Gen.Csm.eval_all_states key env order t = (t, Model.Csm.evalAll env t order) := by
  simp [Gen.Csm.eval_all_states, eval_all_loop_eq, evalAll_eq_evalEntries]

/-- the model's evaluations see the table through `lookup` only -/
theorem evalSingle_congr (env : Env σ α δ) {t u : Table σ α} (h : ∀ j, lookup t j = lookup u j) (k : Nat) (d : δ) :
    evalSingle env t k d = evalSingle env u k d := by
  unfold evalSingle; rw [h k]

theorem evalAll_congr (env : Env σ α δ) {t u : Table σ α} (h : ∀ j, lookup t j = lookup u j) (order : List Nat) :
    Model.Csm.evalAll env t order = Model.Csm.evalAll env u order := by
  induction order with
  | nil => rfl
  | cons k rest ih => simp only [Model.Csm.evalAll, h k, ih]

/-- one call, dispatched to the generated definitions (`env0`: the table operations take an environment and ignore it) -/
def genStep (key : σ → Nat) (env0 : Env σ α δ) (t : Table σ α) : Op σ α δ → Table σ α × Out σ α δ
  | .new l => (Gen.Csm.new key env0 l, .done)
  | .updateAll l => Gen.Csm.update_all_states key env0 t l
  | .add k s a => Gen.Csm.add_single_state key env0 t k (s, a)
  | .remove k => Gen.Csm.remove_single_state key env0 t k
  | .update k s a => Gen.Csm.update_single_state key env0 t k (s, a)
  | .evalSingle env k d => Gen.Csm.eval_single_state key env t k d
  | .evalAll env order => Gen.Csm.eval_all_states key env order t

def genRun (key : σ → Nat) (env0 : Env σ α δ) (t : Table σ α) : List (Op σ α δ) → Table σ α × List (Out σ α δ)
  | [] => (t, [])
  | op :: rest =>
    let r := genStep key env0 t op
    let rr := genRun key env0 r.1 rest
    (rr.1, r.2 :: rr.2)

/-- every generated call answers what the model answers and keeps the tables `Same` -/
theorem genStep_sim (key : σ → Nat) (env0 : Env σ α δ) {t u : Table σ α} (h : Same t u) (op : Op σ α δ) :
    Same (genStep key env0 t op).1 (Model.Csm.step key u op).1 ∧
    (genStep key env0 t op).2 = (Model.Csm.step key u op).2 := by
  cases op with
  | new l => exact ⟨new_sim key env0 l, rfl⟩
  | updateAll l => exact update_all_states_sim key env0 t l
  | add k s a => exact add_single_state_sim key env0 h k (s, a)
  | remove k => exact remove_single_state_sim key env0 h k
  | update k s a => exact update_single_state_sim key env0 h k (s, a)
  | evalSingle env k d =>
    simp only [genStep, Model.Csm.step, eval_single_state_eq]
    exact ⟨h, evalSingle_congr env h.1 k d⟩
  | evalAll env order =>
    simp only [genStep, Model.Csm.step, eval_all_states_eq]
    exact ⟨h, evalAll_congr env h.1 order⟩

theorem genRun_sim (key : σ → Nat) (env0 : Env σ α δ) (ops : List (Op σ α δ)) {t u : Table σ α} (h : Same t u) :
    Same (genRun key env0 t ops).1 (Model.Csm.run key u ops).1 ∧
    (genRun key env0 t ops).2 = (Model.Csm.run key u ops).2 := by
  induction ops generalizing t u with
  | nil => exact ⟨h, rfl⟩
  | cons op rest ih =>
    obtain ⟨h1, h2⟩ := genStep_sim key env0 h op
    obtain ⟨i1, i2⟩ := ih h1
    exact ⟨i1, by simp only [genRun, Model.Csm.run, h2, i2]⟩

/-- **C03 on the generated definitions, the table is a map, every history**: the table the generated code ends with denotes
the map of the specification, and every call answered what the specification prescribes -/
theorem c03gen_run_refines_map (key : σ → Nat) (env0 : Env σ α δ) (ops : List (Op σ α δ)) (t : Table σ α)
    (hn : (keys t).Nodup) :
    C03.abs (genRun key env0 t ops).1 = (Spec.Csm.run key (C03.abs t) ops).1 ∧
    (genRun key env0 t ops).2 = (Spec.Csm.run key (C03.abs t) ops).2 := by
  obtain ⟨h1, h2⟩ := genRun_sim key env0 ops (Same.refl hn)
  rw [h1.abs_eq, h2]; exact C03.c03_run_refines_map key ops t

/-- a generated call that returns `Err` leaves every id as it was; the evaluations never change the table -/
theorem c03gen_failed_call_unchanged (key : σ → Nat) (env0 : Env σ α δ) (t : Table σ α) (hn : (keys t).Nodup)
    (op : Op σ α δ) :
    ((genStep key env0 t op).2.ok = false → Same (genStep key env0 t op).1 t) ∧
    (∀ (env : Env σ α δ) k d, (Gen.Csm.eval_single_state key env t k d).1 = t) ∧
    (∀ (env : Env σ α δ) order, (Gen.Csm.eval_all_states key env order t).1 = t) := by
  refine ⟨fun hf => ?_, fun env k d => by rw [eval_single_state_eq], fun env order => by rw [eval_all_states_eq]⟩
  obtain ⟨h1, h2⟩ := genStep_sim key env0 (Same.refl hn) op
  rw [h2] at hf
  rw [(C03.c03_failed_call_unchanged key t op).1 hf] at h1
  exact h1

/-- **single evaluation, generated**: if `k` holds `(s, a)`, the causaloid of `s` is evaluated exactly once on the supplied data, the
actions fired are `[a]` iff the verdict is `Ok(true)`, and the call succeeds iff the verdict is `Ok(false)` or the fired action succeeded -/
theorem c03gen_evalSingle_fires_iff (key : σ → Nat) (env : Env σ α δ) (t : Table σ α) (k : Nat) (d : δ) (s : σ) (a : α)
    (h : lookup t k = some (s, a)) :
    (Gen.Csm.eval_single_state key env t k d).2.calls = [(s, d)] ∧
    (Gen.Csm.eval_single_state key env t k d).2.fired = (if env.eval s d = .okTrue then [a] else []) ∧
    ((Gen.Csm.eval_single_state key env t k d).2.ok = true ↔
      env.eval s d = .okFalse ∨ (env.eval s d = .okTrue ∧ env.fire a = true)) := by
  rw [eval_single_state_eq]; exact C03.c03_evalSingle_fires_iff env t k d s a h

/-- **`eval_all_states` succeeded, generated**, for every enumeration order of the registered ids -/
theorem c03gen_evalAll_ok_fires_exactly (key : σ → Nat) (env : Env σ α δ) (t : Table σ α) (order : List Nat)
    (hn : (keys t).Nodup) (hp : order.Perm (keys t))
    (hok : (Gen.Csm.eval_all_states key env order t).2.ok = true) :
    (∀ e ∈ t, healthy env e.2 = true) ∧
    (Gen.Csm.eval_all_states key env order t).2.fired.Perm (((t.map (·.2)).filter (triggered env)).map (·.2)) ∧
    (Gen.Csm.eval_all_states key env order t).2.calls.Perm (t.map (fun e => (e.2.1, env.stored e.2.1))) := by
  rw [eval_all_states_eq] at hok ⊢
  have := C03.c03_evalAll_ok_fires_exactly env t order hn hp hok
  exact ⟨this.1, this.2.2.1, this.2.2.2⟩

/-- **`eval_all_states` failed, generated**: a healthy prefix, then the first pair whose evaluation or action failed, nothing after -/
theorem c03gen_evalAll_err_prefix (key : σ → Nat) (env : Env σ α δ) (t : Table σ α) (order : List Nat)
    (herr : (Gen.Csm.eval_all_states key env order t).2.ok = false) :
    ∃ pre bad post, order.filterMap (C03.abs t) = pre ++ bad :: post ∧
      (∀ p ∈ pre, healthy env p = true) ∧ healthy env bad = false ∧
      (Gen.Csm.eval_all_states key env order t).2.log = logOf env (pre ++ [bad]) := by
  rw [eval_all_states_eq] at herr ⊢
  obtain ⟨pre, bad, post, h1, h2, h3, h4, _⟩ := C03.c03_evalAll_err_prefix env t order herr
  exact ⟨pre, bad, post, h1, h2, h3, h4⟩

/-- **`len`, generated**: after every history of generated calls `len` is the number of ids the specification map is defined on -/
theorem c03gen_len_counts_registered (key : σ → Nat) (env0 : Env σ α δ) (ops : List (Op σ α δ)) (cands : List Nat)
    (hc : ∀ k, ((Spec.Csm.run key Map.empty ops).1 k).isSome = true → k ∈ cands) :
    Gen.Csm.len key env0 (genRun key env0 [] ops).1 = (domain (Spec.Csm.run key Map.empty ops).1 cands).length := by
  have hs := (genRun_sim key env0 ops (Same.refl (t := ([] : Table σ α)) (by simp [keys]))).1
  rw [len_eq, Model.Csm.len, hs.length_eq]
  exact (C03.c03_len_counts_registered key ops).2.2.2 cands hc

example : (genRun (fun s => s) C03.exEnv [] C03.exOps).2.map (·.ok) = [true, true, false, true, true, false, true] := by
  decide
example : (Gen.Csm.eval_all_states (fun s => s) C03.exEnv [4, 3, 5] (genRun (fun s => s) C03.exEnv [] C03.exOps).1).2 =
    ⟨false, [.call 4 4, .fire 40, .call 7 7, .fire 70, .call 1 1, .fire 7]⟩ := by decide

end C03Gen
