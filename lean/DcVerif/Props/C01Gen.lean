import DcVerif.Gen.Reasoning
import DcVerif.Props.C01
import DcVerif.Props.C10
/-!
# C01 / C10, tie to the source: what the translator read = the hand model

`Gen/Reasoning.lean` is regenerated on every run from the current Rust source of
`protocols/causable_graph/{graph_reasoning.rs, graph_reasoning_utils.rs, graph.rs}` (`tools/rs2lean_reasoning.py`: symbolic
execution, one definition per Rust function; the `while let Some(children) = stack.last_mut()` loop of `reason_from_to_cause`
becomes a fuel-indexed recursive definition over a list of lists whose transitions — which branch pushes, pops, returns what —
are derived from the parsed statements; `for` loops become structural recursions).
Every theorem `…_eq` below ties one generated definition to the function of `Model/CausalGraph.lean` the theorems of
`Props/C01.lean` / `Props/C10.lean` are about, **for all inputs**: every graph store `g` (well-formed or not), every fuel, start /
stop index, data vector, data index, every answer `sp` of the external `shortest_path`:

    get_obs = getObs      reason_from_to_cause = reasonFromTo   (loop: `from_to_loop_eq`, = `loopT` up to the order of the log)
    reason_all_causes = reasonAll      reason_subgraph_from_cause = reasonSub      reason_single_cause = reasonSingle
    get_shortest_path g sp s t = if s = t then none else sp s t      reason_shortest_path_between_causes = reasonShortest … (sp s t)

The generated definitions log one event `mk i o` per call of a causal function (`i` = the index the causaloid was fetched with,
`o` = the observation); the hand model logs the index (graph traversals) resp. the observation (`reason_single_cause`), so the
equalities are stated at `mk := fun i _ => i` resp. `fun _ o => o`.
Hence every theorem of `Props/C01.lean` and `Props/C10.lean` is a statement about what the translator read; the corollaries
`c01gen_*` / `c10gen_*` at the end spell the headline laws out on the generated definitions themselves.

The proofs case-split on what the *model* inspects (shape of the stack, `getNode`, `getObs`, the verdict) and let `simp` / `grind`
close the generated decision tree in each case; they depend on the names and parameter lists of the generated definitions, not
on the text of their bodies, so meaning-preserving edits of the Rust source regenerate a different file that still checks.
-/
namespace C01Gen
open CausalGraph
open Dfs (V)

theorem get_obs_eq (id : Nat) (data : List Nat) (idx : Option (List (Nat × Nat))) :
    Gen.Reasoning.get_obs id data idx = getObs id data idx := by
  unfold Gen.Reasoning.get_obs getObs
  grind

theorem get_shortest_path_eq (g : CG) (sp : Nat → Nat → Option (List Nat)) (s t : Nat) :
    Gen.Reasoning.get_shortest_path g sp s t = if s = t then none else sp s t := by
  unfold Gen.Reasoning.get_shortest_path
  grind

theorem from_to_loop_eq (g : CG) (sp : Nat → Nat → Option (List Nat)) (s stop : Nat) (data : List Nat)
    (idx : Option (List (Nat × Nat))) (f0 : Nat) :
    ∀ (fl : Nat) (stack : List (List Nat)) (lg : List Nat),
      Gen.Reasoning.reason_from_to_cause.loop1 (fun i _ => i) f0 g sp s stop data idx fl lg stack =
        (loopT (out g) (evalAt g data idx) stop fl stack lg.reverse).map fun p => (p.1, p.2.reverse) := by
  intro fl
  induction fl with
  | zero => intro stack lg; simp [Gen.Reasoning.reason_from_to_cause.loop1, loopT]
  | succ n ih =>
    intro stack lg
    match stack with
    | [] => simp [Gen.Reasoning.reason_from_to_cause.loop1, loopT]
    | [] :: rest => simp [Gen.Reasoning.reason_from_to_cause.loop1, loopT, ih]
    | (c :: cs) :: rest =>
      simp only [Gen.Reasoning.reason_from_to_cause.loop1, loopT, evalAt, get_obs_eq, Node.isSingleton]
      cases hn : getNode g c with
      | none => simp <;> grind
      | some nd =>
        have ho := outEdges_of_getNode g c nd hn
        cases hob : getObs nd.id data idx with
        | none => simp [hob] <;> grind
        | some o =>
          cases hv : nd.fn.apply o <;> simp [hob, hv, ho, ih] <;> grind

theorem reason_from_to_cause_eq (fuel : Nat) (g : CG) (sp : Nat → Nat → Option (List Nat)) (s t : Nat) (data : List Nat)
    (idx : Option (List (Nat × Nat))) :
    Gen.Reasoning.reason_from_to_cause (fun i _ => i) fuel g sp s t data idx = reasonFromTo fuel g s t data idx := by
  unfold Gen.Reasoning.reason_from_to_cause reasonFromTo
  simp only [from_to_loop_eq, get_obs_eq, evalAt]
  by_cases hc : contains g s = true
  · have ho := outEdges_of_contains g s hc
    cases hn : getNode g s with
    | none => simp [hc] <;> grind
    | some nd =>
      cases hob : getObs nd.id data idx with
      | none => simp [hc, hob] <;> grind
      | some o => cases hv : nd.fn.apply o <;> simp [hc, ho, hob, hv] <;> grind
  · simp [hc] <;> grind

theorem reason_all_causes_eq (fuel : Nat) (g : CG) (sp : Nat → Nat → Option (List Nat)) (data : List Nat)
    (idx : Option (List (Nat × Nat))) :
    Gen.Reasoning.reason_all_causes (fun i _ => i) fuel g sp data idx = reasonAll fuel g data idx := by
  unfold Gen.Reasoning.reason_all_causes reasonAll lastIndexR
  simp only [reason_from_to_cause_eq]
  grind

theorem reason_subgraph_from_cause_eq (fuel : Nat) (g : CG) (sp : Nat → Nat → Option (List Nat)) (start : Nat)
    (data : List Nat) (idx : Option (List (Nat × Nat))) :
    Gen.Reasoning.reason_subgraph_from_cause (fun i _ => i) fuel g sp start data idx = reasonSub fuel g start data idx := by
  unfold Gen.Reasoning.reason_subgraph_from_cause reasonSub lastIndexR
  simp only [reason_from_to_cause_eq]
  grind

theorem single_loop_eq (g : CG) (sp : Nat → Nat → Option (List Nat)) (i : Nat) (data : List Nat) (nd : Node) :
    ∀ (os lg : List Nat),
      Gen.Reasoning.reason_single_cause.loop1 (fun _ o => o) g sp i data nd lg os =
        ((singleLoop nd.fn os).1, lg ++ (singleLoop nd.fn os).2) := by
  intro os
  induction os with
  | nil => intro lg; simp [Gen.Reasoning.reason_single_cause.loop1, singleLoop]
  | cons o os ih =>
    intro lg
    simp only [Gen.Reasoning.reason_single_cause.loop1, singleLoop]
    cases hv : nd.fn.apply o <;> simp [ih] <;> grind

theorem reason_single_cause_eq (g : CG) (sp : Nat → Nat → Option (List Nat)) (i : Nat) (data : List Nat) :
    Gen.Reasoning.reason_single_cause (fun _ o => o) g sp i data = reasonSingle g i data := by
  unfold Gen.Reasoning.reason_single_cause reasonSingle
  simp only [single_loop_eq]
  match data with
  | [] => simp
  | [o] => cases getNode g i <;> simp <;> grind
  | o :: o' :: os => cases getNode g i <;> simp <;> grind

theorem path_loop_eq (g : CG) (sp : Nat → Nat → Option (List Nat)) (s t : Nat) (data : List Nat)
    (idx : Option (List (Nat × Nat))) :
    ∀ (p lg : List Nat),
      Gen.Reasoning.reason_shortest_path_between_causes.loop1 (fun i _ => i) g sp s t data idx lg p =
        ((pathEval (evalAt g data idx) p).1, lg ++ (pathEval (evalAt g data idx) p).2) := by
  intro p
  induction p with
  | nil => intro lg; simp [Gen.Reasoning.reason_shortest_path_between_causes.loop1, pathEval]
  | cons c cs ih =>
    intro lg
    simp only [Gen.Reasoning.reason_shortest_path_between_causes.loop1, pathEval, evalAt, get_obs_eq]
    cases hn : getNode g c with
    | none => simp <;> grind
    | some nd =>
      cases hob : getObs nd.id data idx with
      | none => simp [hob] <;> grind
      | some o => cases hv : nd.fn.apply o <;> simp [hob, hv, ih] <;> grind

theorem reason_shortest_path_eq (g : CG) (sp : Nat → Nat → Option (List Nat)) (s t : Nat) (data : List Nat)
    (idx : Option (List (Nat × Nat))) :
    Gen.Reasoning.reason_shortest_path_between_causes (fun i _ => i) g sp s t data idx =
      reasonShortest g s t data idx (sp s t) := by
  unfold Gen.Reasoning.reason_shortest_path_between_causes reasonShortest
  simp only [path_loop_eq, get_shortest_path_eq]
  grind

/-- C01, true case, on what the translator read from `reason_from_to_cause` -/
theorem c01gen_reason_true_iff (ops : List Op) (hac : Acyclic (build ops)) (sp : Nat → Nat → Option (List Nat)) (start : Nat)
    (data : List Nat) (idx : Option (List (Nat × Nat))) :
    (∃ fuel log, Gen.Reasoning.reason_from_to_cause (fun i _ => i) fuel (build ops) sp start (lastIndex (build ops)) data idx
        = some (.ok true, log)) ↔
      (data ≠ [] ∧ contains (build ops) start = true ∧
        ∀ v, Reach (build ops) start v → evalAt (build ops) data idx v = some .t) := by
  simp only [reason_from_to_cause_eq]
  exact C01.reason_true_iff ops hac start data idx

/-- C01, false case -/
theorem c01gen_reason_false (ops : List Op) (sp : Nat → Nat → Option (List Nat)) (start : Nat) (data : List Nat)
    (idx : Option (List (Nat × Nat))) (hd : data ≠ []) (hc : contains (build ops) start = true)
    (hne : ∀ v, Reach (build ops) start v →
      evalAt (build ops) data idx v = some .t ∨ evalAt (build ops) data idx v = some .f)
    (hex : ∃ v, Reach (build ops) start v ∧ evalAt (build ops) data idx v = some .f) :
    ∀ fuel r log, Gen.Reasoning.reason_from_to_cause (fun i _ => i) fuel (build ops) sp start (lastIndex (build ops)) data idx
      = some (r, log) → r = .ok false := by
  simp only [reason_from_to_cause_eq]
  exact (C01.reason_false ops start data idx hd hc hne hex).1

/-- C01, error case: a reachable causaloid that is not true never yields `Ok(true)` -/
theorem c01gen_reason_err_never_true (ops : List Op) (sp : Nat → Nat → Option (List Nat)) (start : Nat) (data : List Nat)
    (idx : Option (List (Nat × Nat))) (v : Nat) (hv : Reach (build ops) start v)
    (he : evalAt (build ops) data idx v ≠ some .t) :
    ∀ fuel log, Gen.Reasoning.reason_from_to_cause (fun i _ => i) fuel (build ops) sp start (lastIndex (build ops)) data idx
      ≠ some (.ok true, log) := by
  simp only [reason_from_to_cause_eq]
  exact C01.reason_err_never_true ops start data idx v hv he

/-- termination on acyclic graphs -/
theorem c01gen_reason_terminates (g : CG) (hac : Acyclic g) (sp : Nat → Nat → Option (List Nat)) (start stop : Nat)
    (data : List Nat) (idx : Option (List (Nat × Nat))) :
    ∃ fuel r, Gen.Reasoning.reason_from_to_cause (fun i _ => i) fuel g sp start stop data idx = some r := by
  simp only [reason_from_to_cause_eq]
  exact C01.reason_terminates g hac start stop data idx

/-- `reason_all_causes` / `reason_subgraph_from_cause` on add-only graphs are the traversal from the root / the given start -/
theorem c01gen_entry_points (ops : List Op) (sp : Nat → Nat → Option (List Nat)) (fuel start : Nat) (data : List Nat)
    (idx : Option (List (Nat × Nat))) :
    Gen.Reasoning.reason_all_causes (fun i _ => i) fuel (build ops) sp data idx =
      (match (build ops).root with
       | none => some (.err, [])
       | some r => Gen.Reasoning.reason_from_to_cause (fun i _ => i) fuel (build ops) sp r (lastIndex (build ops)) data idx) ∧
    Gen.Reasoning.reason_subgraph_from_cause (fun i _ => i) fuel (build ops) sp start data idx =
      Gen.Reasoning.reason_from_to_cause (fun i _ => i) fuel (build ops) sp start (lastIndex (build ops)) data idx := by
  simp only [reason_all_causes_eq, reason_subgraph_from_cause_eq, reason_from_to_cause_eq]
  exact ⟨C01.reasonAll_eq ops fuel data idx, C01.reasonSub_eq ops fuel start data idx⟩

/-- every answer of the generated `reason_from_to_cause` is accepted by the oracle the driver judges the real code with -/
theorem c01gen_allowed (ops : List Op) (sp : Nat → Nat → Option (List Nat)) (start : Nat) (data : List Nat)
    (idx : Option (List (Nat × Nat))) (hd : data ≠ []) (hc : contains (build ops) start = true) (fuel : Nat) (r : Res)
    (log : List Nat)
    (h : Gen.Reasoning.reason_from_to_cause (fun i _ => i) fuel (build ops) sp start (lastIndex (build ops)) data idx
      = some (r, log)) :
    CausalSpec.allowed ((CausalSpec.reachSet (build ops) (CausalSpec.table (build ops)) start).map
      (CausalSpec.verdictAt (build ops) data idx)) r = true := by
  rw [reason_from_to_cause_eq] at h
  exact C01.model_allowed ops start data idx hd hc fuel r log h

/-- C10 on what the translator read from `reason_shortest_path_between_causes`: outside the statement's error condition the
    call evaluates exactly the prefix of the path `shortest_path` reported, up to the first non-true causaloid, and answers
    the conjunction along it -/
theorem c10gen_evaluates_one_path (ops : List Op) (sp : Nat → Nat → Option (List Nat)) (s t : Nat) (data : List Nat)
    (idx : Option (List (Nat × Nat))) (p : List Nat) (hp : sp s t = some p)
    (h : CausalSpec.spErr (build ops) (CausalSpec.table (build ops)) s t = false) (r : Res)
    (hr : CausalSpec.conjAlong (CausalSpec.verdictAt (build ops) data idx) p = some r) :
    Gen.Reasoning.reason_shortest_path_between_causes (fun i _ => i) (build ops) sp s t data idx =
      (r, CausalSpec.evalPrefix (CausalSpec.verdictAt (build ops) data idx) p) := by
  rw [reason_shortest_path_eq, hp]
  exact C10.model_sp_spec ops s t data idx p h r hr

/-- C10, error side -/
theorem c10gen_error (ops : List Op) (sp : Nat → Nat → Option (List Nat)) (s t : Nat) (data : List Nat)
    (idx : Option (List (Nat × Nat)))
    (hacc : CausalSpec.pathAccepted (build ops) (CausalSpec.table (build ops)) s t (sp s t) = true)
    (h : CausalSpec.spErr (build ops) (CausalSpec.table (build ops)) s t = true) :
    Gen.Reasoning.reason_shortest_path_between_causes (fun i _ => i) (build ops) sp s t data idx = (.err, []) := by
  rw [reason_shortest_path_eq]
  exact C10.model_sp_error ops s t data idx (sp s t) hacc h

end C01Gen
