import DcVerif.Lemmas.RingLive
import DcVerif.Lemmas.RingMultiLiveS
import DcVerif.Lemmas.RingMultiLiveB
/-!
# C06 — the ring buffer never deadlocks or loses a wake-up; `write`, `drain` and join terminate

Model: `Model/Ring.lean` (single producer; one step per facade operation: every load / store of a sequence counter and of
`is_done`, every mutex lock / unlock, `cvar.wait`, `notify_all`, every handler call and slot write; both wait
strategies). A `lock` step on a taken mutex and the `relock` step of a handler that is parked and not notified (or
finds the mutex taken) are *stutters*; `Ring.enabled x t` says that the next step of thread `t` is not a stutter.
`drain` computes `next_write_sequence.saturating_sub(1)` (defect F6 repaired in /repo), the drain loop of the blocking
strategy signals on every iteration, `drain` stores `is_done` and signals, `Drop` stores it again and signals again.

`terminal x` = the producer has returned from every `write`, from `drain` and from `Drop` (`pc = done`) and every
handler thread of the topology has left its loop (`pc = done`), i.e. joining the executor returns.

Schedules are infinite sequences `σ : Nat → Tid`; `Fair.run stepX σ x i` is the state after `i` scheduled steps.

* (a) spin strategy: every *weakly fair* schedule (every thread of the topology is scheduled infinitely often) reaches a
  terminal state; every batch has then been claimed, written and published.
* (b) both strategies, every schedule: no deadlock, mutual exclusion, no lost wake-up, stable wait conditions.
* (c) blocking strategy: the conclusion of (a) for every schedule that is weakly fair and *strongly fair for lock
  acquisition* (`LockFair`: a thread whose `lock` / `relock` step is enabled infinitely often eventually takes it).

Multi-producer sequencer (`Model/RingMulti.lean`; `section Multi` at the end of this file, ring sizes `2^k`):

* (d) any number of writer threads, both strategies, every schedule (`MReachableWF`): as (b);
* (e) **one writer thread**, batches `1 ≤ b < n` (what `has_capacity` needs: `n > (hw − min) + count`), every topology:
  as (a) and (c) (`LockFairM`);
* (f) any number of writers, conditional: from every reachable state in which all writers are done and nothing is
  stranded (`cursor = high watermark`) every fair schedule of the draining thread and the handlers terminates. With two
  or more writers the unconditional statement is false (known findings F7/F8/F11/F13: a stranded sequence stalls later
  `write` calls in `has_capacity` for ever; `Props/C14.lean` has the witnesses) — (f) isolates the defect in the release
  protocol.

Not covered by the model: the fairness of the real OS scheduler and of `std::sync::Mutex`, timing, spurious condvar
wake-ups.
-/
namespace C06
open Ring

theorem periodic_recurs {T : Type} (σ : Nat → T) (p : Nat) (hp : 0 < p) (hσ : ∀ i, σ (i + p) = σ i) (r i : Nat) :
    ∃ m, i ≤ m ∧ σ m = σ r := by
  have h : ∀ n, σ (r + n * p) = σ r := by
    intro n
    induction n with
    | zero => simp
    | succ n ih => rw [Nat.succ_mul, ← Nat.add_assoc, hσ, ih]
  exact ⟨r + i * p, by have := Nat.le_mul_of_pos_right i hp; omega, h i⟩

/-- weak fairness, spelled out: every thread of the topology (the producer/draining thread and every handler `(k,j)` with
`k < K`, `j < h k`) is scheduled infinitely often -/
def WeaklyFair (K : Nat) (h : Nat → Nat) (σ : Nat → Tid) : Prop :=
  ∀ t, inTopo K h t → ∀ i, ∃ m, i ≤ m ∧ σ m = t

theorem tiles_sum {a b : Nat} {cs : List (Nat × Nat × Nat)} (h : Tiles a cs b) :
    b = a + (cs.map (·.2.2)).sum := by
  induction h with
  | nil a => simp
  | cons h1 h2 h3 _ ih => subst h1; simp only [List.map_cons, List.sum_cons]; omega

theorem single_handler {k j : Nat} (hk : k < 1) (hj : j < (fun _ : Nat => 1) k) : k = 0 ∧ j = 0 :=
  ⟨Nat.lt_one_iff.1 hk, Nat.lt_one_iff.1 hj⟩

/-- the quantifiers of `terminal` are bounded, so on a concrete state it is decided by evaluation -/
local instance (x : PSt) : Decidable (terminal x) :=
  decidable_of_iff (x.p.pc = .done ∧ ∀ k, k < x.s.K → ∀ j, j < x.s.h k → (x.s.cons k j).pc = .done)
    ⟨fun h => ⟨h.1, fun k j hk hj => h.2 k hk j hj⟩, fun h => ⟨h.1, fun k hk j hj => h.2 k j hk hj⟩⟩

theorem log_nil_of_done (s : St) (hI : Inv s) (hcur : s.cursor = 0) (k j : Nat) (hk : k < s.K) (hj : j < s.h k)
    (hpc : (s.cons k j).pc = .done) : (s.cons k j).log = [] := by
  have hlog := (hI.2 k j hk hj).logO (by simp [hpc]) (by simp [hpc])
  have hup := chain_up s hI k j hk hj
  rw [hlog, show (s.cons k j).cur = 0 by omega]; rfl

theorem cons_owner_unique {s : St} {k j k' j' : Nat} (e1 : s.mtx = some (.cons k j)) (e2 : s.mtx = some (.cons k' j')) :
    k = k' ∧ j = j' := by
  rw [e1] at e2; cases e2; exact ⟨rfl, rfl⟩

/-- **C06, spin strategy.** For every ring size `n`, every topology (`K ≥ 1` stages, every stage at least one handler),
every list of batches with `1 ≤ b ≤ n` (this includes the batches `b < n` of the property, and the *empty* list: a
pipeline that is drained without ever publishing) and every weakly fair schedule, the pipeline reaches the state in
which all `write` calls, `drain` and `Drop` have returned and every handler thread has terminated. -/
theorem c06_spin_terminates (n K : Nat) (h : Nat → Nat) (batches : List Nat)
    (hK : 0 < K) (hh : ∀ k, k < K → 0 < h k) (hb : ∀ b, b ∈ batches → 1 ≤ b ∧ b ≤ n)
    (σ : Nat → Tid) (hfair : WeaklyFair K h σ) :
    ∃ t, terminal (Fair.run stepX σ (mk n K h false batches) t) :=
  Spin.ring_terminates (mk n K h false batches) (Spin.linv_init n K h batches hK hh hb) σ hfair

/-- non-vacuity: a concrete weakly fair schedule (producer and the single handler alternate) -/
def alt : Nat → Tid := fun i => if i % 2 = 0 then .prod else .cons 0 0

theorem alt_fair : WeaklyFair 1 (fun _ => 1) alt := by
  have hp : ∀ i, alt (i + 2) = alt i := fun i => by simp [alt]
  intro t ht
  cases t with
  | prod => exact periodic_recurs alt 2 (by omega) hp 0
  | cons k j => obtain ⟨rfl, rfl⟩ := single_handler ht.1 ht.2; exact periodic_recurs alt 2 (by omega) hp 1

example : ∃ t, terminal (Fair.run stepX alt (mk 4 1 (fun _ => 1) false [2, 3, 1, 4]) t) :=
  c06_spin_terminates 4 1 (fun _ => 1) [2, 3, 1, 4] (by omega) (fun _ _ => Nat.one_pos)
    (by intro b hb; simp at hb; omega) alt alt_fair

/-- **when the run is over every `write` has returned with its batch published** (both strategies, every schedule):
in a terminal state no batch is left, every batch of the input became — in order — one claim of exactly its length,
the claims tile `[0, next_write)`, exactly these sequences were written to slots, and the cursor stands at the last
one (`cursor + 1 = next_write = Σ batches`; `0 = 0` when nothing was published). -/
theorem c06_all_written_at_exit (n K : Nat) (h : Nat → Nat) (blocking : Bool) (batches : List Nat)
    (hK : 0 < K) (hh : ∀ k, k < K → 0 < h k) (hb : ∀ b, b ∈ batches → 1 ≤ b)
    (σ : Nat → Tid) (i : Nat) (ht : terminal (Fair.run stepX σ (mk n K h blocking batches) i)) :
    let x := Fair.run stepX σ (mk n K h blocking batches) i
    x.p.todo = [] ∧ x.p.claims.map (·.2.2) = batches ∧ Tiles 0 x.p.claims x.p.nextWrite ∧
    x.p.nextWrite = batches.sum ∧ x.p.written = List.range' 0 batches.sum ∧
    (x.s.cursor + 1 = batches.sum ∨ (x.s.cursor = 0 ∧ batches.sum = 0)) := by
  intro x
  have hW : WInv batches x.p := winv_run batches σ _ (winv_init n K h blocking batches) i
  have hA : PInvAll x := inv_frun σ _ (inv_init n K h blocking batches hK hh hb) i
  have hpc : x.p.pc = .done := ht.1
  obtain ⟨_, _, hP, _⟩ := hA
  have h1 : x.p.todo = [] := hW.empty (by simp [hpc, PPc.draining])
  have h2 : x.p.claims.map (·.2.2) = batches := by
    have := hW.split; simpa [hpc, h1] using this
  have h3 : Tiles 0 x.p.claims x.p.nextWrite := by have := hP.tiles; simpa [hpc] using this
  have h4 : x.p.nextWrite = batches.sum := by have := tiles_sum h3; rw [h2] at this; omega
  have h5 := hP.wrote
  have h6 := hP.nw (by simp [hpc, PPc.idle])
  simp only [hpc] at h5
  refine ⟨h1, h2, h3, h4, by rw [← h4]; simpa using h5, by rw [← h4]; exact h6⟩

theorem write_returns_of_terminates (n K : Nat) (h : Nat → Nat) (bl : Bool) (batches : List Nat)
    (hK : 0 < K) (hh : ∀ k, k < K → 0 < h k) (hb : ∀ b, b ∈ batches → 1 ≤ b) (σ : Nat → Tid)
    (ht : ∃ t, terminal (Fair.run stepX σ (mk n K h bl batches) t)) :
    ∃ t, terminal (Fair.run stepX σ (mk n K h bl batches) t) ∧
      (Fair.run stepX σ (mk n K h bl batches) t).p.claims.map (·.2.2) = batches ∧
      (Fair.run stepX σ (mk n K h bl batches) t).p.written = List.range' 0 batches.sum ∧
      ((Fair.run stepX σ (mk n K h bl batches) t).s.cursor + 1 = batches.sum ∨
        ((Fair.run stepX σ (mk n K h bl batches) t).s.cursor = 0 ∧ batches.sum = 0)) := by
  obtain ⟨t, ht⟩ := ht
  obtain ⟨_, h2, _, _, h5, h6⟩ := c06_all_written_at_exit n K h bl batches hK hh hb σ t ht
  exact ⟨t, ht, h2, h5, h6⟩

/-- **C06, spin strategy: every `write` returns.** Under every weakly fair schedule a moment is reached at which all
threads have finished *and* every batch has been claimed with its exact length, written and published. -/
theorem c06_write_returns (n K : Nat) (h : Nat → Nat) (batches : List Nat)
    (hK : 0 < K) (hh : ∀ k, k < K → 0 < h k) (hb : ∀ b, b ∈ batches → 1 ≤ b ∧ b ≤ n)
    (σ : Nat → Tid) (hfair : WeaklyFair K h σ) :
    ∃ t, terminal (Fair.run stepX σ (mk n K h false batches) t) ∧
      (Fair.run stepX σ (mk n K h false batches) t).p.claims.map (·.2.2) = batches ∧
      (Fair.run stepX σ (mk n K h false batches) t).p.written = List.range' 0 batches.sum ∧
      ((Fair.run stepX σ (mk n K h false batches) t).s.cursor + 1 = batches.sum ∨
        ((Fair.run stepX σ (mk n K h false batches) t).s.cursor = 0 ∧ batches.sum = 0)) :=
  write_returns_of_terminates n K h false batches hK hh (fun b hbm => (hb b hbm).1) σ
    (c06_spin_terminates n K h batches hK hh hb σ hfair)

example : ∃ t, terminal (Fair.run stepX alt (mk 4 1 (fun _ => 1) false [2, 3]) t) ∧
    (Fair.run stepX alt (mk 4 1 (fun _ => 1) false [2, 3]) t).p.written = [0, 1, 2, 3, 4] := by
  obtain ⟨t, h1, _, h3, _⟩ := c06_write_returns 4 1 (fun _ => 1) [2, 3] (by omega) (fun _ _ => Nat.one_pos)
    (by intro b hb; simp at hb; omega) alt alt_fair
  exact ⟨t, h1, by rw [h3]; rfl⟩

/-- **C06, spin strategy: a pipeline drained without ever publishing.** With no batch at all, every weakly fair schedule
reaches the terminal state (`drain` and join return); nothing was written and no handler was ever invoked. -/
theorem c06_zero_events_drains (n K : Nat) (h : Nat → Nat)
    (hK : 0 < K) (hh : ∀ k, k < K → 0 < h k) (σ : Nat → Tid) (hfair : WeaklyFair K h σ) :
    ∃ t, terminal (Fair.run stepX σ (mk n K h false []) t) ∧
      (Fair.run stepX σ (mk n K h false []) t).s.cursor = 0 ∧
      (Fair.run stepX σ (mk n K h false []) t).p.written = [] ∧
      ∀ k j, k < K → j < h k → ((Fair.run stepX σ (mk n K h false []) t).s.cons k j).log = [] := by
  obtain ⟨t, ht, _, h3, h4⟩ := c06_write_returns n K h [] hK hh (by simp) σ hfair
  have hA : PInvAll (Fair.run stepX σ (mk n K h false []) t) :=
    inv_frun σ _ (inv_init n K h false [] hK hh (by simp)) t
  have hcur : (Fair.run stepX σ (mk n K h false []) t).s.cursor = 0 := by simpa using h4
  refine ⟨t, ht, hcur, by simpa using h3, ?_⟩
  intro k j hk hj
  obtain ⟨eK, eh, _⟩ := topo_frun σ (mk n K h false []) t
  have hk' : k < (Fair.run stepX σ (mk n K h false []) t).s.K := by rw [eK]; exact hk
  have hj' : j < (Fair.run stepX σ (mk n K h false []) t).s.h k := by rw [eh]; exact hj
  exact log_nil_of_done _ hA.1 hcur k j hk' hj' (ht.2 k j hk' hj')

example : ∃ t, terminal (Fair.run stepX alt (mk 8 1 (fun _ => 1) false []) t) := by
  obtain ⟨t, h, _⟩ := c06_zero_events_drains 8 1 (fun _ => 1) (by omega) (fun _ _ => Nat.one_pos) alt alt_fair
  exact ⟨t, h⟩

/-- **C06: no deadlock** (spin *and* blocking strategy, every reachable state of every configuration, every schedule).
As long as the run is not over, some thread of the topology has an enabled step: not a `lock` on a taken mutex and not
the re-acquisition of a handler that is parked on the condvar without having been notified. -/
theorem c06_no_deadlock {x : PSt} (hr : Reachable x) (hnt : ¬ terminal x) :
    ∃ t, inTopo x.s.K x.s.h t ∧ enabled x t = true :=
  exists_enabled (reachable_binv hr) hnt

/-- non-vacuity: a blocking pipeline in the middle of a run — the handler has parked itself on the condvar (7 steps),
then the producer has written and published a batch of two and stands before the `lock` of its `signal()` (6 steps) -/
def parkedState : PSt :=
  runX (mk 4 1 (fun _ => 1) true [2])
    [.cons 0 0, .cons 0 0, .cons 0 0, .cons 0 0, .cons 0 0, .cons 0 0, .cons 0 0,
     .prod, .prod, .prod, .prod, .prod, .prod]

theorem parkedState_reachable : Reachable parkedState :=
  ⟨4, 1, fun _ => 1, true, [2], _, by omega, fun _ _ => Nat.one_pos, by intro b hb; simp at hb; omega, rfl⟩

theorem parkedState_facts :
    (parkedState.s.cons 0 0).pc = .bRelock ∧ parkedState.s.woken 0 0 = false ∧ parkedState.s.cursor = 1 ∧
    (parkedState.s.cons 0 0).cur = 0 ∧ parkedState.p.pc = .pLock ∧ parkedState.s.mtx = none := by
  decide

example : ∃ t, inTopo parkedState.s.K parkedState.s.h t ∧ enabled parkedState t = true :=
  c06_no_deadlock parkedState_reachable (by intro h; have := h.1; simp [parkedState_facts.2.2.2.2.1] at this)

/-- **C06: mutual exclusion / ownership of the wait strategy's mutex** (blocking strategy, every schedule): a thread is
at a program point between its `lock` and its `unlock` / `cvar.wait` exactly when the model's mutex is owned by it; in
particular no two threads are inside their critical sections (check-and-park, `notify_all`) at the same time. -/
theorem c06_mutual_exclusion {x : PSt} (hr : Reachable x) (hb : x.s.blocking = true) :
    (∀ k j, k < x.s.K → j < x.s.h k → (cHold (x.s.cons k j).pc = true ↔ x.s.mtx = some (.cons k j))) ∧
    (pHold x.p.pc = true ↔ x.s.mtx = some .prod) ∧
    (∀ k j k' j', k < x.s.K → j < x.s.h k → k' < x.s.K → j' < x.s.h k' →
        cHold (x.s.cons k j).pc = true → cHold (x.s.cons k' j').pc = true → k = k' ∧ j = j') ∧
    (∀ k j, k < x.s.K → j < x.s.h k → cHold (x.s.cons k j).pc = true → pHold x.p.pc = false) := by
  have hM := (reachable_binv hr).mtx
  refine ⟨fun k j hk hj => (hM.blkC hb k j hk hj).1, hM.blkP hb, ?_, ?_⟩
  · intro k j k' j' hk hj hk' hj' h1 h2
    exact cons_owner_unique ((hM.blkC hb k j hk hj).1.1 h1) ((hM.blkC hb k' j' hk' hj').1.1 h2)
  · intro k j hk hj h1
    have e1 := (hM.blkC hb k j hk hj).1.1 h1
    cases hp : pHold x.p.pc
    · rfl
    · have := (hM.blkP hb).1 hp
      rw [e1] at this; cases this

/-- **C06: no lost wake-up** (every reachable state, every schedule). Whenever a handler is parked on the condvar
(`bRelock`: it has executed `cvar.wait`, which released the mutex) and its wait condition already holds (every
dependency cursor `≥ next`) or `is_done` is set, then either it has been notified (`woken`), or some *other* thread is
at a program point between its store and the `notify_all` of its `signal()` — the producer at
`pLock/pNotify` (after the cursor store), `dLock/dNotify` (drain loop), `eLock/eNotify` (after `is_done := true` in
`drain`), `fLock/fNotify` (after the store in `Drop`), or a handler at `sLock/sNotify` (after its cursor store) — from
which it executes `notify_all` before it can block. Check-and-park is atomic under the mutex (`bLock … bWait`). -/
theorem c06_no_lost_wakeup {x : PSt} (hr : Reachable x) (k j : Nat) (hk : k < x.s.K) (hj : j < x.s.h k)
    (hpark : (x.s.cons k j).pc = .bRelock) (hc : condC x.s k (x.s.cons k j) ∨ x.s.isDone = true) :
    x.s.woken k j = true ∨ pPend x.p.pc = true ∨
      ∃ k' j', k' < x.s.K ∧ j' < x.s.h k' ∧ (k', j') ≠ (k, j) ∧ cPend (x.s.cons k' j').pc = true :=
  no_lost_wakeup (reachable_binv hr) k j hk hj hpark hc

/-- non-vacuity: in `parkedState` the handler is parked, not notified, its condition holds — and indeed the producer
stands before its `signal()` -/
example : pPend parkedState.p.pc = true := by
  have hf := parkedState_facts
  have hcond : condC parkedState.s 0 (parkedState.s.cons 0 0) := by
    intro d _; simp only [dep, if_true]; rw [hf.2.2.1, hf.2.2.2.1]; omega
  have hK : parkedState.s.K = 1 := by decide
  have hh : parkedState.s.h = fun _ => 1 := rfl
  rcases c06_no_lost_wakeup parkedState_reachable 0 0 (by rw [hK]; exact Nat.one_pos) (by rw [hh]; exact Nat.one_pos)
    hf.1 (Or.inl hcond) with h | h | h
  · rw [hf.2.1] at h; cases h
  · exact h
  · obtain ⟨k', j', hk', hj', hne, _⟩ := h
    rw [hK] at hk'; rw [hh] at hj'
    obtain ⟨rfl, rfl⟩ := single_handler hk' hj'
    exact absurd rfl hne

/-- **C06: wait conditions are monotone** (every schedule): a handler's wait condition, the producer's gate condition
and its drain condition, once true, stay true under every step of every thread (for the handler: as long as its own
cursor is unchanged), and `is_done` is never reset. Together with `c06_no_lost_wakeup` this is why a thread whose
condition has become true cannot be blocked for ever. -/
theorem c06_wait_conditions_stable {x : PSt} (hr : Reachable x) (t : Tid) :
    (∀ k j, ((stepX x t).s.cons k j).cur = (x.s.cons k j).cur → condC x.s k (x.s.cons k j) →
        condC (stepX x t).s k ((stepX x t).s.cons k j)) ∧
    (∀ stop, condG x.s stop → condG (stepX x t).s stop) ∧
    (∀ nw, condD x.s nw → condD (stepX x t).s nw) ∧
    (x.s.isDone = true → (stepX x t).s.isDone = true) := by
  have hB := reachable_binv hr
  exact ⟨fun k j hcur hc => condC_stable x t hB.base k j hcur hc,
         fun stop hc => condG_stable x t hB.base stop hc,
         fun nw hc => condD_stable x t hB.base nw hc,
         fun hd => isDone_stable x t hB.mtx hd⟩

/-- strong fairness of lock acquisition (the assumption about `std::sync::Mutex` / the OS recorded in DESIGN.md §7 C06):
a thread of the topology whose `lock` step — or the re-acquisition after `cvar.wait`, which additionally needs the
notification — is enabled infinitely often along the run eventually takes it while it is enabled. Every other step is
always enabled, for those weak fairness suffices. -/
def LockFair (K : Nat) (h : Nat → Nat) (σ : Nat → Tid) (x0 : PSt) : Prop :=
  ∀ t, inTopo K h t →
    (∀ i, ∃ m, i ≤ m ∧ Blk.atLock (Fair.run stepX σ x0 m) t = true ∧ enabled (Fair.run stepX σ x0 m) t = true) →
    ∀ i, ∃ m, i ≤ m ∧ σ m = t ∧ Blk.atLock (Fair.run stepX σ x0 m) t = true ∧
      enabled (Fair.run stepX σ x0 m) t = true

/-- **C06, blocking strategy.** For every ring size `n`, every topology (`K ≥ 1`, every stage at least one handler),
every list of batches with `1 ≤ b ≤ n` (including the empty list) and every schedule that is weakly fair and strongly
fair for lock acquisition, the pipeline with the *blocking* wait strategy reaches the state in which all `write`
calls, `drain` and `Drop` have returned and every handler thread has terminated: no wake-up is lost, nobody waits for
ever on the mutex or on the condvar.

Proof: `Fair.fair_termination_sf` with the measure `(2·#handlers + 1) · remaining work + outstanding wake-ups`
(`Blk.μ`), the readiness predicate `Blk.ready` (a thread whose wait is over, a handler on its way to park although its
wait is over, or the notifier such a parked handler waits for — `Blk.exists_ready` is deadlock freedom in this strong
sense and uses `no_lost_wakeup`), per-thread ranks `Blk.rank`, and "the owner of the mutex releases it after at most
`Blk.hrank` own steps". -/
theorem c06_blocking_terminates (n K : Nat) (h : Nat → Nat) (batches : List Nat)
    (hK : 0 < K) (hh : ∀ k, k < K → 0 < h k) (hb : ∀ b, b ∈ batches → 1 ≤ b ∧ b ≤ n)
    (σ : Nat → Tid) (hfair : WeaklyFair K h σ) (hlock : LockFair K h σ (mk n K h true batches)) :
    ∃ t, terminal (Fair.run stepX σ (mk n K h true batches) t) :=
  Blk.ring_terminates (mk n K h true batches) (Blk.jinv_init n K h batches hK hh hb) σ hfair
    (Blk.strongFair_of_lockFair _ σ _ hfair hlock)

/-- `write` returns under the blocking strategy as well: at the moment the run is over every batch has been claimed
with its exact length, written and published -/
theorem c06_blocking_write_returns (n K : Nat) (h : Nat → Nat) (batches : List Nat)
    (hK : 0 < K) (hh : ∀ k, k < K → 0 < h k) (hb : ∀ b, b ∈ batches → 1 ≤ b ∧ b ≤ n)
    (σ : Nat → Tid) (hfair : WeaklyFair K h σ) (hlock : LockFair K h σ (mk n K h true batches)) :
    ∃ t, terminal (Fair.run stepX σ (mk n K h true batches) t) ∧
      (Fair.run stepX σ (mk n K h true batches) t).p.claims.map (·.2.2) = batches ∧
      (Fair.run stepX σ (mk n K h true batches) t).p.written = List.range' 0 batches.sum ∧
      ((Fair.run stepX σ (mk n K h true batches) t).s.cursor + 1 = batches.sum ∨
        ((Fair.run stepX σ (mk n K h true batches) t).s.cursor = 0 ∧ batches.sum = 0)) :=
  write_returns_of_terminates n K h true batches hK hh (fun b hbm => (hb b hbm).1) σ
    (c06_blocking_terminates n K h batches hK hh hb σ hfair hlock)

/-- non-vacuity of the fairness hypotheses: the alternating schedule is weakly fair and lock-fair for the blocking
pipeline `n = 2`, one handler, batches `[1, 1]` — under it the run is over after 83 steps (checked by evaluation) -/
theorem alt_lockfair : LockFair 1 (fun _ => 1) alt (mk 2 1 (fun _ => 1) true [1, 1]) :=
  Blk.lockFair_of_terminates alt (mk 2 1 (fun _ => 1) true [1, 1]) 83 (by decide +kernel)

example : ∃ t, terminal (Fair.run stepX alt (mk 2 1 (fun _ => 1) true [1, 1]) t) :=
  c06_blocking_terminates 2 1 (fun _ => 1) [1, 1] (by omega) (fun _ _ => Nat.one_pos)
    (by intro b hb; simp at hb; omega) alt alt_fair alt_lockfair

/-- **C06, blocking strategy: no deadlock in the strong sense** (every schedule). As long as the run is not over,
some thread of the topology is *ready*: its wait is over (or it never waits) and it reaches its next progress event
after a bounded number of own steps — or it is the thread that is about to deliver the wake-up a parked handler is
waiting for. (For the spin strategy the same statement is `Spin.exists_ready`.) -/
theorem c06_blocking_some_thread_ready (n K : Nat) (h : Nat → Nat) (batches : List Nat)
    (hK : 0 < K) (hh : ∀ k, k < K → 0 < h k) (hb : ∀ b, b ∈ batches → 1 ≤ b ∧ b ≤ n) (sched : List Tid)
    (hnt : ¬ terminal (runX (mk n K h true batches) sched)) :
    ∃ t, inTopo (runX (mk n K h true batches) sched).s.K (runX (mk n K h true batches) sched).s.h t ∧
      Blk.ready (runX (mk n K h true batches) sched) t :=
  Blk.exists_ready _ (Blk.jinv_run _ sched (Blk.jinv_init n K h batches hK hh hb)) hnt

section Multi
open RingMulti

/-- weak fairness for the multi-producer pipeline: every writer thread `i < P`, the draining thread and every handler `(k,j)`
of the topology is scheduled infinitely often -/
def WeaklyFairM (P K : Nat) (h : Nat → Nat) (σ : Nat → MTid) : Prop :=
  ∀ t, inTopoM P K h t → ∀ i, ∃ m, i ≤ m ∧ σ m = t

/-- strong fairness of lock acquisition (as `LockFair` above): a thread whose `lock` step — or the re-acquisition after
`cvar.wait`, which additionally needs the notification — is enabled infinitely often along the run eventually takes it
while it is enabled. Every other step (including the join of the writer threads, which is a stutter until they have ended
and enabled for ever after) only needs weak fairness. -/
def LockFairM (P K : Nat) (h : Nat → Nat) (σ : Nat → MTid) (x0 : MSt) : Prop :=
  ∀ t, inTopoM P K h t →
    (∀ i, ∃ m, i ≤ m ∧ BlkM.atLock (Fair.run stepM σ x0 m) t = true ∧ enabledM (Fair.run stepM σ x0 m) t = true) →
    ∀ i, ∃ m, i ≤ m ∧ σ m = t ∧ BlkM.atLock (Fair.run stepM σ x0 m) t = true ∧
      enabledM (Fair.run stepM σ x0 m) t = true

theorem frun_reachable (n K : Nat) (h : Nat → Nat) (bl : Bool) (batches : List (List Nat))
    (hK : 0 < K) (hh : ∀ k, k < K → 0 < h k) (hb : ∀ l, l ∈ batches → ∀ b, b ∈ l → 1 ≤ b) (σ : Nat → MTid) (i : Nat) :
    MReachableWF (Fair.run stepM σ (mkM n K h bl batches) i) :=
  ⟨n, K, h, bl, batches, (List.range i).map σ, hK, hh, hb, BlkM.frun_eq_runM σ _ i⟩

/-- **C06, multi producer: no deadlock** (spin *and* blocking strategy, any number of writer threads, every reachable
state, every schedule). As long as the run is not over, some thread of the configuration has an enabled step
(`RingMulti.enabledM`): not a `lock` on a taken mutex, not the re-acquisition of a handler that is parked on the condvar
without having been notified, not the join of a writer thread that is still running. (This is deadlock freedom; a writer
spinning for ever in `has_capacity` behind a stranded sequence — F11 — is enabled all the time.) -/
theorem c06_multi_no_deadlock {x : MSt} (hr : MReachableWF x) (hnt : ¬ terminalM x) :
    ∃ t, inTopoM x.P x.s.K x.s.h t ∧ enabledM x t = true :=
  exists_enabled (mreachableWF_ginv hr) hnt

/-- **C06, multi producer: mutual exclusion / ownership of the wait strategy's mutex** (blocking strategy, any number of
writers, every schedule): a handler is between its `lock` and its `unlock` / `cvar.wait` exactly when the model's mutex is
owned by it; the mutex is owned by the producer side exactly when a writer thread is inside `signal()`
(`sNotify/sUnlock`) or the draining thread is (`dNotify/dUnlock/eNotify/eUnlock`); at most one writer is, never a writer
and the draining thread together, never a handler and one of them together. -/
theorem c06_multi_mutual_exclusion {x : MSt} (hr : MReachableWF x) (hb : x.s.blocking = true) :
    (∀ k j, k < x.s.K → j < x.s.h k → (cHold (x.s.cons k j).pc = true ↔ x.s.mtx = some (.cons k j))) ∧
    (x.s.mtx = some .prod ↔ (dHold x.dr.pc = true ∨ ∃ i, i < x.P ∧ wHold (x.wr i).pc = true)) ∧
    (∀ i j, i < x.P → j < x.P → wHold (x.wr i).pc = true → wHold (x.wr j).pc = true → i = j) ∧
    (∀ i, i < x.P → wHold (x.wr i).pc = true → dHold x.dr.pc = false) ∧
    (∀ k j k' j', k < x.s.K → j < x.s.h k → k' < x.s.K → j' < x.s.h k' →
        cHold (x.s.cons k j).pc = true → cHold (x.s.cons k' j').pc = true → k = k' ∧ j = j') ∧
    (∀ k j, k < x.s.K → j < x.s.h k → cHold (x.s.cons k j).pc = true →
        dHold x.dr.pc = false ∧ ∀ i, i < x.P → wHold (x.wr i).pc = false) := by
  have hM := (mreachableWF_ginv hr).mtx
  refine ⟨fun k j hk hj => (hM.blkC hb k j hk hj).1, hM.blkP hb, hM.uniqW, hM.uniqD, ?_, ?_⟩
  · intro k j k' j' hk hj hk' hj' h1 h2
    exact cons_owner_unique ((hM.blkC hb k j hk hj).1.1 h1) ((hM.blkC hb k' j' hk' hj').1.1 h2)
  · intro k j hk hj h1
    have e1 := (hM.blkC hb k j hk hj).1.1 h1
    refine ⟨?_, fun i hi => ?_⟩
    · apply eq_false_of_ne_true; intro hd
      have := (hM.blkP hb).2 (Or.inl hd); rw [e1] at this; cases this
    · apply eq_false_of_ne_true; intro hw
      have := (hM.blkP hb).2 (Or.inr ⟨i, hi, hw⟩); rw [e1] at this; cases this

/-- **C06, multi producer: no lost wake-up** (any number of writers, every reachable state, every schedule). Whenever a
handler is parked on the condvar (`bRelock`) and its wait condition already holds or `is_done` is set, then either it has
been notified (`woken`), or some *other* thread is at a program point between its store and the `notify_all` of its
`signal()`: the draining thread at `dLock/dNotify` (drain loop) or `eLock/eNotify` (after `is_done := true`), a writer
thread at `setLw/sLock/sNotify` (after its CAS on the cursor), or a handler at `sLock/sNotify` (after its cursor store). -/
theorem c06_multi_no_lost_wakeup {x : MSt} (hr : MReachableWF x) (k j : Nat) (hk : k < x.s.K) (hj : j < x.s.h k)
    (hpark : (x.s.cons k j).pc = .bRelock) (hc : condC x.s k (x.s.cons k j) ∨ x.s.isDone = true) :
    x.s.woken k j = true ∨ dPend x.dr.pc = true ∨ (∃ i, i < x.P ∧ wPend (x.wr i).pc = true) ∨
      ∃ k' j', k' < x.s.K ∧ j' < x.s.h k' ∧ (k', j') ≠ (k, j) ∧ cPend (x.s.cons k' j').pc = true :=
  RingMulti.no_lost_wakeup (mreachableWF_ginv hr) k j hk hj hpark hc

/-- **C06, multi producer: wait conditions are monotone** (every schedule): a handler's wait condition (as long as its own
cursor is unchanged), the drain condition, and — under every step that leaves the high watermark alone, i.e. every step
but a successful claim — a writer's capacity condition, once true, stay true; `is_done` is never reset. -/
theorem c06_multi_wait_conditions_stable {x : MSt} (hr : MReachableWF x) (t : MTid) :
    (∀ k j, ((stepM x t).s.cons k j).cur = (x.s.cons k j).cur → condC x.s k (x.s.cons k j) →
        condC (stepM x t).s k ((stepM x t).s.cons k j)) ∧
    (∀ i, (stepM x t).hw = x.hw → ((stepM x t).wr i).count = (x.wr i).count → condCap x i → condCap (stepM x t) i) ∧
    ((stepM x t).dr.current = x.dr.current → condDM x → condDM (stepM x t)) ∧
    (x.s.isDone = true → (stepM x t).s.isDone = true) := by
  have hG := mreachableWF_ginv hr
  exact ⟨RingMulti.condC_stable x t hG.good,
    condCap_stable x t hG.good, condDM_stable x t hG.good,
    RingMulti.isDone_stable x t hG.mtx⟩

/-- **C06, multi-producer sequencer with one writer thread, spin strategy.** For every ring size `2^k`, every topology
(`K ≥ 1` stages, every stage at least one handler), every list of batches with `1 ≤ b < 2^k` (what `has_capacity` needs;
this includes the *empty* list: a pipeline that is drained without ever publishing) and every weakly fair schedule of the
writer thread, the draining thread and the handlers, the pipeline reaches the state in which the writer has returned from
all `write` calls, `drain` has returned and every handler thread has terminated.

Proof: `Fair.fair_termination` with the measure `RingMulti.μmain`, readiness `SpinM.ready`, ranks `SpinM.rank`. The
multi-producer specifics: the writer spins in `next`, re-reading the high watermark and the gating cursors, until the
slowest last-stage handler has advanced far enough (`readyW`/`condCap`); the handlers can always advance because with one
writer the cursor equals the published prefix (`Lemmas/RingMultiSerial.lean`: every `publish` releases exactly its own
range, its CAS on the cursor succeeds at the first attempt); the join is enabled once the writer is done; `drain` reads
the cursor once and waits for the last stage to reach it. -/
theorem c06_multi_single_writer_spin_terminates (k K : Nat) (h : Nat → Nat) (bs : List Nat)
    (hK : 0 < K) (hh : ∀ j, j < K → 0 < h j) (hb : ∀ b, b ∈ bs → 1 ≤ b ∧ b < 2 ^ k)
    (σ : Nat → MTid) (hfair : WeaklyFairM 1 K h σ) :
    ∃ t, terminalM (Fair.run stepM σ (mkM (2 ^ k) K h false [bs]) t) :=
  SpinM.terminates (mkM (2 ^ k) K h false [bs]) ⟨lj_init_single k K h false bs hK hh hb, rfl⟩ σ hfair

/-- **C06, multi-producer sequencer with one writer thread, blocking strategy.** As above for every schedule that is
weakly fair and strongly fair for lock acquisition: no wake-up is lost (the alert check of a handler is under the mutex;
the writer signals after every CAS on the cursor, `drain` on every loop iteration and after `is_done := true`), nobody
waits for ever on the mutex or on the condvar.

Proof: `Fair.fair_termination_sf` with the measure `BlkM.μ = (2·#handlers + 1)·μmain + outstanding wake-ups`. -/
theorem c06_multi_single_writer_blocking_terminates (k K : Nat) (h : Nat → Nat) (bs : List Nat)
    (hK : 0 < K) (hh : ∀ j, j < K → 0 < h j) (hb : ∀ b, b ∈ bs → 1 ≤ b ∧ b < 2 ^ k)
    (σ : Nat → MTid) (hfair : WeaklyFairM 1 K h σ) (hlock : LockFairM 1 K h σ (mkM (2 ^ k) K h true [bs])) :
    ∃ t, terminalM (Fair.run stepM σ (mkM (2 ^ k) K h true [bs]) t) :=
  BlkM.terminates (mkM (2 ^ k) K h true [bs]) ⟨lj_init_single k K h true bs hK hh hb, rfl⟩ σ hfair
    (BlkM.strongFair_of_lockFair _ σ _ hfair hlock)

/-- the two theorems above as one, for either strategy (`hlock` is only needed for the blocking one) -/
theorem single_writer_terminates (k K : Nat) (h : Nat → Nat) (bl : Bool) (bs : List Nat)
    (hK : 0 < K) (hh : ∀ j, j < K → 0 < h j) (hb : ∀ b, b ∈ bs → 1 ≤ b ∧ b < 2 ^ k)
    (σ : Nat → MTid) (hfair : WeaklyFairM 1 K h σ) (hlock : bl = true → LockFairM 1 K h σ (mkM (2 ^ k) K h true [bs])) :
    ∃ t, terminalM (Fair.run stepM σ (mkM (2 ^ k) K h bl [bs]) t) := by
  cases bl with
  | false => exact c06_multi_single_writer_spin_terminates k K h bs hK hh hb σ hfair
  | true => exact c06_multi_single_writer_blocking_terminates k K h bs hK hh hb σ hfair (hlock rfl)

/-- **when the run is over every `write` has returned with its batch published** (one writer, both strategies, every
schedule): in a terminal state every batch of the input became — in order — one claim of exactly its length, the high
watermark and the cursor stand at `Σ batches`, and every sequence `1 … Σ batches` was written to its slot by the writer. -/
theorem c06_multi_all_written_at_exit (k K : Nat) (h : Nat → Nat) (blocking : Bool) (bs : List Nat)
    (hK : 0 < K) (hh : ∀ j, j < K → 0 < h j) (hb : ∀ b, b ∈ bs → 1 ≤ b)
    (σ : Nat → MTid) (i : Nat) (ht : terminalM (Fair.run stepM σ (mkM (2 ^ k) K h blocking [bs]) i)) :
    ((Fair.run stepM σ (mkM (2 ^ k) K h blocking [bs]) i).wr 0).todo = [] ∧
    ((Fair.run stepM σ (mkM (2 ^ k) K h blocking [bs]) i).wr 0).claims.map (·.2.2) = bs ∧
    (Fair.run stepM σ (mkM (2 ^ k) K h blocking [bs]) i).hw = bs.sum ∧
    (Fair.run stepM σ (mkM (2 ^ k) K h blocking [bs]) i).s.cursor = bs.sum ∧
    ∀ q, 1 ≤ q → q ≤ bs.sum → (q, 0) ∈ (Fair.run stepM σ (mkM (2 ^ k) K h blocking [bs]) i).written := by
  have hb1 : ∀ l, l ∈ [bs] → ∀ b, b ∈ l → 1 ≤ b := by
    intro l hl b hbl; simp at hl; subst hl; exact hb b hbl
  have hr := frun_reachable (2 ^ k) K h blocking [bs] hK hh hb1 σ i
  have hn := (BlkM.topo_frun σ (mkM (2 ^ k) K h blocking [bs]) i).2.2.1
  obtain ⟨hP, w1, w2, w3⟩ := Fair.run_inv stepM (fun x => x.P = 1 ∧ WBook bs x)
    (fun x t hx => ⟨(stepM_cfg x t).P.trans hx.1, wbook_stepM bs x t hx.1 hx.2⟩) σ _
    ⟨rfl, wbook_init _ K h blocking bs⟩ i
  have hS : SerAll (Fair.run stepM σ (mkM (2 ^ k) K h blocking [bs]) i) := by
    rw [BlkM.frun_eq_runM σ _ i]
    exact serAll_run _ _ (serAll_init k K h blocking [bs] hK hh hb1) (serialSched_of_single _ rfl _)
  -- from here on a statement about the terminal state alone
  generalize Fair.run stepM σ (mkM (2 ^ k) K h blocking [bs]) i = x at *
  have hO := (mreachableWF_safeOwn hr k hn).2
  have hdone : ∀ a, a < x.P → (x.wr a).pc = .done := ht.1
  have hpc : (x.wr 0).pc = .done := hdone 0 (by omega)
  have h1 : (x.wr 0).todo = [] := w3 hpc
  have h2 : (x.wr 0).claims.map (·.2.2) = bs := by simpa [hpc, WPc.claiming, h1] using w1
  have h3 : x.hw = bs.sum := by
    have := tiles_sum (mreachableWF_good hr).1.tiles; rw [w2, h2] at this; omega
  refine ⟨h1, h2, h3, by rw [serial_cursor_eq_hw x hS (fun i hi => by rw [hdone i hi]; rfl) (fun i hi => by rw [hdone i hi]; nofun), h3], ?_⟩
  intro q q1 q2
  rcases hS.1.2.wrote q q1 (by omega) with ⟨a, ha⟩ | ⟨a, ha, hu⟩
  · obtain ⟨ha', _⟩ := hO.wrote q a ha
    have : a = 0 := by omega
    subst this; exact ha
  · have := hu.1; rw [hdone a ha] at this; cases this

/-- **one writer, either strategy: every `write` returns.** Under every fair schedule a moment is reached at which all threads
have finished *and* every batch has been claimed with its exact length, written and published. -/
theorem single_writer_write_returns (k K : Nat) (h : Nat → Nat) (bl : Bool) (bs : List Nat)
    (hK : 0 < K) (hh : ∀ j, j < K → 0 < h j) (hb : ∀ b, b ∈ bs → 1 ≤ b ∧ b < 2 ^ k)
    (σ : Nat → MTid) (hfair : WeaklyFairM 1 K h σ) (hlock : bl = true → LockFairM 1 K h σ (mkM (2 ^ k) K h true [bs])) :
    ∃ t, terminalM (Fair.run stepM σ (mkM (2 ^ k) K h bl [bs]) t) ∧
      ((Fair.run stepM σ (mkM (2 ^ k) K h bl [bs]) t).wr 0).claims.map (·.2.2) = bs ∧
      (Fair.run stepM σ (mkM (2 ^ k) K h bl [bs]) t).s.cursor = bs.sum ∧
      ∀ q, 1 ≤ q → q ≤ bs.sum → (q, 0) ∈ (Fair.run stepM σ (mkM (2 ^ k) K h bl [bs]) t).written := by
  obtain ⟨t, ht⟩ := single_writer_terminates k K h bl bs hK hh hb σ hfair hlock
  obtain ⟨_, h2, _, h4, h5⟩ := c06_multi_all_written_at_exit k K h bl bs hK hh (fun b hbm => (hb b hbm).1) σ t ht
  exact ⟨t, ht, h2, h4, h5⟩

/-- **C06, one writer, spin strategy: every `write` returns** -/
theorem c06_multi_single_writer_write_returns (k K : Nat) (h : Nat → Nat) (bs : List Nat)
    (hK : 0 < K) (hh : ∀ j, j < K → 0 < h j) (hb : ∀ b, b ∈ bs → 1 ≤ b ∧ b < 2 ^ k)
    (σ : Nat → MTid) (hfair : WeaklyFairM 1 K h σ) :
    ∃ t, terminalM (Fair.run stepM σ (mkM (2 ^ k) K h false [bs]) t) ∧
      ((Fair.run stepM σ (mkM (2 ^ k) K h false [bs]) t).wr 0).claims.map (·.2.2) = bs ∧
      (Fair.run stepM σ (mkM (2 ^ k) K h false [bs]) t).s.cursor = bs.sum ∧
      ∀ q, 1 ≤ q → q ≤ bs.sum → (q, 0) ∈ (Fair.run stepM σ (mkM (2 ^ k) K h false [bs]) t).written :=
  single_writer_write_returns k K h false bs hK hh hb σ hfair nofun

/-- `write` returns under the blocking strategy as well -/
theorem c06_multi_single_writer_blocking_write_returns (k K : Nat) (h : Nat → Nat) (bs : List Nat)
    (hK : 0 < K) (hh : ∀ j, j < K → 0 < h j) (hb : ∀ b, b ∈ bs → 1 ≤ b ∧ b < 2 ^ k)
    (σ : Nat → MTid) (hfair : WeaklyFairM 1 K h σ) (hlock : LockFairM 1 K h σ (mkM (2 ^ k) K h true [bs])) :
    ∃ t, terminalM (Fair.run stepM σ (mkM (2 ^ k) K h true [bs]) t) ∧
      ((Fair.run stepM σ (mkM (2 ^ k) K h true [bs]) t).wr 0).claims.map (·.2.2) = bs ∧
      (Fair.run stepM σ (mkM (2 ^ k) K h true [bs]) t).s.cursor = bs.sum ∧
      ∀ q, 1 ≤ q → q ≤ bs.sum → (q, 0) ∈ (Fair.run stepM σ (mkM (2 ^ k) K h true [bs]) t).written :=
  single_writer_write_returns k K h true bs hK hh hb σ hfair fun _ => hlock

theorem single_writer_zero_events_drains (k K : Nat) (h : Nat → Nat) (bl : Bool) (hK : 0 < K) (hh : ∀ j, j < K → 0 < h j)
    (σ : Nat → MTid) (hfair : WeaklyFairM 1 K h σ) (hlock : bl = true → LockFairM 1 K h σ (mkM (2 ^ k) K h true [[]])) :
    ∃ t, terminalM (Fair.run stepM σ (mkM (2 ^ k) K h bl [[]]) t) ∧
      (Fair.run stepM σ (mkM (2 ^ k) K h bl [[]]) t).s.cursor = 0 ∧
      (Fair.run stepM σ (mkM (2 ^ k) K h bl [[]]) t).written = [] ∧
      ∀ a j, a < K → j < h a → ((Fair.run stepM σ (mkM (2 ^ k) K h bl [[]]) t).s.cons a j).log = [] := by
  obtain ⟨t, ht, h2, h4, _⟩ := single_writer_write_returns k K h bl [] hK hh (by simp) σ hfair hlock
  have hr : MReachableWF (Fair.run stepM σ (mkM (2 ^ k) K h bl [[]]) t) :=
    frun_reachable _ K h bl [[]] hK hh (by simp) σ t
  obtain ⟨eK, eh, hn, hP⟩ := BlkM.topo_frun σ (mkM (2 ^ k) K h bl [[]]) t
  have hcl : ((Fair.run stepM σ (mkM (2 ^ k) K h bl [[]]) t).wr 0).claims = [] := by simpa using h2
  have hcur : (Fair.run stepM σ (mkM (2 ^ k) K h bl [[]]) t).s.cursor = 0 := by simpa using h4
  refine ⟨t, ht, hcur, ?_, ?_⟩
  · apply List.eq_nil_iff_forall_not_mem.2
    rintro ⟨q, a⟩ hq
    obtain ⟨ha, c, hc, _⟩ := (mreachableWF_safeOwn hr k hn).2.wrote q a hq
    have : a = 0 := by rw [hP] at ha; exact Nat.lt_one_iff.1 ha
    subst this; rw [hcl] at hc; cases hc
  · intro a j ha hj
    have ha' : a < (Fair.run stepM σ (mkM (2 ^ k) K h bl [[]]) t).s.K := by rw [eK]; exact ha
    have hj' : j < (Fair.run stepM σ (mkM (2 ^ k) K h bl [[]]) t).s.h a := by rw [eh]; exact hj
    exact log_nil_of_done _ (mreachableWF_good hr).2.1 hcur a j ha' hj' (ht.2.2 a j ha' hj')

/-- **C06, one writer, a pipeline drained without ever publishing** (both strategies). With no batch at all, every fair
schedule reaches the terminal state (join, `drain` and the handler threads return); the cursor is still 0, nothing was
written and no handler was ever invoked. -/
theorem c06_multi_single_writer_zero_events_drains (k K : Nat) (h : Nat → Nat)
    (hK : 0 < K) (hh : ∀ j, j < K → 0 < h j) (σ : Nat → MTid) (hfair : WeaklyFairM 1 K h σ) :
    (∃ t, terminalM (Fair.run stepM σ (mkM (2 ^ k) K h false [[]]) t) ∧
      (Fair.run stepM σ (mkM (2 ^ k) K h false [[]]) t).s.cursor = 0 ∧
      (Fair.run stepM σ (mkM (2 ^ k) K h false [[]]) t).written = [] ∧
      ∀ a j, a < K → j < h a → ((Fair.run stepM σ (mkM (2 ^ k) K h false [[]]) t).s.cons a j).log = []) ∧
    (LockFairM 1 K h σ (mkM (2 ^ k) K h true [[]]) →
      ∃ t, terminalM (Fair.run stepM σ (mkM (2 ^ k) K h true [[]]) t) ∧
      (Fair.run stepM σ (mkM (2 ^ k) K h true [[]]) t).s.cursor = 0 ∧
      (Fair.run stepM σ (mkM (2 ^ k) K h true [[]]) t).written = [] ∧
      ∀ a j, a < K → j < h a → ((Fair.run stepM σ (mkM (2 ^ k) K h true [[]]) t).s.cons a j).log = []) :=
  ⟨single_writer_zero_events_drains k K h false hK hh σ hfair nofun,
   fun hlock => single_writer_zero_events_drains k K h true hK hh σ hfair fun _ => hlock⟩

/-- **C06, multi producer, conditional form** (spin strategy, any number of writer threads, any ring size). From every
reachable state in which all writer threads have ended and nothing is stranded — the cursor has reached the high
watermark — every weakly fair schedule reaches the terminal state: the join returns, `drain` returns, every handler
thread exits. The hypothesis `cursor = hw` is exactly what the release protocol fails to establish with two or more
writers (F7, F13); with it the rest of the pipeline is live. -/
theorem c06_multi_drain_terminates_when_released {x : MSt} (hr : MReachableWF x) (hspin : x.s.blocking = false)
    (hdone : writersDone x = true) (hrel : x.s.cursor = x.hw)
    (σ : Nat → MTid) (hfair : WeaklyFairM x.P x.s.K x.s.h σ) :
    ∃ t, terminalM (Fair.run stepM σ x t) :=
  SpinM.terminates x ⟨⟨mreachableWF_ginv hr, Or.inr ⟨hdone, hrel⟩⟩, hspin⟩ σ hfair

/-- the same for the blocking strategy, under weak fairness + strong fairness of lock acquisition -/
theorem c06_multi_drain_terminates_when_released_blocking {x : MSt} (hr : MReachableWF x) (hblk : x.s.blocking = true)
    (hdone : writersDone x = true) (hrel : x.s.cursor = x.hw)
    (σ : Nat → MTid) (hfair : WeaklyFairM x.P x.s.K x.s.h σ) (hlock : LockFairM x.P x.s.K x.s.h σ x) :
    ∃ t, terminalM (Fair.run stepM σ x t) :=
  BlkM.terminates x ⟨⟨mreachableWF_ginv hr, Or.inr ⟨hdone, hrel⟩⟩, hblk⟩ σ hfair (BlkM.strongFair_of_lockFair _ σ _ hfair hlock)

/-- **C06, multi producer, blocking strategy, one writer: no deadlock in the strong sense** (every schedule): as long as
the run is not over some thread of the configuration is *ready* — its wait is over (or it never waits) and it reaches its
next progress event after a bounded number of own steps, or it is about to deliver the wake-up a parked handler waits for -/
theorem c06_multi_single_writer_some_thread_ready (k K : Nat) (h : Nat → Nat) (bs : List Nat)
    (hK : 0 < K) (hh : ∀ j, j < K → 0 < h j) (hb : ∀ b, b ∈ bs → 1 ≤ b ∧ b < 2 ^ k) (σ : Nat → MTid) (i : Nat)
    (hnt : ¬ terminalM (Fair.run stepM σ (mkM (2 ^ k) K h true [bs]) i)) :
    ∃ t, inTopoM (Fair.run stepM σ (mkM (2 ^ k) K h true [bs]) i).P (Fair.run stepM σ (mkM (2 ^ k) K h true [bs]) i).s.K
        (Fair.run stepM σ (mkM (2 ^ k) K h true [bs]) i).s.h t ∧
      BlkM.ready (Fair.run stepM σ (mkM (2 ^ k) K h true [bs]) i) t :=
  BlkM.exists_ready _
    (Fair.run_inv stepM BlkM.LB BlkM.lb_stepM σ _ ⟨lj_init_single k K h true bs hK hh hb, rfl⟩ i) hnt

/-- a concrete weakly fair schedule: the writer, the draining thread and the single handler take turns -/
def altM : Nat → MTid := fun i => if i % 3 = 0 then .writer 0 else if i % 3 = 1 then .drainer else .cons 0 0

theorem altM_fair : WeaklyFairM 1 1 (fun _ => 1) altM := by
  have hp : ∀ i, altM (i + 3) = altM i := fun i => by simp [altM]
  intro t ht
  cases t with
  | writer a => obtain rfl := Nat.lt_one_iff.1 ht; exact periodic_recurs altM 3 (by omega) hp 0
  | drainer => exact periodic_recurs altM 3 (by omega) hp 1
  | cons a j => obtain ⟨rfl, rfl⟩ := single_handler ht.1 ht.2; exact periodic_recurs altM 3 (by omega) hp 2

example : ∃ t, terminalM (Fair.run stepM altM (mkM (2 ^ 2) 1 (fun _ => 1) false [[2, 3, 1]]) t) :=
  c06_multi_single_writer_spin_terminates 2 1 (fun _ => 1) [2, 3, 1] (by omega) (fun _ _ => Nat.one_pos)
    (by intro b hb; simp at hb; omega) altM altM_fair

example : ∃ t, terminalM (Fair.run stepM altM (mkM (2 ^ 2) 1 (fun _ => 1) false [[2, 3]]) t) ∧
    (Fair.run stepM altM (mkM (2 ^ 2) 1 (fun _ => 1) false [[2, 3]]) t).s.cursor = 5 := by
  obtain ⟨t, h1, _, h3, _⟩ := c06_multi_single_writer_write_returns 2 1 (fun _ => 1) [2, 3] (by omega)
    (fun _ _ => Nat.one_pos) (by intro b hb; simp at hb; omega) altM altM_fair
  exact ⟨t, h1, h3⟩

example : ∃ t, terminalM (Fair.run stepM altM (mkM (2 ^ 3) 1 (fun _ => 1) false [[]]) t) := by
  obtain ⟨⟨t, h, _⟩, _⟩ := c06_multi_single_writer_zero_events_drains 3 1 (fun _ => 1) (by omega)
    (fun _ _ => Nat.one_pos) altM altM_fair
  exact ⟨t, h⟩

theorem topo_of_run {x : MSt} {n K : Nat} {h : Nat → Nat} {bl : Bool} {bs : List (List Nat)} {sch : List MTid}
    (hx : x = runM (mkM n K h bl bs) sch) : x.P = bs.length ∧ x.s.K = K ∧ x.s.h = h ∧ x.s.blocking = bl := by
  subst hx
  exact let c := runM_cfg (mkM n K h bl bs) sch; ⟨c.P, c.K, c.h, c.blocking⟩

/-- the quantifiers of `terminalM` are bounded, so on a concrete state it is decided by evaluation -/
local instance (x : MSt) : Decidable (terminalM x) :=
  decidable_of_iff ((∀ i, i < x.P → (x.wr i).pc = .done) ∧ x.dr.pc = .done ∧
      ∀ k, k < x.s.K → ∀ j, j < x.s.h k → (x.s.cons k j).pc = .done)
    ⟨fun h => ⟨h.1, h.2.1, fun k j hk hj => h.2.2 k hk j hj⟩, fun h => ⟨h.1, h.2.1, fun k hk j hj => h.2.2 k j hk hj⟩⟩

/-- non-vacuity of the fairness hypotheses of the blocking theorem: `altM` is weakly fair and lock-fair for the blocking
pipeline `n = 2`, one handler, batches `[1, 1]` — under it the run is over after 213 steps (checked by evaluation) -/
theorem altM_lockfair : LockFairM 1 1 (fun _ => 1) altM (mkM (2 ^ 1) 1 (fun _ => 1) true [[1, 1]]) :=
  BlkM.lockFair_of_terminates altM (mkM (2 ^ 1) 1 (fun _ => 1) true [[1, 1]]) 213 (by decide +kernel)

example : ∃ t, terminalM (Fair.run stepM altM (mkM (2 ^ 1) 1 (fun _ => 1) true [[1, 1]]) t) :=
  c06_multi_single_writer_blocking_terminates 1 1 (fun _ => 1) [1, 1] (by omega) (fun _ _ => Nat.one_pos)
    (by intro b hb; simp at hb; omega) altM altM_fair altM_lockfair

/-- a blocking pipeline in the middle of a run: the handler has parked itself on the condvar (7 steps), then the writer has
claimed, written and released sequence 1 — its CAS on the cursor has succeeded — and stands before the low-watermark
store that precedes its `signal()` (18 steps) -/
def parkedStateM : MSt :=
  runM (mkM 4 1 (fun _ => 1) true [[1]]) (List.replicate 7 (MTid.cons 0 0) ++ List.replicate 18 (MTid.writer 0))

theorem parkedStateM_reachable : MReachableWF parkedStateM :=
  ⟨4, 1, fun _ => 1, true, [[1]], _, by omega, fun _ _ => Nat.one_pos, by intro l hl b hb; simp at hl; subst hl; simp at hb; omega,
   rfl⟩

theorem parkedStateM_facts :
    (parkedStateM.s.cons 0 0).pc = .bRelock ∧ parkedStateM.s.woken 0 0 = false ∧ parkedStateM.s.cursor = 1 ∧
    (parkedStateM.s.cons 0 0).cur = 0 ∧ (parkedStateM.wr 0).pc = .setLw ∧ parkedStateM.s.mtx = none ∧
    parkedStateM.dr.pc = .waitJoin := by
  decide +kernel

example : ∃ t, inTopoM parkedStateM.P parkedStateM.s.K parkedStateM.s.h t ∧ enabledM parkedStateM t = true :=
  c06_multi_no_deadlock parkedStateM_reachable (by intro h; have := h.2.1; simp [parkedStateM_facts.2.2.2.2.2.2] at this)

/-- in `parkedStateM` the handler is parked, not notified, its condition holds — and indeed the writer stands between its
CAS on the cursor and its `signal()` -/
example : ∃ i, i < parkedStateM.P ∧ wPend (parkedStateM.wr i).pc = true := by
  have hf := parkedStateM_facts
  obtain ⟨_, hK, hh, _⟩ := topo_of_run (x := parkedStateM) rfl
  have hcond : condC parkedStateM.s 0 (parkedStateM.s.cons 0 0) := by
    intro d _; simp only [dep, if_true]; rw [hf.2.2.1, hf.2.2.2.1]; omega
  rcases c06_multi_no_lost_wakeup parkedStateM_reachable 0 0 (by rw [hK]; exact Nat.one_pos)
    (by rw [hh]; exact Nat.one_pos) hf.1 (Or.inl hcond) with h | h | h | h
  · rw [hf.2.1] at h; cases h
  · rw [hf.2.2.2.2.2.2] at h; cases h
  · exact h
  · obtain ⟨k', j', hk', hj', hne, _⟩ := h
    rw [hK] at hk'; rw [hh] at hj'
    obtain ⟨rfl, rfl⟩ := single_handler hk' hj'
    exact absurd rfl hne

/-- two writers that claim concurrently and publish one after the other in claim order: both are done, the cursor stands at
the high watermark 2 — the hypotheses of the conditional theorem hold, and under every fair schedule of the four threads
the draining thread and the handler terminate -/
def releasedState : MSt :=
  runM (mkM 4 1 (fun _ => 1) false [[1], [1]])
    (List.replicate 6 (MTid.writer 0) ++ List.replicate 6 (MTid.writer 1) ++ List.replicate 20 (MTid.writer 0) ++
     List.replicate 20 (MTid.writer 1))

theorem releasedState_topo : releasedState.P = 2 ∧ releasedState.s.K = 1 ∧ releasedState.s.h = fun _ => 1 :=
  have e := topo_of_run (x := releasedState) rfl
  ⟨e.1, e.2.1, e.2.2.1⟩

example (σ : Nat → MTid) (hfair : WeaklyFairM 2 1 (fun _ => 1) σ) : ∃ t, terminalM (Fair.run stepM σ releasedState t) := by
  have hr : MReachableWF releasedState :=
    ⟨4, 1, fun _ => 1, false, [[1], [1]], _, by omega, fun _ _ => Nat.one_pos, by decide, rfl⟩
  obtain ⟨hP, hK, hh⟩ := releasedState_topo
  have hf : writersDone releasedState = true ∧ releasedState.s.cursor = releasedState.hw := by decide +kernel
  apply c06_multi_drain_terminates_when_released hr (topo_of_run (x := releasedState) rfl).2.2.2 hf.1 hf.2 σ
  rw [hP, hK, hh]; exact hfair

/-- the same with the blocking strategy, under a concrete weakly fair and lock-fair schedule (the four threads take turns;
the run is over after 116 steps, checked by evaluation) -/
def releasedStateB : MSt :=
  runM (mkM 4 1 (fun _ => 1) true [[1], [1]])
    (List.replicate 6 (MTid.writer 0) ++ List.replicate 6 (MTid.writer 1) ++ List.replicate 24 (MTid.writer 0) ++
     List.replicate 24 (MTid.writer 1))

def alt4 : Nat → MTid :=
  fun i => if i % 4 = 0 then .writer 0 else if i % 4 = 1 then .writer 1 else if i % 4 = 2 then .drainer else .cons 0 0

theorem alt4_fair : WeaklyFairM 2 1 (fun _ => 1) alt4 := by
  have hp : ∀ i, alt4 (i + 4) = alt4 i := fun i => by simp [alt4]
  intro t ht
  cases t with
  | writer a =>
    obtain rfl | rfl : a = 0 ∨ a = 1 := by have : a < 2 := ht; omega
    · exact periodic_recurs alt4 4 (by omega) hp 0
    · exact periodic_recurs alt4 4 (by omega) hp 1
  | drainer => exact periodic_recurs alt4 4 (by omega) hp 2
  | cons a j => obtain ⟨rfl, rfl⟩ := single_handler ht.1 ht.2; exact periodic_recurs alt4 4 (by omega) hp 3

theorem releasedStateB_topo : releasedStateB.P = 2 ∧ releasedStateB.s.K = 1 ∧ releasedStateB.s.h = fun _ => 1 :=
  have e := topo_of_run (x := releasedStateB) rfl
  ⟨e.1, e.2.1, e.2.2.1⟩

set_option maxRecDepth 20000 in
example : ∃ t, terminalM (Fair.run stepM alt4 releasedStateB t) := by
  have hr : MReachableWF releasedStateB :=
    ⟨4, 1, fun _ => 1, true, [[1], [1]], _, by omega, fun _ _ => Nat.one_pos, by decide, rfl⟩
  obtain ⟨hP, hK, hh⟩ := releasedStateB_topo
  have hf : writersDone releasedStateB = true ∧ releasedStateB.s.cursor = releasedStateB.hw ∧
      terminalM (Fair.run stepM alt4 releasedStateB 116) := by decide +kernel
  apply c06_multi_drain_terminates_when_released_blocking hr (topo_of_run (x := releasedStateB) rfl).2.2.2 hf.1 hf.2.1 alt4
  · rw [hP, hK, hh]; exact alt4_fair
  · exact BlkM.lockFair_of_terminates alt4 releasedStateB 116 hf.2.2

end Multi

end C06
