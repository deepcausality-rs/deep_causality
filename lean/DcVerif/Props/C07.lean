import DcVerif.Props.C07Gen
/-!
# C07 — the sliding window always equals the last N pushed values, across rewinds

Model: `Gen.Window` — the four storages behind `SlidingWindow`, **generated** from
`dcl_data_structures/src/window_type/**` by `tools/rs2lean_window.py` on every check run (one definition per Rust
function; `Model.Window` only adds `run` / `history` / `observe`); spec: `Spec.Window` (functions of the push history
alone). `Props/C07Gen.lean` proves what each generated function does on a state that represents a history; this file
lifts that to all histories. Every theorem holds for every element size `tsz = size_of::<T>()`.

Statement. For every storage `k` other than today's safe vector storage, every window size `0 < size`, every
capacity `size < c` (array storages) resp. every multiple `2 ≤ c` (vector storages, capacity `size * c`), every
default value and **every push history `xs`** (any length, so any number of rewinds; capacity `size + 1` and
capacities below `2 * size`, where the rewind moves overlapping ranges, are included):
constructing the window and pushing `xs` neither panics nor meets undefined behaviour, and afterwards
`size`, `empty`, `filled`, `first`, `last`, `slice`, `vec` and `arr` answer exactly what `Spec.Window.observe size xs`
says: the view is the last `size` values in push order, `filled ↔ size ≤ |xs|`, `empty ↔ xs = []`, `first` is the oldest
retained value, `last` the most recent one, and the not-yet-filled accessors return `Err`. Consequently all correct
back-ends agree (`c07_backends_agree`).

`Kind.vec` is `storage_vec.rs` as it is in the repository: it violates the statement (defect F1, witness theorems
below, replayed on the real code by the correspondence check); `c07_vec_partial` is what holds for it.
`Kind.vecFixed` is the same file after `fixes/F1-window-vec.diff`; the full statement is proved for it.
`Kind.uarr` is `unsafe_storage_array.rs` after `fixes/F10-window-unsafe-array.diff` (`ptr::copy` instead of
`ptr::copy_nonoverlapping`); the section at the end documents where the old calls overlapped.
-/
namespace C07
open Spec.Window Model.Window Lemmas.Window Gen.Window

variable {α : Type}

/-- number of buffer cells of a window built by `new k size c` -/
def cells (k : Kind) (size c : Nat) : Nat :=
  match k with
  | .arr | .uarr => c
  | .vec | .uvec | .vecFixed => size * c

/-- the property's hypotheses on a configuration: `0 < SIZE < CAPACITY` for the array storages,
`0 < size` and `multiple ≥ 2` for the vector storages -/
def Admissible (k : Kind) (size c : Nat) : Prop :=
  0 < size ∧
  match k with
  | .arr | .uarr => size < c
  | .vec | .uvec | .vecFixed => 2 ≤ c

instance (k : Kind) (size c : Nat) : Decidable (Admissible k size c) := by
  unfold Admissible
  cases k <;> (dsimp only; exact inferInstance)

theorem cells_gt {k : Kind} {size c : Nat} (h : Admissible k size c) : size < cells k size c := by
  obtain ⟨hs, hc⟩ := h
  cases k with
  | arr | uarr => exact hc
  | vec | uvec | vecFixed =>
    have : size * 2 ≤ size * c := Nat.mul_le_mul_left size hc
    show size < size * c
    omega

theorem cells_double {k : Kind} {size c : Nat} (h : Admissible k size c) (hk : k = .uvec) :
    2 * size ≤ cells k size c := by
  obtain ⟨hs, hc⟩ := h
  subst hk
  simp only [cells] at *
  have := Nat.mul_le_mul_left size hc
  omega

theorem c07_new {k : Kind} {size c : Nat} (h : Admissible k size c) (d : α) :
    new k size c d = .ok (init size (cells k size c) d) ∧
    Inv size (cells k size c) (init size (cells k size c) d) ([] : List α) := by
  refine ⟨?_, inv_init _ _ d (cells_gt h) h.1⟩
  obtain ⟨hs, hc⟩ := h
  cases k <;> simp only [Gen.Window.new, arrNew, vecNew, uarrNew, uvecNew, vecFixedNew, cells, init] at * <;> simp [hc]

/-- **one push**: on a state that represents history `xs`, every storage except today's `vec` returns normally, with
the canonical next state, which represents `xs ++ [v]` (the unsafe vector storage needs `2 * size ≤ capacity`, which is
what `multiple ≥ 2` provides: otherwise its `copy_nonoverlapping` would overlap) -/
theorem c07_push {k : Kind} {n c : Nat} {w : St α} {xs : List α} (hk : k ≠ .vec) (tsz : Nat) (h : Inv n c w xs)
    (h2 : k = .uvec → 2 * n ≤ c) (v : α) :
    push k tsz w v = .ok (next n c w xs v) ∧ Inv n c (next n c w xs v) (xs ++ [v]) := by
  refine ⟨?_, next_inv w xs v h⟩
  cases k with
  | arr => exact gen_push_arr tsz w xs v h
  | vec => exact absurd rfl hk
  | uarr => exact gen_push_uarr tsz w xs v h
  | uvec => exact gen_push_uvec tsz w xs v h (h2 rfl)
  | vecFixed => exact gen_push_vecFixed tsz w xs v h

def nexts (n c : Nat) : St α → List α → List α → St α
  | w, _, [] => w
  | w, pre, y :: ys => nexts n c (next n c w pre y) (pre ++ [y]) ys

theorem run_eq_nexts {k : Kind} {n c : Nat} (hk : k ≠ .vec) (tsz : Nat) (h2 : k = .uvec → 2 * n ≤ c) (ys : List α) :
    ∀ (w : St α) (pre : List α), Inv n c w pre →
      run k tsz w ys = .ok (nexts n c w pre ys) ∧ Inv n c (nexts n c w pre ys) (pre ++ ys) := by
  induction ys with
  | nil => intro w pre h; exact ⟨rfl, by rwa [List.append_nil]⟩
  | cons y ys ih =>
    intro w pre h
    obtain ⟨he, hi⟩ := c07_push hk tsz h h2 y
    obtain ⟨hr, hi'⟩ := ih _ _ hi
    exact ⟨by rw [run, he]; exact hr, by rwa [List.append_assoc] at hi'⟩

theorem c07_run {k : Kind} {n c : Nat} (hk : k ≠ .vec) (tsz : Nat) (h2 : k = .uvec → 2 * n ≤ c) (ys : List α) :
    ∀ (w : St α) (pre : List α), Inv n c w pre → ∃ w', run k tsz w ys = .ok w' ∧ Inv n c w' (pre ++ ys) :=
  fun w pre h => ⟨_, run_eq_nexts hk tsz h2 ys w pre h⟩

/-- **every history**: construct-and-push never panics, never meets undefined behaviour, and ends in a state that
represents the history -/
theorem c07_history {k : Kind} {size c : Nat} (hk : k ≠ .vec) (tsz : Nat) (h : Admissible k size c) (d : α)
    (xs : List α) :
    ∃ w, history k tsz size c d xs = .ok w ∧ Inv size (cells k size c) w xs := by
  obtain ⟨hn, hi⟩ := c07_new h d
  obtain ⟨w, hr, hw⟩ := c07_run hk tsz (cells_double h) xs _ _ hi
  refine ⟨w, ?_, by simpa using hw⟩
  simp only [history, hn, hr]

/-- **C07, main theorem**: after any push history every observable equals the specification's answer -/
theorem c07_window_is_last_n {k : Kind} {size c : Nat} (hk : k ≠ .vec) (tsz : Nat) (h : Admissible k size c) (d : α)
    (xs : List α) :
    ∃ w, history k tsz size c d xs = .ok w ∧ observe k tsz w d = Obs.ofSpec (Spec.Window.observe size xs) := by
  obtain ⟨w, hh, hi⟩ := c07_history hk tsz h d xs
  exact ⟨w, hh, gen_observe k tsz hi d⟩

/-- slice / vec / arr are the last `size` values in push order once `size` values were pushed, `Err` before -/
theorem c07_view {k : Kind} {size c : Nat} (hk : k ≠ .vec) (tsz : Nat) (h : Admissible k size c) (d : α) (xs : List α) :
    ∃ w, history k tsz size c d xs = .ok w ∧
      slice k tsz w = (if size ≤ xs.length then .ok (lastN size xs) else .err) ∧
      vec k tsz w = (if size ≤ xs.length then .ok (lastN size xs) else .err) ∧
      arr k tsz w w.size d = (if size ≤ xs.length then .ok (lastN size xs) else .err) := by
  obtain ⟨w, hh, ho⟩ := c07_window_is_last_n hk tsz h d xs
  have hv : ofSpec (view size xs) = if size ≤ xs.length then .ok (lastN size xs) else .err := by
    unfold view; split <;> rfl
  exact ⟨w, hh, (congrArg (·.slice) ho).trans hv, (congrArg (·.vec) ho).trans hv, (congrArg (·.arr) ho).trans hv⟩

/-- `filled ↔ size ≤ n` and `empty ↔ n = 0` -/
theorem c07_filled_empty {k : Kind} {size c : Nat} (hk : k ≠ .vec) (tsz : Nat) (h : Admissible k size c) (d : α) (xs : List α) :
    ∃ w, history k tsz size c d xs = .ok w ∧
      (filled k tsz w = .ok true ↔ size ≤ xs.length) ∧ (empty k tsz w = .ok true ↔ xs = []) ∧
      Gen.Window.size k tsz w = .ok size := by
  obtain ⟨w, hh, ho⟩ := c07_window_is_last_n hk tsz h d xs
  refine ⟨w, hh, ?_, ?_, congrArg (·.size) ho⟩
  · rw [show filled k tsz w = _ from congrArg (·.filled) ho]; simp [Obs.ofSpec, Spec.Window.observe, Spec.Window.filled]
  · rw [show empty k tsz w = _ from congrArg (·.empty) ho]; simp [Obs.ofSpec, Spec.Window.observe, Spec.Window.empty]

/-- `first` is the oldest retained value (error only on the empty window), `last` the most recent value
(error until filled) -/
theorem c07_first_last {k : Kind} {size c : Nat} (hk : k ≠ .vec) (tsz : Nat) (h : Admissible k size c) (d : α) (xs : List α) :
    ∃ w, history k tsz size c d xs = .ok w ∧
      first k tsz w = ofSpec (lastN size xs).head? ∧
      last k tsz w = (if size ≤ xs.length then ofSpec xs.getLast? else .err) := by
  obtain ⟨w, hh, ho⟩ := c07_window_is_last_n hk tsz h d xs
  refine ⟨w, hh, congrArg (·.first) ho, (congrArg (·.last) ho).trans ?_⟩
  show ofSpec (Spec.Window.last size xs) = _
  unfold Spec.Window.last; split <;> rfl

/-- the not-yet-filled accessors report an error instead of data -/
theorem c07_unfilled_err {k : Kind} {size c : Nat} (hk : k ≠ .vec) (tsz : Nat) (h : Admissible k size c) (d : α) (xs : List α)
    (hx : xs.length < size) :
    ∃ w, history k tsz size c d xs = .ok w ∧ last k tsz w = .err ∧ slice k tsz w = .err ∧ vec k tsz w = .err ∧
      arr k tsz w w.size d = .err := by
  obtain ⟨w, hh, hs, hv, ha⟩ := c07_view hk tsz h d xs
  obtain ⟨w', hh', _, hl⟩ := c07_first_last hk tsz h d xs
  cases Out.ok.inj (hh.symm.trans hh')
  have hn : ¬ size ≤ xs.length := by omega
  simp only [hn, if_false] at hs hv ha hl
  exact ⟨w, hh, hl, hs, hv, ha⟩

/-- `arr::<s>()` at an arbitrary width: narrower than the window panics (`arr[..size]`), wider is padded with the
default value -/
theorem c07_arr_width {k : Kind} {size c : Nat} (hk : k ≠ .vec) (tsz : Nat) (h : Admissible k size c) (d : α) (xs : List α)
    (s : Nat) :
    ∃ w, history k tsz size c d xs = .ok w ∧
      arr k tsz w s d = (if size ≤ xs.length then
                       (if s < size then .panic else .ok (lastN size xs ++ List.replicate (s - size) d))
                     else .err) := by
  obtain ⟨w, hh, hi⟩ := c07_history hk tsz h d xs
  exact ⟨w, hh, gen_arr_width k tsz hi s d⟩

/-- **all back-ends agree** (array, unsafe array, unsafe vector, repaired vector; any capacities / multiples, any
element sizes): after the same history every observable is the same -/
theorem c07_backends_agree {k₁ k₂ : Kind} {size c₁ c₂ : Nat} (hk₁ : k₁ ≠ .vec) (hk₂ : k₂ ≠ .vec) (t₁ t₂ : Nat)
    (h₁ : Admissible k₁ size c₁) (h₂ : Admissible k₂ size c₂) (d : α) (xs : List α) :
    ∃ w₁ w₂, history k₁ t₁ size c₁ d xs = .ok w₁ ∧ history k₂ t₂ size c₂ d xs = .ok w₂ ∧
      observe k₁ t₁ w₁ d = observe k₂ t₂ w₂ d := by
  obtain ⟨w₁, hh₁, ho₁⟩ := c07_window_is_last_n hk₁ t₁ h₁ d xs
  obtain ⟨w₂, hh₂, ho₂⟩ := c07_window_is_last_n hk₂ t₂ h₂ d xs
  exact ⟨w₁, w₂, hh₁, hh₂, by rw [ho₁, ho₂]⟩

/-- with equal cell counts the correct back-ends even go through identical internal states -/
theorem c07_backends_same_state {k₁ k₂ : Kind} {size c₁ c₂ : Nat} (hk₁ : k₁ ≠ .vec) (hk₂ : k₂ ≠ .vec) (t₁ t₂ : Nat)
    (h₁ : Admissible k₁ size c₁) (h₂ : Admissible k₂ size c₂) (hc : cells k₁ size c₁ = cells k₂ size c₂)
    (d : α) (xs : List α) :
    history k₁ t₁ size c₁ d xs = history k₂ t₂ size c₂ d xs := by
  obtain ⟨n₁, hi⟩ := c07_new h₁ d
  obtain ⟨n₂, _⟩ := c07_new h₂ d
  rw [hc] at n₁ hi
  simp only [history, n₁, n₂]
  rw [(run_eq_nexts hk₁ t₁ (hc ▸ cells_double h₁) xs _ _ hi).1, (run_eq_nexts hk₂ t₂ (cells_double h₂) xs _ _ hi).1]

/-- the element size is irrelevant: the unsafe array storage, the only one that branches on `size_of::<T>()`
(16-byte chunks for types of 4 bytes and more), goes through the same states whatever the size -/
theorem c07_element_size_irrelevant {k : Kind} {size c : Nat} (hk : k ≠ .vec) (t₁ t₂ : Nat) (h : Admissible k size c)
    (d : α) (xs : List α) :
    history k t₁ size c d xs = history k t₂ size c d xs :=
  c07_backends_same_state hk hk t₁ t₂ h h rfl d xs

example : Admissible .arr 3 4 := by decide          -- capacity = size + 1: overlapping rewind
example : Admissible .uarr 5 8 := by decide         -- size < capacity < 2 * size
example : Admissible .uvec 3 2 := by decide
example : Admissible .vecFixed 3 2 := by decide

/-- a history that crosses the rewind boundary of a 4-cell buffer three times -/
def sampleHistory : List Nat := [1, 2, 3, 4, 5, 6, 7, 8, 9, 10, 11, 12, 13]

example : (match history .arr 8 3 4 0 sampleHistory with
    | .ok w => observe .arr 8 w 0 | _ => observe .arr 8 (init 0 0 0) 0) = Obs.ofSpec (Spec.Window.observe 3 sampleHistory) := by
  obtain ⟨w, hh, ho⟩ := c07_window_is_last_n (by decide) 8 (by decide : Admissible .arr 3 4) 0 sampleHistory
  rw [hh]; exact ho
example : Spec.Window.observe 3 sampleHistory =
    { size := 3, empty := false, filled := true, first := some 11, last := some 13,
      slice := some [11, 12, 13], vec := some [11, 12, 13], arr := some [11, 12, 13] } := by decide
example : Spec.Window.observe 3 [7, 8] =
    { size := 3, empty := false, filled := false, first := some 7, last := none,
      slice := none, vec := none, arr := none } := by decide
example : (match history .uarr 12 5 6 0 (List.range 40) with
    | .ok w => slice .uarr 12 w | _ => .panic) = .ok [35, 36, 37, 38, 39] := by decide +kernel
example : (match history .uarr 1 5 6 0 (List.range 40) with
    | .ok w => slice .uarr 1 w | _ => .panic) = .ok [35, 36, 37, 38, 39] := by decide +kernel
example : (match history .uvec 8 3 2 0 sampleHistory with
    | .ok w => slice .uvec 8 w | _ => .panic) = .ok [11, 12, 13] := by decide +kernel
example : (match history .vecFixed 8 3 2 0 sampleHistory with
    | .ok w => slice .vecFixed 8 w | _ => .panic) = .ok [11, 12, 13] := by decide +kernel
/-- the hypothesis `multiple ≥ 2` is needed: with multiple 1 the safe vector storage panics and the unsafe one
copies overlapping ranges with `copy_nonoverlapping` / writes out of bounds -/
example : history .vec 8 2 1 0 [1, 2, 3] = .panic := by decide
example : history .uvec 8 2 1 0 [1, 2, 3] = .ub := by decide
/-- the hypothesis `SIZE < CAPACITY` is what the constructors assert -/
example : history .arr 8 3 3 0 ([] : List Nat) = .panic := by decide

/-! ## today's `storage_vec.rs` (`Kind.vec`): defect F1

Full statement (false for `Kind.vec`):
`∀ size c d xs, Admissible .vec size c → ∃ w, history .vec size c d xs = .ok w ∧ observe .vec w d = Obs.ofSpec (observe size xs)`.
The slow path of `push` sets `head = 0` and does not advance it, so after the first rewind the storage shows
`size + 1` values, and the next rewind copies the *oldest* `size` of them: the most recent value before the rewind is
lost. What does hold is the statement for histories up to the capacity (no rewind yet). -/

def sliceAfter (k : Kind) (size c : Nat) (xs : List Nat) : Out (List Nat) :=
  match history k 8 size c 0 xs with
  | .ok w => slice k 8 w
  | .err => .err
  | .panic => .panic
  | .ub => .ub

/-- size 3, multiple 2: after the 7th push the view holds four values (the real code prints the same) -/
theorem c07_vec_keeps_one_too_many : sliceAfter .vec 3 2 [1, 2, 3, 4, 5, 6, 7] = .ok [4, 5, 6, 7] := by decide +kernel

/-- … and the 10th push loses the value 9 (the real code prints the same) -/
theorem c07_vec_loses_value : sliceAfter .vec 3 2 [1, 2, 3, 4, 5, 6, 7, 8, 9, 10] = .ok [6, 7, 8, 10] := by decide +kernel

/-- the negation of the full statement for today's safe vector storage -/
theorem c07_vec_fails :
    ¬ ∀ (size c : Nat) (xs : List Nat), Admissible .vec size c →
        sliceAfter .vec size c xs = ofSpec (view size xs) := by
  intro hall
  have := hall 3 2 [1, 2, 3, 4, 5, 6, 7] (by decide)
  rw [c07_vec_keeps_one_too_many] at this
  revert this; decide

/-- what holds for today's safe vector storage: every history that does not exceed the capacity `size * multiple`
(the rewind path has not run yet) is observed correctly -/
theorem c07_vec_partial {size c : Nat} (tsz : Nat) (h : Admissible .vec size c) (d : α) (xs : List α)
    (hx : xs.length ≤ size * c) :
    ∃ w, history .vec tsz size c d xs = .ok w ∧ observe .vec tsz w d = Obs.ofSpec (Spec.Window.observe size xs) := by
  have key : ∀ (ys : List α) (w : St α) (pre : List α), Inv size (size * c) w pre → w.tail = pre.length →
      pre.length + ys.length ≤ size * c →
      ∃ w', run .vec tsz w ys = .ok w' ∧ Inv size (size * c) w' (pre ++ ys) := by
    intro ys
    induction ys with
    | nil => intro w pre h _ _; exact ⟨w, rfl, by simpa using h⟩
    | cons y ys ih =>
      intro w pre hi ht hl
      have hroom : w.tail < size * c := by rw [ht]; simp only [List.length_cons] at hl; omega
      obtain ⟨w', hr, hw⟩ := ih _ _ (next_inv w pre y hi) (by simp [next, appended, ht, ht ▸ hroom])
        (by simp only [List.length_append, List.length_cons, List.length_nil] at hl ⊢; omega)
      exact ⟨w', by rw [run, gen_push_vec_room tsz w pre y hi hroom]; exact hr, by simpa using hw⟩
  obtain ⟨hn, hi⟩ := c07_new h d
  simp only [cells] at hn hi
  obtain ⟨w, hr, hw⟩ := key xs _ _ hi (by simp [init]) (by simpa using hx)
  refine ⟨w, ?_, ?_⟩
  · simp only [history, hn, hr]
  · exact gen_observe .vec tsz (by simpa using hw) d

example : Admissible .vec 3 2 := by decide
example : sliceAfter .vec 3 2 [1, 2, 3, 4, 5, 6] = .ok [4, 5, 6] := by decide +kernel

/-! ## the unsafe array storage before `fixes/F10-window-unsafe-array.diff` (OLD code, documented here only)

`UnsafeArrayStorage::rewind` moved the window with `ptr::copy_nonoverlapping`: one call of `SIZE` elements for element
types below 4 bytes, otherwise one call per 16-byte chunk plus one for the remaining bytes. Source and destination of
a call are `(CAPACITY − SIZE) · size_of::<T>()` bytes apart, so a call overlaps its own destination whenever that
distance is smaller than the call's length — undefined behaviour; a build with debug assertions aborts
("unsafe precondition(s) violated"), which is what the harness observed for exactly the configurations below.
`oldRewindOverlaps` is a hand-written copy of that arithmetic, not part of the model. -/

/-- does some `copy_nonoverlapping` call of the OLD rewind overlap? (`tsz` = `size_of::<T>()`) -/
def oldRewindOverlaps (tsz size cap : Nat) : Bool :=
  let off := (cap - size) * tsz
  if tsz ≥ 4 then
    let bytes := size * tsz
    let chunks := bytes / 16
    let rem := bytes % 16
    (decide (chunks > 0) && decide (off < 16)) || (decide (rem > 0) && decide (off < rem))
  else decide (size > 0) && decide (off < size * tsz)

/-- u8, SIZE 2, CAPACITY 3 / u32, SIZE 5, CAPACITY 8 / u64, SIZE 9, CAPACITY 10: the old rewind is undefined behaviour -/
theorem c07_uarr_old_rewind_overlaps :
    oldRewindOverlaps 1 2 3 = true ∧ oldRewindOverlaps 4 5 8 = true ∧ oldRewindOverlaps 8 9 10 = true := by decide

/-- … while u32, SIZE 5, CAPACITY 9 and u64, SIZE 9, CAPACITY 11 happen to be fine (as observed) -/
example : oldRewindOverlaps 4 5 9 = false ∧ oldRewindOverlaps 8 9 11 = false := by decide

/-- the old rewind was free of overlap whenever the capacity is at least twice the size -/
theorem c07_uarr_old_rewind_ok_of_double (tsz size cap : Nat) (h : 2 * size ≤ cap) :
    oldRewindOverlaps tsz size cap = false := by
  -- every call is at most `size * tsz` bytes long, and that is the least the two ranges can be apart
  have hoff : size * tsz ≤ (cap - size) * tsz := Nat.mul_le_mul_right tsz (by omega)
  unfold oldRewindOverlaps
  generalize size * tsz = b at hoff ⊢
  generalize (cap - size) * tsz = o at hoff ⊢
  split <;> simp <;> omega

end C07
