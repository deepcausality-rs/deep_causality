import DcVerif.Model.Adjustable
/-!
# C16 — adjustable context nodes change all-or-nothing and only to admissible values

Theorems about the definitions that `tools/rs2lean.py adjustable` regenerates on every run from
`deep_causality/src/types/context_types/node_types_adjustable/*/adjustable.rs` (`Gen.Adjustable`): each
`update` / `adjust` is a function `node → grid → node' × ok` whose `node'` is the node as it stands when the
Rust function returns — also on the `return Err` paths, so a write to `self.f` that precedes a later early
return is visible as a partial write and makes `…_err_changes_nothing` unprovable.

For every current node value and every grid content (all of `Int`, no bound), for the four node kinds and
both operations:

* `…_ok_sets_all`                     success ⇒ every coordinate = new value (update) / old + delta (adjust)
* `…_err_changes_nothing`             failure ⇒ the node is unchanged
* `…_fails_if_inadmissible`           zero replacement x/y/z/data, negative replacement time, negative adjusted value ⇒ failure
* `…_succeeds_if_strictly_positive`   all replacement values / all deltas and all results strictly positive ⇒ success
* `…_reads_expected_cells`            the outcome depends on the grid only through the expected cells:
                                      1-D point `0` (data, time), 3-D points `(0,0,i)`, i<3 (space: x,y,z),
                                      4-D points `(0,0,0,i)`, i<4 (space-time: x,y,z,t)
* `c16_meets_spec`                    all of the above at once, as the executable judgement `Spec.Adjustable.allowed`
                                      that the correspondence run applies to the real code's answers.

Each generated function is first brought into the form `attempt refuse old new` (`…_eq`: refuse and return the
node as it was, or return the new node and `true`); everything else is read off that form. The `…_eq` are proved by
`unfold …; grind`, so that harmless reorderings of checks or assignments in the source survive regeneration
while a partial write, a weakened/strengthened check or a wrong cell does not.

Values of the generic `T` are `Int`; overflow of a concrete `T` (e.g. `i32::MAX + 1` in `adjust`) is outside
the property and outside these theorems.
-/
namespace C16
open Gen.Adjustable Spec.Adjustable Model.Adjustable

/-- the 1-D point read by data and time nodes -/
def c1 : Pt := Pt.new1d 0
/-- the 3-D points read by a space node: `i = 0,1,2` for x, y, z -/
def s3 (i : Nat) : Pt := Pt.new3d 0 0 i
/-- the 4-D points read by a space-time node: `i = 0,1,2,3` for x, y, z, t -/
def s4 (i : Nat) : Pt := Pt.new4d 0 0 0 i

/-- The shape every operation must have: refuse and hand back the old node, or commit the new one. -/
def attempt {α : Type} (refuse : Prop) [Decidable refuse] (old new : α) : α × Bool :=
  if refuse then (old, false) else (new, true)

section
variable {α : Type} {c : Prop} [Decidable c] {o n : α} {r : α × Bool} (e : r = attempt c o n)
include e

theorem attempt_ok (h : r.2 = true) : r.1 = n := by
  subst e; unfold attempt at *; split at h <;> simp_all

theorem attempt_err (h : r.2 = false) : r.1 = o := by
  subst e; unfold attempt at *; split at h <;> simp_all

theorem attempt_refused (h : c) : r.2 = false := by rw [e, attempt, if_pos h]

theorem attempt_committed (h : ¬c) : r.2 = true := by rw [e, attempt, if_neg h]
end

theorem data_update_eq (s : Data) (g : Pt → Int) :
    s.update g = attempt (g c1 = 0) s { data := g c1 } := by
  unfold Data.update attempt; simp only [c1, Pt.new1d]; grind

theorem data_adjust_eq (s : Data) (g : Pt → Int) :
    s.adjust g = attempt (s.data + g c1 < 0) s { data := s.data + g c1 } := by
  unfold Data.adjust attempt; simp only [c1, Pt.new1d]; grind

/-- zero is refused along with the negative times -/
theorem time_update_eq (s : Time) (g : Pt → Int) :
    s.update g = attempt (g c1 ≤ 0) s { time_unit := g c1 } := by
  unfold Time.update attempt; simp only [c1, Pt.new1d]; grind

/-- a negative delta is refused whatever the result, and so is a result of zero -/
theorem time_adjust_eq (s : Time) (g : Pt → Int) :
    s.adjust g = attempt (g c1 < 0 ∨ s.time_unit + g c1 ≤ 0) s { time_unit := s.time_unit + g c1 } := by
  unfold Time.adjust attempt; simp only [c1, Pt.new1d]; grind

theorem space_update_eq (s : Space) (g : Pt → Int) :
    s.update g = attempt (g (s3 0) = 0 ∨ g (s3 1) = 0 ∨ g (s3 2) = 0) s
      { x := g (s3 0), y := g (s3 1), z := g (s3 2) } := by
  unfold Space.update attempt; simp only [s3, Pt.new3d]; grind

theorem space_adjust_eq (s : Space) (g : Pt → Int) :
    s.adjust g = attempt (s.x + g (s3 0) < 0 ∨ s.y + g (s3 1) < 0 ∨ s.z + g (s3 2) < 0) s
      { x := s.x + g (s3 0), y := s.y + g (s3 1), z := s.z + g (s3 2) } := by
  unfold Space.adjust attempt; simp only [s3, Pt.new3d]; grind

theorem spaceTime_update_eq (s : SpaceTime) (g : Pt → Int) :
    s.update g = attempt (g (s4 0) = 0 ∨ g (s4 1) = 0 ∨ g (s4 2) = 0 ∨ g (s4 3) < 0) s
      { x := g (s4 0), y := g (s4 1), z := g (s4 2), time_unit := g (s4 3) } := by
  unfold SpaceTime.update attempt; simp only [s4, Pt.new4d]; grind

theorem spaceTime_adjust_eq (s : SpaceTime) (g : Pt → Int) :
    s.adjust g = attempt
      (s.x + g (s4 0) < 0 ∨ s.y + g (s4 1) < 0 ∨ s.z + g (s4 2) < 0 ∨ s.time_unit + g (s4 3) < 0) s
      { x := s.x + g (s4 0), y := s.y + g (s4 1), z := s.z + g (s4 2),
        time_unit := s.time_unit + g (s4 3) } := by
  unfold SpaceTime.adjust attempt; simp only [s4, Pt.new4d]; grind

theorem data_update_ok_sets_all (s : Data) (g : Pt → Int) (h : (s.update g).2 = true) :
    (s.update g).1 = { data := g c1 } :=
  attempt_ok (data_update_eq s g) h

theorem data_update_err_changes_nothing (s : Data) (g : Pt → Int) (h : (s.update g).2 = false) :
    (s.update g).1 = s :=
  attempt_err (data_update_eq s g) h

theorem data_update_fails_if_inadmissible (s : Data) (g : Pt → Int)
    (h : g c1 = 0) : (s.update g).2 = false :=
  attempt_refused (data_update_eq s g) h

theorem data_update_succeeds_if_strictly_positive (s : Data) (g : Pt → Int)
    (h : 0 < g c1) : (s.update g).2 = true :=
  attempt_committed (data_update_eq s g) (by omega)

theorem data_update_reads_expected_cells (s : Data) (g g' : Pt → Int)
    (h : g c1 = g' c1) : s.update g = s.update g' := by
  simp only [data_update_eq, h]

theorem data_adjust_ok_sets_all (s : Data) (g : Pt → Int) (h : (s.adjust g).2 = true) :
    (s.adjust g).1 = { data := s.data + g c1 } :=
  attempt_ok (data_adjust_eq s g) h

theorem data_adjust_err_changes_nothing (s : Data) (g : Pt → Int) (h : (s.adjust g).2 = false) :
    (s.adjust g).1 = s :=
  attempt_err (data_adjust_eq s g) h

theorem data_adjust_fails_if_inadmissible (s : Data) (g : Pt → Int)
    (h : s.data + g c1 < 0) : (s.adjust g).2 = false :=
  attempt_refused (data_adjust_eq s g) h

theorem data_adjust_succeeds_if_strictly_positive (s : Data) (g : Pt → Int)
    (h : 0 < g c1 ∧ 0 < s.data + g c1) : (s.adjust g).2 = true :=
  attempt_committed (data_adjust_eq s g) (by omega)

theorem data_adjust_reads_expected_cells (s : Data) (g g' : Pt → Int)
    (h : g c1 = g' c1) : s.adjust g = s.adjust g' := by
  simp only [data_adjust_eq, h]

theorem time_update_ok_sets_all (s : Time) (g : Pt → Int) (h : (s.update g).2 = true) :
    (s.update g).1 = { time_unit := g c1 } :=
  attempt_ok (time_update_eq s g) h

theorem time_update_err_changes_nothing (s : Time) (g : Pt → Int) (h : (s.update g).2 = false) :
    (s.update g).1 = s :=
  attempt_err (time_update_eq s g) h

theorem time_update_fails_if_inadmissible (s : Time) (g : Pt → Int)
    (h : g c1 < 0) : (s.update g).2 = false :=
  attempt_refused (time_update_eq s g) (by omega)

theorem time_update_succeeds_if_strictly_positive (s : Time) (g : Pt → Int)
    (h : 0 < g c1) : (s.update g).2 = true :=
  attempt_committed (time_update_eq s g) (by omega)

theorem time_update_reads_expected_cells (s : Time) (g g' : Pt → Int)
    (h : g c1 = g' c1) : s.update g = s.update g' := by
  simp only [time_update_eq, h]

theorem time_adjust_ok_sets_all (s : Time) (g : Pt → Int) (h : (s.adjust g).2 = true) :
    (s.adjust g).1 = { time_unit := s.time_unit + g c1 } :=
  attempt_ok (time_adjust_eq s g) h

theorem time_adjust_err_changes_nothing (s : Time) (g : Pt → Int) (h : (s.adjust g).2 = false) :
    (s.adjust g).1 = s :=
  attempt_err (time_adjust_eq s g) h

theorem time_adjust_fails_if_inadmissible (s : Time) (g : Pt → Int)
    (h : s.time_unit + g c1 < 0) : (s.adjust g).2 = false :=
  attempt_refused (time_adjust_eq s g) (by omega)

theorem time_adjust_succeeds_if_strictly_positive (s : Time) (g : Pt → Int)
    (h : 0 < g c1 ∧ 0 < s.time_unit + g c1) : (s.adjust g).2 = true :=
  attempt_committed (time_adjust_eq s g) (by omega)

theorem time_adjust_reads_expected_cells (s : Time) (g g' : Pt → Int)
    (h : g c1 = g' c1) : s.adjust g = s.adjust g' := by
  simp only [time_adjust_eq, h]

theorem space_update_ok_sets_all (s : Space) (g : Pt → Int) (h : (s.update g).2 = true) :
    (s.update g).1 = { x := g (s3 0), y := g (s3 1), z := g (s3 2) } :=
  attempt_ok (space_update_eq s g) h

theorem space_update_err_changes_nothing (s : Space) (g : Pt → Int) (h : (s.update g).2 = false) :
    (s.update g).1 = s :=
  attempt_err (space_update_eq s g) h

theorem space_update_fails_if_inadmissible (s : Space) (g : Pt → Int)
    (h : g (s3 0) = 0 ∨ g (s3 1) = 0 ∨ g (s3 2) = 0) : (s.update g).2 = false :=
  attempt_refused (space_update_eq s g) h

theorem space_update_succeeds_if_strictly_positive (s : Space) (g : Pt → Int)
    (h : 0 < g (s3 0) ∧ 0 < g (s3 1) ∧ 0 < g (s3 2)) : (s.update g).2 = true :=
  attempt_committed (space_update_eq s g) (by omega)

theorem space_update_reads_expected_cells (s : Space) (g g' : Pt → Int)
    (h : g (s3 0) = g' (s3 0) ∧ g (s3 1) = g' (s3 1) ∧ g (s3 2) = g' (s3 2)) : s.update g = s.update g' := by
  simp only [space_update_eq, h]

theorem space_adjust_ok_sets_all (s : Space) (g : Pt → Int) (h : (s.adjust g).2 = true) :
    (s.adjust g).1 = { x := s.x + g (s3 0), y := s.y + g (s3 1), z := s.z + g (s3 2) } :=
  attempt_ok (space_adjust_eq s g) h

theorem space_adjust_err_changes_nothing (s : Space) (g : Pt → Int) (h : (s.adjust g).2 = false) :
    (s.adjust g).1 = s :=
  attempt_err (space_adjust_eq s g) h

theorem space_adjust_fails_if_inadmissible (s : Space) (g : Pt → Int)
    (h : s.x + g (s3 0) < 0 ∨ s.y + g (s3 1) < 0 ∨ s.z + g (s3 2) < 0) : (s.adjust g).2 = false :=
  attempt_refused (space_adjust_eq s g) h

theorem space_adjust_succeeds_if_strictly_positive (s : Space) (g : Pt → Int)
    (h : 0 < g (s3 0) ∧ 0 < g (s3 1) ∧ 0 < g (s3 2) ∧ 0 < s.x + g (s3 0) ∧ 0 < s.y + g (s3 1) ∧ 0 < s.z + g (s3 2)) : (s.adjust g).2 = true :=
  attempt_committed (space_adjust_eq s g) (by omega)

theorem space_adjust_reads_expected_cells (s : Space) (g g' : Pt → Int)
    (h : g (s3 0) = g' (s3 0) ∧ g (s3 1) = g' (s3 1) ∧ g (s3 2) = g' (s3 2)) : s.adjust g = s.adjust g' := by
  simp only [space_adjust_eq, h]

theorem spaceTime_update_ok_sets_all (s : SpaceTime) (g : Pt → Int) (h : (s.update g).2 = true) :
    (s.update g).1 = { x := g (s4 0), y := g (s4 1), z := g (s4 2), time_unit := g (s4 3) } :=
  attempt_ok (spaceTime_update_eq s g) h

theorem spaceTime_update_err_changes_nothing (s : SpaceTime) (g : Pt → Int) (h : (s.update g).2 = false) :
    (s.update g).1 = s :=
  attempt_err (spaceTime_update_eq s g) h

theorem spaceTime_update_fails_if_inadmissible (s : SpaceTime) (g : Pt → Int)
    (h : g (s4 0) = 0 ∨ g (s4 1) = 0 ∨ g (s4 2) = 0 ∨ g (s4 3) < 0) : (s.update g).2 = false :=
  attempt_refused (spaceTime_update_eq s g) h

theorem spaceTime_update_succeeds_if_strictly_positive (s : SpaceTime) (g : Pt → Int)
    (h : 0 < g (s4 0) ∧ 0 < g (s4 1) ∧ 0 < g (s4 2) ∧ 0 < g (s4 3)) : (s.update g).2 = true :=
  attempt_committed (spaceTime_update_eq s g) (by omega)

theorem spaceTime_update_reads_expected_cells (s : SpaceTime) (g g' : Pt → Int)
    (h : g (s4 0) = g' (s4 0) ∧ g (s4 1) = g' (s4 1) ∧ g (s4 2) = g' (s4 2) ∧ g (s4 3) = g' (s4 3)) : s.update g = s.update g' := by
  simp only [spaceTime_update_eq, h]

theorem spaceTime_adjust_ok_sets_all (s : SpaceTime) (g : Pt → Int) (h : (s.adjust g).2 = true) :
    (s.adjust g).1 = { x := s.x + g (s4 0), y := s.y + g (s4 1), z := s.z + g (s4 2), time_unit := s.time_unit + g (s4 3) } :=
  attempt_ok (spaceTime_adjust_eq s g) h

theorem spaceTime_adjust_err_changes_nothing (s : SpaceTime) (g : Pt → Int) (h : (s.adjust g).2 = false) :
    (s.adjust g).1 = s :=
  attempt_err (spaceTime_adjust_eq s g) h

theorem spaceTime_adjust_fails_if_inadmissible (s : SpaceTime) (g : Pt → Int)
    (h : s.x + g (s4 0) < 0 ∨ s.y + g (s4 1) < 0 ∨ s.z + g (s4 2) < 0 ∨ s.time_unit + g (s4 3) < 0) : (s.adjust g).2 = false :=
  attempt_refused (spaceTime_adjust_eq s g) h

theorem spaceTime_adjust_succeeds_if_strictly_positive (s : SpaceTime) (g : Pt → Int)
    (h : 0 < g (s4 0) ∧ 0 < g (s4 1) ∧ 0 < g (s4 2) ∧ 0 < g (s4 3) ∧ 0 < s.x + g (s4 0) ∧ 0 < s.y + g (s4 1) ∧ 0 < s.z + g (s4 2) ∧ 0 < s.time_unit + g (s4 3)) : (s.adjust g).2 = true :=
  attempt_committed (spaceTime_adjust_eq s g) (by omega)

theorem spaceTime_adjust_reads_expected_cells (s : SpaceTime) (g g' : Pt → Int)
    (h : g (s4 0) = g' (s4 0) ∧ g (s4 1) = g' (s4 1) ∧ g (s4 2) = g' (s4 2) ∧ g (s4 3) = g' (s4 3)) : s.adjust g = s.adjust g' := by
  simp only [spaceTime_adjust_eq, h]

theorem lift_attempt {α : Type} (f : α → Node) (c : Prop) [Decidable c] (o n : α) :
    lift f (attempt c o n) = attempt c (f o) (f n) := by
  unfold attempt lift; split <;> rfl

/-- An `attempt` whose new node has the target coordinates, which refuses wherever the spec demands failure
and nowhere the spec demands success, gives one of the two answers the spec allows. -/
theorem attempt_judged {k : Kind} {op : Op} {new : List Int} {c : Prop} [Decidable c] {o n' : Node}
    (ht : n'.coords = target op o.coords new)
    (hf : mustFail k op o.coords new = true → c) (hs : mustSucceed op o.coords new = true → ¬c) :
    (∃ m, attempt c o n' = (m, true) ∧ m.coords = target op o.coords new
      ∧ mustFail k op o.coords new = false) ∨
    (attempt c o n' = (o, false) ∧ mustSucceed op o.coords new = false) := by
  unfold attempt; split
  · exact .inr ⟨rfl, by simpa using fun h => hs h ‹c›⟩
  · exact .inl ⟨_, rfl, ht, by simpa using fun h => ‹¬c› (hf h)⟩

theorem apply_cases (n : Node) (op : Op) (g : Pt → Int) :
    (∃ m, n.apply op g = (m, true) ∧ m.coords = target op n.coords (newValues n.kind g)
      ∧ mustFail n.kind op n.coords (newValues n.kind g) = false) ∨
    (n.apply op g = (n, false) ∧ mustSucceed op n.coords (newValues n.kind g) = false) := by
  cases n <;> cases op <;>
    simp only [Node.apply, data_update_eq, data_adjust_eq, time_update_eq, time_adjust_eq, space_update_eq,
      space_adjust_eq, spaceTime_update_eq, spaceTime_adjust_eq, lift_attempt] <;>
    refine attempt_judged rfl ?_ ?_ <;>
    simp only [mustFail, mustSucceed, roles, badReplacement, newValues, cells, ptOf, target, Node.coords,
      Node.kind, c1, s3, s4, Pt.new1d, Pt.new3d, Pt.new4d, List.map, List.zipWith, List.any, List.all, id,
      Bool.or_false, Bool.and_true, Bool.or_eq_true, Bool.and_eq_true, beq_iff_eq, decide_eq_true_eq] <;>
    omega

/-- For every node, operation and grid: the generated function's answer is one the property allows
(`Spec.Adjustable.allowed`: all-or-nothing with exactly the target coordinates, failure where the property
demands failure, success where it demands success), with `new` = the grid's values at the cells
`Spec.Adjustable.cells` names for the node's kind. -/
theorem c16_meets_spec (n : Node) (op : Op) (g : Pt → Int) :
    allowed n.kind op n.coords (newValues n.kind g) (n.apply op g).2 (n.apply op g).1.coords = true := by
  obtain ⟨m, e, ht, hf⟩ | ⟨e, hs⟩ := apply_cases n op g <;> rw [e] <;> simp [allowed, *]

/-- an operation never changes the kind of a node -/
theorem c16_kind_preserved (n : Node) (op : Op) (g : Pt → Int) : (n.apply op g).1.kind = n.kind := by
  cases n <;> cases op <;> rfl

/-- all-or-nothing for every kind and operation, in one statement: the resulting coordinates are the
spec's target on success and the old coordinates on failure -/
theorem c16_all_or_nothing (n : Node) (op : Op) (g : Pt → Int) :
    ((n.apply op g).2 = true ∧ (n.apply op g).1.coords = target op n.coords (newValues n.kind g)) ∨
    ((n.apply op g).2 = false ∧ (n.apply op g).1 = n) := by
  obtain ⟨m, e, ht, -⟩ | ⟨e, -⟩ := apply_cases n op g <;> rw [e]
  · exact .inl ⟨rfl, ht⟩
  · exact .inr ⟨rfl, rfl⟩

-- non-vacuity: the hypotheses are met by concrete states, on both branches
def gridOf (l : List (Pt × Int)) : Pt → Int := fun p => ((l.find? (·.1 = p)).map (·.2)).getD 0

/-- a space-time node at (x,y,z,t) = (1,2,3,4) and a grid holding 5,6,7,8 at the four cells: update succeeds -/
example : (({ time_unit := 4, x := 1, y := 2, z := 3 } : SpaceTime).update
    (gridOf [(s4 0, 5), (s4 1, 6), (s4 2, 7), (s4 3, 8)])) = ({ time_unit := 8, x := 5, y := 6, z := 7 }, true) := by decide +kernel
/-- the same node, third replacement coordinate zero: update fails (hypothesis of `…_err_changes_nothing`,
`…_fails_if_inadmissible`) and nothing changes although x and y were admissible -/
example : (({ time_unit := 4, x := 1, y := 2, z := 3 } : SpaceTime).update
    (gridOf [(s4 0, 5), (s4 1, 6), (s4 2, 0), (s4 3, 8)])) = ({ time_unit := 4, x := 1, y := 2, z := 3 }, false) := by decide +kernel
/-- adjust with a delta that would make t negative while x, y, z are fine: fails, nothing changes -/
example : (({ time_unit := 4, x := 1, y := 2, z := 3 } : SpaceTime).adjust
    (gridOf [(s4 0, 5), (s4 1, 6), (s4 2, 7), (s4 3, -5)])) = ({ time_unit := 4, x := 1, y := 2, z := 3 }, false) := by decide +kernel
example : (({ x := 1, y := 2, z := 3 } : Space).adjust (gridOf [(s3 0, -1), (s3 1, 6), (s3 2, 7)]))
    = ({ x := 0, y := 8, z := 10 }, true) := by decide +kernel
example : (({ time_unit := 4 } : Time).adjust (gridOf [(c1, -1)])).2 = false := by decide +kernel
example : (({ data := 4 } : Data).update (gridOf [(c1, -7)])) = ({ data := -7 }, true) := by decide +kernel

/-! What the obligation rules out.
A mutant as the translator emits it when `self.x = new_x` is moved above the y-check: the all-or-nothing
obligation is refuted by a concrete countermodel (so `…_err_changes_nothing` cannot be proved for it). -/
def mutantUpdate (self : Space) (grid : Pt → Int) : Space × Bool :=
  let new_x : Int := grid (s3 0)
  let new_y : Int := grid (s3 1)
  if (new_x = 0) then (self, false) else
  let self := { self with x := new_x }
  if (new_y = 0) then (self, false) else
  let self := { self with y := new_y }
  (self, true)

example : ∃ s g, (mutantUpdate s g).2 = false ∧ (mutantUpdate s g).1 ≠ s :=
  ⟨{ x := 1, y := 1, z := 1 }, gridOf [(s3 0, 5), (s3 1, 0)], by decide +kernel⟩

end C16
