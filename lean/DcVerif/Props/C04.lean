import DcVerif.Lemmas.Ring
import DcVerif.Lemmas.RingMulti
import DcVerif.Lemmas.RingPay
import DcVerif.Lemmas.RingMultiSafe
import DcVerif.Lemmas.RingMultiPay
import DcVerif.Lemmas.RingMultiDeliver
import DcVerif.Props.C06
import DcVerif.Props.C14
/-!
# C04 — every published event is delivered exactly once, in order (single- and multi-producer pipelines)

Model: `Model/Ring.lean` (every facade operation of the real code is one step; both wait strategies). All theorems
quantify over every ring size, every stage/handler topology, every batch list and **every schedule** (`Reachable`).

Full statement of the property: *every handler is invoked for every published sequence number exactly once, in
strictly increasing order without gaps, and never for a sequence that is not yet published.* For the single producer the
code violates the first part for exactly one sequence number (known finding F5): the sequencer numbers from 0 while
consumers start at `cursor + 1 = 1`, so sequence 0 is written but never delivered.
-/
namespace C04
open Ring

/-- the sequences handed so far to handler `(k,j)` are exactly `1 … m` for its progress counter `m` -/
def progress (c : Cons) : Nat :=
  if c.pc = .handle then c.i - 1 else if c.pc = .publish then c.avail else c.cur

/-- consumer-side fact, independent of the kind of producer: it only needs the consumer invariant -/
theorem log_prefix_of_inv (s : St) (hI : Ring.Inv s) (k j : Nat) (hk : k < s.K) (hj : j < s.h k) :
    (s.cons k j).log = List.range' 1 (progress (s.cons k j)) ∧ progress (s.cons k j) ≤ s.cursor :=
  ⟨RingPay.log_eq_range_progress (hI.2 k j hk hj), RingPay.progress_le_cursor s hI k j hk hj⟩

theorem c04_log_is_prefix {x : PSt} (hr : Reachable x) (k j : Nat) (hk : k < x.s.K) (hj : j < x.s.h k) :
    (x.s.cons k j).log = List.range' 1 (progress (x.s.cons k j)) ∧ progress (x.s.cons k j) ≤ x.s.cursor :=
  log_prefix_of_inv x.s (reachable_inv hr).1 k j hk hj

/-- strictly increasing, gap-free, no repetition: immediate from `log = [1 … m]` -/
theorem c04_log_strictly_increasing {x : PSt} (hr : Reachable x) (k j : Nat) (hk : k < x.s.K) (hj : j < x.s.h k) :
    List.Pairwise (· < ·) (x.s.cons k j).log := by
  rw [(c04_log_is_prefix hr k j hk hj).1]
  exact List.pairwise_lt_range' (step := 1) (by omega)

/-- a handler is about to be invoked for `i` only if `i` is published (`i ≤ cursor`) and written -/
theorem c04_handle_only_published {x : PSt} (hr : Reachable x) (k j : Nat) (hk : k < x.s.K) (hj : j < x.s.h k)
    (hpc : (x.s.cons k j).pc = .handle) (hi : (x.s.cons k j).i ≤ (x.s.cons k j).avail) :
    (x.s.cons k j).i ≤ x.s.cursor ∧ (x.s.cons k j).i ∈ x.p.written := by
  have hI := (reachable_inv hr).1
  have hav := avail_le_cursor x.s hI k j hk hj (by simp [hpc])
  have hne := (hI.2 k j hk hj).nextEq (by simp [hpc])
  have hge := (hI.2 k j hk hj).iGe hpc
  have hcur : (x.s.cons k j).i ≤ x.s.cursor := by omega
  refine ⟨hcur, ?_⟩
  rcases C14.c14_cursor_is_published_prefix hr with h0 | h
  · omega
  · exact h _ hcur

/-- once `drain` (and `Drop`) have completed, a handler thread that has terminated has been handed exactly `1 … cursor` -/
theorem c04_delivered_after_drain {x : PSt} (hr : Reachable x) (hp : x.p.pc = .done)
    (k j : Nat) (hk : k < x.s.K) (hj : j < x.s.h k) (hc : (x.s.cons k j).pc = .done) :
    (x.s.cons k j).log = List.range' 1 x.s.cursor := by
  obtain ⟨hI, hK, hP, hb⟩ := reachable_inv hr
  have hci := hI.2 k j hk hj
  have hlog := hci.logO (by simp [hc]) (by simp [hc])
  have hup := chain_up x.s hI k j hk hj
  have hlow := below_all x.s hI hK (x.p.nextWrite - 1) (hP.drained (by simp [hp, PPc.drained]))
    k j (by omega) hj
  have hnw := hP.nw (by simp [hp, PPc.idle])
  have : (x.s.cons k j).cur = x.s.cursor := by rcases hnw with h1 | ⟨h1, h2⟩ <;> omega
  rw [hlog, this]

/-- **partial C04**: after shutdown every terminated handler was handed every written sequence except sequence 0 -/
theorem c04_single_partial {x : PSt} (hr : Reachable x) (hp : x.p.pc = .done)
    (k j : Nat) (hk : k < x.s.K) (hj : j < x.s.h k) (hc : (x.s.cons k j).pc = .done) :
    x.p.written = [] ∨ x.p.written = 0 :: (x.s.cons k j).log := by
  obtain ⟨hI, hK, hP, hb⟩ := reachable_inv hr
  rw [c04_delivered_after_drain hr hp k j hk hj hc, hP.wrote]
  simp only [hp, reduceCtorEq, or_self, if_false]
  rcases hP.nw (by simp [hp, PPc.idle]) with h1 | ⟨h1, h2⟩
  · right; rw [← h1, List.range'_succ]
  · left; simp [h2]

/-- **F5, negation of the full statement**: sequence 0 is never handed to any handler … -/
theorem c04_single_first_event_never_delivered {x : PSt} (hr : Reachable x) (k j : Nat)
    (hk : k < x.s.K) (hj : j < x.s.h k) : 0 ∉ (x.s.cons k j).log := by
  rw [(c04_log_is_prefix hr k j hk hj).1]
  simp [List.mem_range'_1]

/-- … although it is written as soon as anything is written -/
theorem c04_single_first_event_written {x : PSt} (hr : Reachable x) (hne : x.p.written ≠ []) : 0 ∈ x.p.written := by
  obtain ⟨hI, hK, hP, hb⟩ := reachable_inv hr
  rw [hP.wrote] at hne ⊢
  cases hn : (if x.p.pc = .write ∨ x.p.pc = .publish then x.p.w else x.p.nextWrite) with
  | zero => rw [hn] at hne; simp at hne
  | succ m => simp [List.mem_range'_1]

/-! ## non-vacuity: a concrete pipeline run to completion (ring of 2, one handler, batches 1 and 1, spin wait) -/

def demoSched : List Tid :=
  (List.replicate 12 Tid.prod) ++ (List.replicate 12 (Tid.cons 0 0)) ++ (List.replicate 12 Tid.prod) ++
  (List.replicate 12 (Tid.cons 0 0))

example : (runX (mk 2 1 (fun _ => 1) false [1, 1]) demoSched).p.pc = .done ∧
    ((runX (mk 2 1 (fun _ => 1) false [1, 1]) demoSched).s.cons 0 0).pc = .done ∧
    ((runX (mk 2 1 (fun _ => 1) false [1, 1]) demoSched).s.cons 0 0).log = [1] ∧
    (runX (mk 2 1 (fun _ => 1) false [1, 1]) demoSched).p.written = [0, 1] := by decide +kernel

example : Reachable (runX (mk 2 1 (fun _ => 1) false [1, 1]) demoSched) :=
  ⟨2, 1, fun _ => 1, false, [1, 1], demoSched, by decide, by intro k _; simp, by decide, rfl⟩

section Payload
open RingPay

/-- a state of the payload layer reachable in a well-formed pipeline whose mutable handlers are alone in their stage -/
def PayReachable (c : PCfg) (s : PaySt) : Prop :=
  ∃ (n K : Nat) (h : Nat → Nat) (blocking : Bool) (batches : List Nat) (sched : List Tid),
    0 < K ∧ (∀ k, k < K → 0 < h k) ∧ (∀ b, b ∈ batches → 1 ≤ b) ∧
    (∀ k j, k < K → j < h k → c.mutH k j = true → h k = 1) ∧
    s = runPay c (mkPay n K h blocking batches) sched

theorem payReachable_good {c : PCfg} {s : PaySt} (hr : PayReachable c s) : PayGood c s := by
  obtain ⟨n, K, h, bl, bs, sched, hK, hh, hb, hT, rfl⟩ := hr
  exact paygood_run c _ sched (paygood_init c n K h bl bs hK hh hb hT)

/-- **payload integrity**: every `(sequence, payload)` pair handed to handler `(k,j)` carries the value written for that
sequence, transformed by exactly the mutable handlers of the earlier stages -/
theorem c04_payload_intact {c : PCfg} {s : PaySt} (hr : PayReachable c s) (k j : Nat)
    (hk : k < s.x.s.K) (hj : j < s.x.s.h k) (e : Nat × Nat) (he : e ∈ s.seen k j) :
    e.2 = expectBelow c k (c.pay e.1) :=
  (payReachable_good hr).2.2.saw k j hk hj e he

/-- the slot layer does not change the system: its projection is a run of `Model/Ring.lean`, so all delivery theorems
above apply to it -/
theorem c04_payload_layer_is_ghost (c : PCfg) (s : PaySt) (sched : List Tid) :
    (runPay c s sched).x = runX s.x sched :=
  (List.foldl_hom (·.x) fun s t => (stepPay_x c s t).symm).symm

/-- the sequences of the `(sequence, payload)` pairs are exactly the delivery log of the handler -/
theorem c04_seen_is_log {c : PCfg} {s : PaySt} (hr : PayReachable c s) (k j : Nat) :
    (s.seen k j).map (·.1) = (s.x.s.cons k j).log := by
  obtain ⟨n, K, h, bl, bs, sched, _, _, _, _, rfl⟩ := hr
  refine List.foldlRecOn (motive := fun s => ∀ k j, (s.seen k j).map (·.1) = (s.x.s.cons k j).log) sched (stepPay c)
    ?_ (fun s hs t _ => seen_eq_log_step c s t hs) k j
  exact fun _ _ => rfl

/-! non-vacuity: ring of 2, stage 0 one mutable handler (×3), stage 1 one immutable handler, three events: the ring wraps -/
def demoCfg : PCfg := { pay := fun q => 100 + q, mutH := fun k _ => k == 0, tf := fun _ _ v => 3 * v }
def demoPay : PaySt := runPay demoCfg (mkPay 2 2 (fun _ => 1) false [1, 1, 1])
  ((List.replicate 12 Tid.prod) ++ (List.replicate 12 (Tid.cons 0 0)) ++ (List.replicate 12 (Tid.cons 1 0)) ++
   (List.replicate 12 Tid.prod) ++ (List.replicate 12 (Tid.cons 0 0)) ++ (List.replicate 12 (Tid.cons 1 0)))

example : demoPay.seen 0 0 = [(1, 101), (2, 102)] ∧ demoPay.seen 1 0 = [(1, 303), (2, 306)] := by decide +kernel

end Payload

/-! ## multi-producer pipelines

The full delivery statement is false for the multi-producer sequencer (known finding F8); the consumer-side half
(`c04_multi_log_is_prefix`: in order, no gaps, no repetition, nothing above the cursor) holds for every schedule, and so does
**no read before write** (`c04_multi_handle_only_published`, every ring size `n = 2^k`: a handler is only ever handed a sequence
that its claimant has completely written and published). The witness below is schedule-exact and agrees with what the real code does under the same schedule (harness corpus case
`F7-witness`): two writers claim 1 and 2, the second publishes first, the first publishes last; `drain` waits for the cursor
(1) only, so the handler terminates having been handed `[1]` although 2 was written and its `write` call had returned. -/
section Multi
open RingMulti

def lostRun : MSt := runM (mkM 4 1 (fun _ => 1) false [[1], [1]])
  ((List.replicate 6 (MTid.writer 0)) ++ (List.replicate 20 (MTid.writer 1)) ++ (List.replicate 20 (MTid.writer 0)) ++
   (List.replicate 12 (MTid.cons 0 0)) ++ (List.replicate 12 MTid.drainer) ++ (List.replicate 8 (MTid.cons 0 0)))

/-- **multi producer, what does hold** (every ring size, topology, wait strategy, any number of writer threads, every
schedule): each handler has been handed exactly `1 … m`, once each, in order, for some `m ≤ cursor` — whatever the writers do,
no handler ever sees a sequence twice, out of order, or above the cursor -/
theorem c04_multi_log_is_prefix {x : MSt} (hr : MReachableWF x) (k j : Nat) (hk : k < x.s.K) (hj : j < x.s.h k) :
    (x.s.cons k j).log = List.range' 1 (progress (x.s.cons k j)) ∧ progress (x.s.cons k j) ≤ x.s.cursor :=
  log_prefix_of_inv x.s (mreachableWF_good hr).2.1 k j hk hj

theorem c04_multi_stranded_event_lost :
    (lostRun.wr 0).pc = .done ∧ (lostRun.wr 1).pc = .done ∧ lostRun.dr.pc = .done ∧ (lostRun.s.cons 0 0).pc = .done ∧
    lostRun.written = [(2, 1), (1, 0)] ∧ (lostRun.s.cons 0 0).log = [1] := by decide +kernel

/-- **no read before write, multi producer** (every ring size `n = 2^k`, topology, wait strategy, number of writer threads,
every schedule): a handler is about to be invoked for `i` only if `i ≤ cursor`, `i` has been claimed and written to its slot
(`(i, writer) ∈ written`), and no writer thread is still before the `ready_sequences.set(i)` of its `publish` call — the
multi-producer analogue of `c04_handle_only_published`, from release safety (`Lemmas/RingMultiSafe.lean`) -/
theorem c04_multi_handle_only_published {x : MSt} (hr : MReachableWF x) (e : Nat) (hn : x.s.n = 2 ^ e) (k j : Nat)
    (hk : k < x.s.K) (hj : j < x.s.h k) (hpc : (x.s.cons k j).pc = .handle)
    (hi : (x.s.cons k j).i ≤ (x.s.cons k j).avail) :
    (x.s.cons k j).i ≤ x.s.cursor ∧ (x.s.cons k j).i ≤ x.hw ∧ (∃ w, ((x.s.cons k j).i, w) ∈ x.written) ∧
    ¬ Pend x (x.s.cons k j).i := by
  have hs := mreachableWF_safe hr e hn
  have hI := hs.1.1.2.1
  have hav := avail_le_cursor x.s hI k j hk hj (by simp [hpc])
  have hci := hI.2 k j hk hj
  have h1 := hci.nextEq (by simp [hpc])
  have h2 := hci.iGe hpc
  have := published_below_cursor x hs (x.s.cons k j).i (by omega) (by omega)
  exact ⟨by omega, this⟩

/-- everything in a handler's log has been written (and published) before it was handed over -/
theorem c04_multi_log_written {x : MSt} (hr : MReachableWF x) (e : Nat) (hn : x.s.n = 2 ^ e) (k j : Nat)
    (hk : k < x.s.K) (hj : j < x.s.h k) (q : Nat) (hq : q ∈ (x.s.cons k j).log) : ∃ w, (q, w) ∈ x.written := by
  have hs := mreachableWF_safe hr e hn
  obtain ⟨hlog, hle⟩ := c04_multi_log_is_prefix hr k j hk hj
  rw [hlog, List.mem_range'_1] at hq
  exact (published_below_cursor x hs q hq.1 (by omega)).2.1

/-- non-vacuity: the handler is about to be handed sequence 1, written by writer 0 -/
def demoMultiHandle : MSt := runM (mkM 4 1 (fun _ => 1) false [[1], [1]])
  ((List.replicate 30 (MTid.writer 0)) ++ (List.replicate 4 (MTid.cons 0 0)))

example : (demoMultiHandle.s.cons 0 0).pc = .handle ∧ (demoMultiHandle.s.cons 0 0).i = 1 ∧
    (demoMultiHandle.s.cons 0 0).avail = 1 ∧ demoMultiHandle.written = [(1, 0)] := by decide +kernel
example : MReachableWF demoMultiHandle :=
  ⟨4, 1, fun _ => 1, false, [[1], [1]], _, by decide, fun _ _ => Nat.one_pos, by decide, rfl⟩

end Multi

/-! ## payload integrity, multi-producer pipelines

Slot layer `Model/RingMultiPay.lean` over the multi-producer model: a writer's slot write of `w` stores the next item of *that
writer's* item stream (`c.pay writer m w`, `m` = number of events the writer wrote before) into slot `w mod n`; a handler call
reads slot `i mod n`, records `(i, value)` in `seen` and, if mutable, stores its transformation back. The layer also records
as ghost state the log `wlog` of all slot writes `(sequence, writer, value)`. For every ring size `2^e`, every topology whose
mutable handlers are alone in their stage (F9), any number of writer threads, all batch lists and **every schedule**
(`Lemmas/RingMultiPay.lean`): whatever a handler of stage `k` is handed for sequence `q` is the value of the one and only slot
write of `q` — made by the writer holding the claim that contains `q` — transformed by the mutable handlers of the stages below
`k` in stage order; although the writers write concurrently and out of sequence order and slots are reused every `n` sequences. -/
section MultiPayload
open RingMulti RingPay RingMultiPay

/-- a state of the multi-producer payload layer reachable in a well-formed pipeline with a ring of `2^e` slots whose mutable
handlers are alone in their stage: any number of writer threads, any batch lists, **any schedule** -/
def MPayReachable (c : MPCfg) (s : MPaySt) : Prop :=
  ∃ (e K : Nat) (h : Nat → Nat) (blocking : Bool) (batches : List (List Nat)) (sched : List MTid),
    0 < K ∧ (∀ k, k < K → 0 < h k) ∧ (∀ l, l ∈ batches → ∀ b, b ∈ l → 1 ≤ b) ∧
    (∀ k j, k < K → j < h k → c.mutH k j = true → h k = 1) ∧
    s = runMPay c (mkMPay (2 ^ e) K h blocking batches) sched

theorem mpayReachable_good {c : MPCfg} {s : MPaySt} (hr : MPayReachable c s) : MPayGood c s := by
  obtain ⟨e, K, h, bl, bs, sched, hK, hh, hb, hT, rfl⟩ := hr
  exact mpaygood_run c _ sched (mpaygood_init c e K h bl bs hK hh hb hT)

/-- the slot layer does not change the system: its projection is a run of `Model/RingMulti.lean`, so every multi-producer
theorem (delivery order, release safety, no overwrite, C13, C14) applies to it -/
theorem c04_multi_payload_layer_is_ghost (c : MPCfg) (s : MPaySt) (sched : List MTid) :
    (runMPay c s sched).x = runM s.x sched :=
  (List.foldl_hom (·.x) fun s t => (stepMPay_x c s t).symm).symm

theorem mpayReachable_system {c : MPCfg} {s : MPaySt} (hr : MPayReachable c s) :
    MReachableWF s.x ∧ ∃ e, s.x.s.n = 2 ^ e := by
  obtain ⟨e, K, h, bl, bs, sched, hK, hh, hb, _, rfl⟩ := hr
  rw [c04_multi_payload_layer_is_ghost]
  exact ⟨⟨2 ^ e, K, h, bl, bs, sched, hK, hh, hb, rfl⟩, e, (runM_cfg _ sched).n⟩

/-- **payload integrity, multi producer**: every `(sequence, payload)` pair handed to handler `(k,j)` carries the value `v`
written for that sequence — there is exactly one slot write of the sequence, by writer `i`, and `i` is its claimant (holds a
claim `[lo, hi]` containing it, one of the successful compare-and-swaps on the high watermark) — transformed by exactly the
mutable handlers of the earlier stages -/
theorem c04_multi_payload_intact {c : MPCfg} {s : MPaySt} (hr : MPayReachable c s) (k j : Nat)
    (hk : k < s.x.s.K) (hj : j < s.x.s.h k) (e : Nat × Nat) (he : e ∈ s.seen k j) :
    ∃ i v, (e.1, i, v) ∈ s.wlog ∧
      (∀ i' v', (e.1, i', v') ∈ s.wlog → i' = i ∧ v' = v) ∧
      (i < s.x.P ∧ ∃ cl, cl ∈ (s.x.wr i).claims ∧ cl ∈ s.x.allClaims ∧ cl.1 ≤ e.1 ∧ e.1 ≤ cl.2.1) ∧
      e.2 = expectBelow c.hc k v := by
  have hg := mpayReachable_good hr
  obtain ⟨h1, h2, h3⟩ := hg.pay.saw k j hk hj e he
  obtain ⟨_, ⟨i, hi⟩, _⟩ := published_below_cursor s.x hg.safe.1 e.1 h1 h2
  have hmem : ∀ i' v', (e.1, i', v') ∈ s.wlog → (e.1, i') ∈ s.x.written ∧ s.val e.1 = v' := by
    intro i' v' hm
    exact ⟨by rw [← hg.log.proj]; exact List.mem_map.2 ⟨_, hm, rfl⟩, hg.log.valOk _ hm⟩
  obtain ⟨⟨q, i0, v0⟩, hm, hq⟩ : ∃ en, en ∈ s.wlog ∧ (en.1, en.2.1) = (e.1, i) := by
    rw [← hg.log.proj] at hi; exact List.mem_map.1 hi
  simp only [Prod.mk.injEq] at hq
  obtain ⟨rfl, rfl⟩ := hq
  obtain ⟨hiP, cl, hcl, hb1, hb2⟩ := hg.safe.2.wrote _ _ hi
  refine ⟨i0, v0, hm, ?_, ⟨hiP, cl, hcl, hg.safe.2.globl i0 hiP cl hcl, hb1, hb2⟩, ?_⟩
  · intro i' v' hm'
    obtain ⟨a1, a2⟩ := hmem i' v' hm'
    exact ⟨nodup_fst_unique _ hg.once.nodup _ _ _ a1 hi, by rw [← a2, (hmem i0 v0 hm).2]⟩
  · rw [h3, (hmem i0 v0 hm).2]

/-- the same against the layer's ghost map `val` (sequence ↦ value written for it) -/
theorem c04_multi_payload_intact_val {c : MPCfg} {s : MPaySt} (hr : MPayReachable c s) (k j : Nat)
    (hk : k < s.x.s.K) (hj : j < s.x.s.h k) (e : Nat × Nat) (he : e ∈ s.seen k j) :
    e.2 = expectBelow c.hc k (s.val e.1) :=
  ((mpayReachable_good hr).pay.saw k j hk hj e he).2.2

/-- every sequence is written to its slot at most once; the log of slot writes is the system's ghost list `written`
(`c14_multi_written_by_claimant` etc. speak about the same writes); `val` is the value of that one write -/
theorem c04_multi_written_once {c : MPCfg} {s : MPaySt} (hr : MPayReachable c s) :
    (s.wlog.map (·.1)).Nodup ∧ s.wlog.map (fun e => (e.1, e.2.1)) = s.x.written ∧
    ∀ e, e ∈ s.wlog → s.val e.1 = e.2.2 := by
  have hg := mpayReachable_good hr
  refine ⟨?_, hg.log.proj, hg.log.valOk⟩
  have : s.wlog.map (·.1) = s.x.written.map (·.1) := by rw [← hg.log.proj, List.map_map]; rfl
  rw [this]; exact hg.once.nodup

/-- where the written value comes from: a slot write by writer `i` stores `pay i m q`, `m` = number of slot writes writer `i`
made before — the next item of the writer's own stream, whatever the other writers do in between -/
theorem c04_multi_written_value_is_next_item {c : MPCfg} {s : MPaySt} (hr : MPayReachable c s)
    (pre post : List (Nat × Nat × Nat)) (q i v : Nat) (h : s.wlog = pre ++ (q, i, v) :: post) :
    v = c.pay i (pre.countP (fun e => e.2.1 == i)) q :=
  (mpayReachable_good hr).log.src pre (q, i, v) post h

/-- the sequences of the `(sequence, payload)` pairs are exactly the delivery log of the handler -/
theorem c04_multi_seen_is_log {c : MPCfg} {s : MPaySt} (hr : MPayReachable c s) (k j : Nat) :
    (s.seen k j).map (·.1) = (s.x.s.cons k j).log :=
  (mpayReachable_good hr).seen k j

/-! non-vacuity: ring of 4, stage 0 one mutable handler (×3), stage 1 one immutable handler; writer 0 writes three events,
writer 1 two. The writes interleave out of sequence order (2 before 1, 5 before 4), publication is out of order (2 before 1),
and the ring wraps (5 goes to the slot of 1, 4 to the slot of the never-used sequence 0). -/
def demoMCfg : MPCfg := { pay := fun i m _ => 1000 * (i + 1) + m, mutH := fun k _ => k == 0, tf := fun _ _ v => 3 * v }
def demoMSched : List MTid :=
  let W (i n : Nat) := List.replicate n (MTid.writer i)
  let H (k n : Nat) := List.replicate n (MTid.cons k 0)
  W 0 6 ++ W 1 6 ++ W 1 1 ++ W 0 1 ++ W 1 7 ++ W 0 14 ++ W 0 8 ++ W 0 14 ++ H 0 12 ++ H 1 12 ++
  W 1 5 ++ W 0 9 ++ W 0 1 ++ W 1 1 ++ W 1 12 ++ W 0 12 ++ H 0 12 ++ H 1 12
def demoMPay : MPaySt := runMPay demoMCfg (mkMPay 4 2 (fun _ => 1) false [[1, 1, 1], [1, 1]]) demoMSched

example : demoMPay.wlog = [(2, 1, 2000), (1, 0, 1000), (3, 0, 1001), (5, 0, 1002), (4, 1, 2001)] ∧
    demoMPay.seen 0 0 = [(1, 1000), (2, 2000), (3, 1001), (4, 2001), (5, 1002)] ∧
    demoMPay.seen 1 0 = [(1, 3000), (2, 6000), (3, 3003), (4, 6003), (5, 3006)] := by decide +kernel

theorem demoMPay_reachable : MPayReachable demoMCfg demoMPay :=
  ⟨2, 2, fun _ => 1, false, [[1, 1, 1], [1, 1]], demoMSched, by decide, fun _ _ => Nat.one_pos, by decide,
   fun _ _ _ _ _ => rfl, rfl⟩

/-- the theorem applied to that state: what stage 1 was handed for sequence 5 -/
example : ∃ i v, (5, i, v) ∈ demoMPay.wlog ∧ 3006 = expectBelow demoMCfg.hc 1 v := by
  have ⟨hK, hh, hmem⟩ : 1 < demoMPay.x.s.K ∧ 0 < demoMPay.x.s.h 1 ∧ (5, 3006) ∈ demoMPay.seen 1 0 := by decide +kernel
  obtain ⟨i, v, h1, _, _, h4⟩ := c04_multi_payload_intact demoMPay_reachable 1 0 hK hh (5, 3006) hmem
  exact ⟨i, v, h1, h4⟩

end MultiPayload

/-! ## complete delivery, multi-producer pipelines

`c04_delivered_after_drain` for the multi-producer sequencer. `MultiProducerSequencer::drain` runs after the join of the writer
threads, reads the cursor once and waits until every last-stage handler has reached that value; since no writer is left the
value it read is the final cursor (`Lemmas/RingMultiDeliver.lean`, invariant `DDel`). So **whatever the release protocol
managed to publish is delivered completely**: every handler that has terminated was handed `1 … cursor`, once each, in order —
for any number of writers, any ring size, both wait strategies, every schedule. What the release protocol can fail to do
(F7/F8/F13) is to get the cursor up to the high watermark; `c04_multi_complete_when_released` is the full statement of C04
under exactly that hypothesis, and `c04_multi_single_writer_delivers_all` discharges it (together with termination) for one
writer thread. With two or more writers `cursor = hw` is false in general: `lostRun` above ends with `cursor = 1 < hw = 2`. -/
section MultiDelivery
open RingMulti RingPay RingMultiPay

/-- **delivery after `drain`, multi producer** (any number of writer threads, any ring size, topology, wait strategy, every
schedule): once `drain` has returned and a handler thread has terminated it has been handed exactly `1 … cursor` — the
multi-producer analogue of `c04_delivered_after_drain`, same hypotheses, same conclusion -/
theorem c04_multi_delivered_after_drain {x : MSt} (hr : MReachableWF x) (hd : x.dr.pc = .done)
    (k j : Nat) (hk : k < x.s.K) (hj : j < x.s.h k) (_hc : (x.s.cons k j).pc = .done) :
    (x.s.cons k j).log = List.range' 1 x.s.cursor :=
  (drained_all_caught_up x (mreachableWF_good hr) (mreachableWF_ddel hr) (by rw [hd]; rfl) k j hk hj).2.2.2

/-- stronger, neither thread needs to have *terminated*: from the moment the wait loop of `drain` has exited (`is_done` not
even stored yet) every handler's published cursor equals the producer cursor, no handler is inside a batch, and every handler
has been handed exactly `1 … cursor` -/
theorem c04_multi_delivered_once_drained {x : MSt} (hr : MReachableWF x) (hd : dDrained x.dr.pc = true)
    (k j : Nat) (hk : k < x.s.K) (hj : j < x.s.h k) :
    (x.s.cons k j).cur = x.s.cursor ∧ (x.s.cons k j).pc ≠ .handle ∧ (x.s.cons k j).pc ≠ .publish ∧
    (x.s.cons k j).log = List.range' 1 x.s.cursor :=
  drained_all_caught_up x (mreachableWF_good hr) (mreachableWF_ddel hr) hd k j hk hj

/-- the hypothesis on the draining thread is implied: a handler thread only terminates on `is_done`, which `drain` stores after
its wait loop. So a terminated handler has *always* been handed exactly `1 … cursor`. -/
theorem c04_multi_delivered_at_handler_exit {x : MSt} (hr : MReachableWF x)
    (k j : Nat) (hk : k < x.s.K) (hj : j < x.s.h k) (hc : (x.s.cons k j).pc = .done) :
    (x.s.cons k j).log = List.range' 1 x.s.cursor :=
  (c04_multi_delivered_once_drained hr (drained_of_cons_done x (mreachableWF_ginv hr).mtx k j hk hj hc) k j hk hj).2.2.2

/-! non-vacuity: `lostRun` (two writers, the run is over, sequence 2 stranded): the handler got exactly `1 … cursor = [1]` -/
theorem lostRun_reachable : MReachableWF lostRun :=
  ⟨4, 1, fun _ => 1, false, [[1], [1]], _, by decide, fun _ _ => Nat.one_pos, by decide, rfl⟩

example : lostRun.dr.pc = .done ∧ (lostRun.s.cons 0 0).pc = .done ∧ lostRun.s.cursor = 1 ∧ lostRun.hw = 2 := by
  decide +kernel

example : (lostRun.s.cons 0 0).log = List.range' 1 lostRun.s.cursor := by
  have hf := c04_multi_stranded_event_lost
  obtain ⟨_, hK, hh, _⟩ := C06.topo_of_run (x := lostRun) rfl
  exact c04_multi_delivered_after_drain lostRun_reachable hf.2.2.1 0 0 (by rw [hK]; exact Nat.one_pos)
    (by rw [hh]; exact Nat.one_pos) hf.2.2.2.1

/-- **C04 for the multi-producer sequencer, under the hypothesis that the release protocol did its job** (ring sizes `2^e`, any
number of writer threads, topology, wait strategy, every schedule). If `drain` has returned, the handler thread `(k,j)` has
terminated and everything claimed was released (`cursor = hw`), then

* the handler was handed exactly the claimed sequences `1 … hw`, once each, in order;
* these are exactly the sequences of the successful claims, which tile `[1, hw]` (each of its requested length);
* every one of them, `q`, is in the log, was written to its slot **exactly once, by the writer `i` holding the claim that
  contains it** (`(q, i)` is the only entry for `q` in the log of slot writes), and is pending with no writer — and that was
  already so when the handler was handed `q` (`c04_multi_written_before_handed` below, from `c04_multi_handle_only_published`: at the call, `q` is in `written` and not
  pending; `written` only grows), so the write precedes the handler call. -/
theorem c04_multi_complete_when_released {x : MSt} (hr : MReachableWF x) (e : Nat) (hn : x.s.n = 2 ^ e)
    (hd : x.dr.pc = .done) (hrel : x.s.cursor = x.hw)
    (k j : Nat) (hk : k < x.s.K) (hj : j < x.s.h k) (hc : (x.s.cons k j).pc = .done) :
    (x.s.cons k j).log = List.range' 1 x.hw ∧
    Tiles 1 x.allClaims (x.hw + 1) ∧
    ∀ q, 1 ≤ q → q ≤ x.hw →
      q ∈ (x.s.cons k j).log ∧
      ∃ i, i < x.P ∧ (q, i) ∈ x.written ∧ (∀ i', (q, i') ∈ x.written → i' = i) ∧
        (∃ cl, cl ∈ (x.wr i).claims ∧ cl ∈ x.allClaims ∧ cl.1 ≤ q ∧ q ≤ cl.2.1) ∧ ¬ Pend x q := by
  have hlog := c04_multi_delivered_after_drain hr hd k j hk hj hc
  rw [hrel] at hlog
  have hso := mreachableWF_safeOwn hr e hn
  have hon := mreachableWF_once hr e hn
  refine ⟨hlog, (mreachableWF_good hr).1.tiles, ?_⟩
  intro q q1 q2
  refine ⟨by rw [hlog, List.mem_range'_1]; omega, ?_⟩
  obtain ⟨_, ⟨i, hi⟩, hnp⟩ := published_below_cursor x hso.1 q q1 (by omega)
  obtain ⟨hiP, cl, hcl, hb1, hb2⟩ := hso.2.wrote q i hi
  exact ⟨i, hiP, hi, fun i' hi' => nodup_fst_unique _ hon.nodup q i' i hi' hi,
    ⟨cl, hcl, hso.2.globl i hiP cl hcl, hb1, hb2⟩, hnp⟩

/-- **written before handed over**, as a statement about the step that hands the sequence over (ring sizes `2^e`, any number
of writers, every schedule): if a step of handler `(k,j)` puts `q` into its log, then in the state *before* that step `q` is at
or below the cursor, has been written to its slot and is pending with no writer. (`written` only grows, and by
`c04_multi_complete_when_released` / `c04_multi_written_once` there is exactly one write of `q`, by its claimant.) -/
theorem c04_multi_written_before_handed {x : MSt} (hr : MReachableWF x) (e : Nat) (hn : x.s.n = 2 ^ e) (k j : Nat)
    (hk : k < x.s.K) (hj : j < x.s.h k) (q : Nat) (hnew : q ∈ ((stepM x (.cons k j)).s.cons k j).log)
    (hold : q ∉ (x.s.cons k j).log) :
    q ≤ x.s.cursor ∧ (∃ i, (q, i) ∈ x.written) ∧ ¬ Pend x q := by
  have hs : (stepM x (.cons k j)).s = stepC x.s k j := by simp [stepM, hk, hj]
  rw [hs, stepC_own, stepCons_log] at hnew
  by_cases hh : (x.s.cons k j).pc = .handle ∧ (x.s.cons k j).i ≤ (x.s.cons k j).avail
  · rw [if_pos hh, List.mem_append, List.mem_singleton] at hnew
    rcases hnew with h | h
    · exact absurd h hold
    · subst h
      obtain ⟨a, _, b, c⟩ := c04_multi_handle_only_published hr e hn k j hk hj hh.1 hh.2
      exact ⟨a, b, c⟩
  · rw [if_neg hh] at hnew; exact absurd hnew hold

/-! non-vacuity: in `demoMultiHandle` the next step of the handler hands over sequence 1 -/
example : 1 ∈ ((stepM demoMultiHandle (.cons 0 0)).s.cons 0 0).log ∧ 1 ∉ (demoMultiHandle.s.cons 0 0).log := by
  decide +kernel

/-! non-vacuity: ring of 4, two stages, writer 0 writes three events, writer 1 two (`demoMSched` of the payload section: writes and
publications out of sequence order, the ring wraps), then the join, `drain`, and both handlers run to completion. Everything
was released (`cursor = hw = 5`) and both handlers were handed `1 … 5`. -/
def releasedSched : List MTid :=
  demoMSched ++ List.replicate 2 (MTid.writer 1) ++ List.replicate 12 MTid.drainer ++
  List.replicate 4 (MTid.cons 0 0) ++ List.replicate 4 (MTid.cons 1 0)
def releasedRun : MSt := runM (mkM 4 2 (fun _ => 1) false [[1, 1, 1], [1, 1]]) releasedSched

theorem releasedRun_reachable : MReachableWF releasedRun :=
  ⟨4, 2, fun _ => 1, false, [[1, 1, 1], [1, 1]], releasedSched, by decide, fun _ _ => Nat.one_pos, by decide, rfl⟩

theorem releasedRun_facts :
    (releasedRun.wr 0).pc = .done ∧ (releasedRun.wr 1).pc = .done ∧ releasedRun.dr.pc = .done ∧
    (releasedRun.s.cons 0 0).pc = .done ∧ (releasedRun.s.cons 1 0).pc = .done ∧
    releasedRun.s.cursor = 5 ∧ releasedRun.hw = 5 ∧ releasedRun.s.n = 2 ^ 2 ∧ releasedRun.s.K = 2 ∧ releasedRun.s.h 1 = 1 ∧
    releasedRun.written = [(2, 1), (1, 0), (3, 0), (5, 0), (4, 1)] ∧
    (releasedRun.s.cons 0 0).log = [1, 2, 3, 4, 5] ∧ (releasedRun.s.cons 1 0).log = [1, 2, 3, 4, 5] := by
  decide +kernel

/-- the theorem applied to that state: the second-stage handler got `1 … 5`, and sequence 4 was written by writer 1 only -/
example : (releasedRun.s.cons 1 0).log = List.range' 1 5 ∧ (4, 1) ∈ releasedRun.written ∧
    ∀ i', (4, i') ∈ releasedRun.written → i' = 1 := by
  have hf := releasedRun_facts
  obtain ⟨h1, _, h3⟩ := c04_multi_complete_when_released releasedRun_reachable 2 hf.2.2.2.2.2.2.2.1 hf.2.2.1
    (by rw [hf.2.2.2.2.2.1, hf.2.2.2.2.2.2.1]) 1 0 (by rw [hf.2.2.2.2.2.2.2.2.1]; omega)
    (by rw [hf.2.2.2.2.2.2.2.2.2.1]; omega) hf.2.2.2.2.1
  rw [hf.2.2.2.2.2.2.1] at h1 h3
  obtain ⟨_, i, _, hi, huniq, _⟩ := h3 4 (by omega) (by omega)
  have : i = 1 := (huniq 1 (by rw [hf.2.2.2.2.2.2.2.2.2.2.1]; decide)).symm
  subst this
  exact ⟨h1, hi, huniq⟩

/-- **one writer thread, either strategy: every event is delivered to every handler** (`hlock` is only needed for the blocking
strategy). Every fair schedule reaches a state in which all threads have terminated, high watermark and cursor stand at
`Σ batches`, every sequence `1 … Σ batches` was written by the writer, and every handler was handed exactly these sequences. -/
theorem single_writer_delivers_all (e K : Nat) (h : Nat → Nat) (bl : Bool) (bs : List Nat)
    (hK : 0 < K) (hh : ∀ j, j < K → 0 < h j) (hb : ∀ b, b ∈ bs → 1 ≤ b ∧ b < 2 ^ e)
    (σ : Nat → MTid) (hfair : C06.WeaklyFairM 1 K h σ)
    (hlock : bl = true → C06.LockFairM 1 K h σ (mkM (2 ^ e) K h true [bs])) :
    ∃ t x, x = Fair.run stepM σ (mkM (2 ^ e) K h bl [bs]) t ∧ terminalM x ∧
      x.hw = bs.sum ∧ x.s.cursor = bs.sum ∧ (∀ q, 1 ≤ q → q ≤ bs.sum → (q, 0) ∈ x.written) ∧
      ∀ k j, k < K → j < h k → (x.s.cons k j).log = List.range' 1 bs.sum := by
  obtain ⟨t, ht⟩ := C06.single_writer_terminates e K h bl bs hK hh hb σ hfair hlock
  have hb0 : ∀ b, b ∈ bs → 1 ≤ b := fun b hbm => (hb b hbm).1
  have hr := C06.frun_reachable (2 ^ e) K h bl [bs] hK hh (by intro l hl b hbl; simp at hl; subst hl; exact hb0 b hbl) σ t
  obtain ⟨eK, eh, _⟩ := BlkM.topo_frun σ (mkM (2 ^ e) K h bl [bs]) t
  obtain ⟨_, _, h3, h4, h5⟩ := C06.c06_multi_all_written_at_exit e K h bl bs hK hh hb0 σ t ht
  refine ⟨t, _, rfl, ht, h3, h4, h5, fun k j hk hj => ?_⟩
  have hk' : k < (Fair.run stepM σ (mkM (2 ^ e) K h bl [bs]) t).s.K := by rw [eK]; exact hk
  have hj' : j < (Fair.run stepM σ (mkM (2 ^ e) K h bl [bs]) t).s.h k := by rw [eh]; exact hj
  rw [c04_multi_delivered_after_drain hr ht.2.1 k j hk' hj' (ht.2.2 k j hk' hj'), h4]

/-- **C04, multi-producer sequencer with one writer thread, spin strategy: every event is delivered to every handler.** For
every ring size `2^e`, topology, list of batches with `1 ≤ b < 2^e` and every weakly fair schedule a state is reached in which
all threads have terminated, the writer has claimed and written exactly the sequences `1 … Σ batches`, and every handler of
every stage was handed exactly `1, 2, …, Σ batches` — each once, in order. -/
theorem c04_multi_single_writer_delivers_all (e K : Nat) (h : Nat → Nat) (bs : List Nat)
    (hK : 0 < K) (hh : ∀ j, j < K → 0 < h j) (hb : ∀ b, b ∈ bs → 1 ≤ b ∧ b < 2 ^ e)
    (σ : Nat → MTid) (hfair : C06.WeaklyFairM 1 K h σ) :
    ∃ t x, x = Fair.run stepM σ (mkM (2 ^ e) K h false [bs]) t ∧ terminalM x ∧
      x.hw = bs.sum ∧ x.s.cursor = bs.sum ∧ (∀ q, 1 ≤ q → q ≤ bs.sum → (q, 0) ∈ x.written) ∧
      ∀ k j, k < K → j < h k → (x.s.cons k j).log = List.range' 1 bs.sum :=
  single_writer_delivers_all e K h false bs hK hh hb σ hfair nofun

/-- the same for the blocking strategy, under weak fairness + strong fairness of lock acquisition -/
theorem c04_multi_single_writer_delivers_all_blocking (e K : Nat) (h : Nat → Nat) (bs : List Nat)
    (hK : 0 < K) (hh : ∀ j, j < K → 0 < h j) (hb : ∀ b, b ∈ bs → 1 ≤ b ∧ b < 2 ^ e)
    (σ : Nat → MTid) (hfair : C06.WeaklyFairM 1 K h σ) (hlock : C06.LockFairM 1 K h σ (mkM (2 ^ e) K h true [bs])) :
    ∃ t x, x = Fair.run stepM σ (mkM (2 ^ e) K h true [bs]) t ∧ terminalM x ∧
      x.hw = bs.sum ∧ x.s.cursor = bs.sum ∧ (∀ q, 1 ≤ q → q ≤ bs.sum → (q, 0) ∈ x.written) ∧
      ∀ k j, k < K → j < h k → (x.s.cons k j).log = List.range' 1 bs.sum :=
  single_writer_delivers_all e K h true bs hK hh hb σ hfair fun _ => hlock

/-- **… intact**: the same on the slot layer (`Model/RingMultiPay.lean`; mutable handlers alone in their stage, F9), either
strategy (`hlock` is only needed for the blocking one). A state of the layer is reached in which all threads have terminated
and every handler `(k,j)` has seen exactly the sequences `1 … Σ batches`, in order, each with the value of the one and only
slot write of that sequence — made by the writer — transformed by the mutable handlers of the stages below `k`. -/
theorem c04_multi_single_writer_payload_delivered (c : MPCfg) (e K : Nat) (h : Nat → Nat) (bl : Bool) (bs : List Nat)
    (hK : 0 < K) (hh : ∀ j, j < K → 0 < h j) (hb : ∀ b, b ∈ bs → 1 ≤ b ∧ b < 2 ^ e)
    (hT : ∀ k j, k < K → j < h k → c.mutH k j = true → h k = 1)
    (σ : Nat → MTid) (hfair : C06.WeaklyFairM 1 K h σ)
    (hlock : bl = true → C06.LockFairM 1 K h σ (mkM (2 ^ e) K h true [bs])) :
    ∃ t s, s = runMPay c (mkMPay (2 ^ e) K h bl [bs]) ((List.range t).map σ) ∧ terminalM s.x ∧
      ∀ k j, k < K → j < h k →
        (s.seen k j).map (·.1) = List.range' 1 bs.sum ∧
        ∀ p, p ∈ s.seen k j → ∃ v, (p.1, 0, v) ∈ s.wlog ∧ (∀ i' v', (p.1, i', v') ∈ s.wlog → i' = 0 ∧ v' = v) ∧
          p.2 = expectBelow c.hc k v := by
  obtain ⟨t, x, hx, ht, _, _, _, h6⟩ := single_writer_delivers_all e K h bl bs hK hh hb σ hfair hlock
  subst hx
  have hsx : (runMPay c (mkMPay (2 ^ e) K h bl [bs]) ((List.range t).map σ)).x =
      Fair.run stepM σ (mkM (2 ^ e) K h bl [bs]) t := by
    rw [c04_multi_payload_layer_is_ghost, BlkM.frun_eq_runM]; rfl
  have hpr : MPayReachable c (runMPay c (mkMPay (2 ^ e) K h bl [bs]) ((List.range t).map σ)) :=
    ⟨e, K, h, bl, [bs], _, hK, hh, by intro l hl b hbl; simp at hl; subst hl; exact (hb b hbl).1, hT, rfl⟩
  obtain ⟨eK, eh, _, eP⟩ := BlkM.topo_frun σ (mkM (2 ^ e) K h bl [bs]) t
  refine ⟨t, _, rfl, by rw [hsx]; exact ht, ?_⟩
  intro k j hk hj
  refine ⟨by rw [c04_multi_seen_is_log hpr, hsx, h6 k j hk hj], ?_⟩
  intro p hp
  obtain ⟨i, v, a1, a2, ⟨a3, _⟩, a4⟩ := c04_multi_payload_intact hpr k j (by rw [hsx, eK]; exact hk)
    (by rw [hsx, eh]; exact hj) p hp
  have hi0 : i = 0 := by
    rw [hsx, eP] at a3
    have : (mkM (2 ^ e) K h bl [bs]).P = 1 := rfl
    omega
  subst hi0
  exact ⟨v, a1, a2, a4⟩

/-! non-vacuity: the concrete fair schedules of `Props/C06.lean` (the writer, the draining thread and the single handler take
turns) — spin: ring of 4, batches 2 and 3; blocking: ring of 2, batches 1 and 1 -/
example : ∃ t x, x = Fair.run stepM C06.altM (mkM (2 ^ 2) 1 (fun _ => 1) false [[2, 3]]) t ∧ terminalM x ∧
    (x.s.cons 0 0).log = [1, 2, 3, 4, 5] := by
  obtain ⟨t, x, hx, ht, _, _, _, h⟩ := c04_multi_single_writer_delivers_all 2 1 (fun _ => 1) [2, 3] (by omega)
    (fun _ _ => Nat.one_pos) (by intro b hb; simp at hb; omega) C06.altM C06.altM_fair
  exact ⟨t, x, hx, ht, h 0 0 (by omega) (by omega)⟩

example : ∃ t x, x = Fair.run stepM C06.altM (mkM (2 ^ 1) 1 (fun _ => 1) true [[1, 1]]) t ∧ terminalM x ∧
    (x.s.cons 0 0).log = [1, 2] := by
  obtain ⟨t, x, hx, ht, _, _, _, h⟩ := c04_multi_single_writer_delivers_all_blocking 1 1 (fun _ => 1) [1, 1] (by omega)
    (fun _ _ => Nat.one_pos) (by intro b hb; simp at hb; omega) C06.altM C06.altM_fair C06.altM_lockfair
  exact ⟨t, x, hx, ht, h 0 0 (by omega) (by omega)⟩

/-- the same run on the slot layer (`demoMCfg`: writer `i` stores `1000·(i+1) + m` for its `m`-th event): the handler saw the
five events of the writer, in order, each with the value written for it -/
example : ∃ t s, s = runMPay demoMCfg (mkMPay (2 ^ 2) 1 (fun _ => 1) false [[2, 3]]) ((List.range t).map C06.altM) ∧
    terminalM s.x ∧ (s.seen 0 0).map (·.1) = [1, 2, 3, 4, 5] := by
  obtain ⟨t, s, hs, ht, h⟩ := c04_multi_single_writer_payload_delivered demoMCfg 2 1 (fun _ => 1) false [2, 3] (by omega)
    (fun _ _ => Nat.one_pos) (by intro b hb; simp at hb; omega) (fun _ _ _ _ _ => rfl) C06.altM C06.altM_fair
    (by intro hf; cases hf)
  exact ⟨t, s, hs, ht, (h 0 0 (by omega) (by omega)).1⟩

end MultiDelivery

end C04
