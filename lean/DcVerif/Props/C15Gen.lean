import DcVerif.Props.C15
import DcVerif.Props.C08Gen
/-!
# C15 on the definitions generated from the source

`Gen/UGraphFns.lean` (regenerated on every run by `tools/rs2lean_ugraphfns.py`) contains `shortest_path` as read from
`graph_algorithms.rs` — the two `contains_node` guards, the call `astar(&self.graph, start, |finish| finish == stop, |e| *e.weight(),
|_| 0)` as the parameter `astar self start stop` (petgraph is outside /repo: its answer is external and judged per query by the
proved oracle), the copy of the path into the result — and every mutator of the graph. The statements of `Props/C15.lean` are
repeated here on those generated definitions: for every history *executed by the generated mutators* and every answer of `astar`.
-/
namespace C15Gen
open Spec Spec.DiGraph Spec.ShortestPath Model Model.UGraph Gen.UGraphFns

/-- the generated `shortest_path` never panics on a reachable graph and is the model's `shortestPath` applied to astar's path -/
theorem shortest_path_is_model (ops : List Op) (astar : UGraph → Nat → Nat → Option (Nat × List Nat)) (a b : Nat) :
    let g := (C08Gen.genRun init ops).1
    shortest_path astar g a b = some (g.shortestPath ((astar g a b).map (·.2)) a b) := by
  intro g
  have hwf : Model.UGraph.WF g := C08Gen.c08gen_reachable_wf ops
  exact C08Gen.shortest_path_eq astar hwf a b

/-- **the guards, on the generated definition**: an absent end point yields `None` whatever `astar` would say -/
theorem c15gen_guards (ops : List Op) (astar : UGraph → Nat → Nat → Option (Nat × List Nat)) (a b : Nat) :
    let g := (C08Gen.genRun init ops).1
    (g.containsNode a = false ∨ g.containsNode b = false) → shortest_path astar g a b = some none := by
  intro g h
  rw [shortest_path_is_model ops astar a b]
  exact congrArg some (C15.c15_guards g _ a b h)

/-- **C15, end statement, on the generated definitions.** On every graph reached by any history of generated
add / remove / clear operations, for every ordered pair and whatever `astar` contributes: the generated `shortest_path`
returns (does not panic), and if the oracle accepts its answer then the answer is right — a returned sequence is a real
path from start to stop of minimum total weight between two existing nodes, `None` means an end point is absent or the stop
node is unreachable; conversely every right answer is accepted. -/
theorem c15gen_shortest_path_judged_ok (ops : List Op) (astar : UGraph → Nat → Nat → Option (Nat × List Nat)) (a b : Nat) :
    let g := (C08Gen.genRun init ops).1
    ∃ r, shortest_path astar g a b = some r ∧
      (judge (abs g) a b r = true ↔
        match r with
        | some p => g.containsNode a = true ∧ g.containsNode b = true ∧
            ∃ c, Path (abs g) a b p c ∧ ∀ q c', Path (abs g) a b q c' → c ≤ c'
        | none => ¬ (g.containsNode a = true ∧ g.containsNode b = true) ∨ ∀ q c, ¬ Path (abs g) a b q c) := by
  intro g
  exact ⟨_, shortest_path_is_model ops astar a b, C15.judged_ok_of_wf (C08Gen.c08gen_reachable_wf ops) _ a b⟩

/-- **the choice of `astar` among ties is irrelevant, on the generated definitions.** Two runs of the generated `shortest_path`
on the same reachable graph and query with two different external searches, both accepted by the oracle: both answer a path
or both answer `None`, and two paths have the same total weight. -/
theorem c15gen_astar_choice_irrelevant (ops : List Op) (astar₁ astar₂ : UGraph → Nat → Nat → Option (Nat × List Nat))
    (a b : Nat) (r₁ r₂ : Option (List Nat)) :
    let g := (C08Gen.genRun init ops).1
    shortest_path astar₁ g a b = some r₁ → shortest_path astar₂ g a b = some r₂ →
    judge (abs g) a b r₁ = true → judge (abs g) a b r₂ = true →
      match r₁, r₂ with
      | some p, some q => ∃ c, Path (abs g) a b p c ∧ Path (abs g) a b q c
      | none, none => True
      | _, _ => False := by
  intro g _ _ h₁ h₂
  have hwf : Model.UGraph.WF g := C08Gen.c08gen_reachable_wf ops
  have hs := hwf.abs
  cases r₁ with
  | none =>
    cases r₂ with
    | none => trivial
    | some q => have := C15.c15_some_none_exclusive (abs g) hs a b q h₂; rw [h₁] at this; cases this
  | some p =>
    cases r₂ with
    | none => have := C15.c15_some_none_exclusive (abs g) hs a b p h₁; rw [h₂] at this; cases this
    | some q => exact C15.c15_accepted_same_weight (abs g) hs a b p q h₁ h₂

/-- **an accepted answer only walks along edges the generated `contains_edge` reports** — on every graph reached by the generated
mutators (so after removals too: a path over a removed edge or through a removed node is never accepted) -/
theorem c15gen_accepted_steps_are_edges (ops : List Op) (a b : Nat) (p : List Nat) :
    let g := (C08Gen.genRun init ops).1
    judge (abs g) a b (some p) = true → ∀ u v, (u, v) ∈ p.zip p.tail → contains_edge g u v = some true := by
  intro g hj u v hm
  have hwf : Model.UGraph.WF g := C08Gen.c08gen_reachable_wf ops
  rw [C08Gen.contains_edge_eq hwf]
  exact congrArg some (C15.accepted_steps_of_wf hwf a b p hj u v hm)

/-- non-vacuity: a history with a removal executed by the generated mutators, then a query with an `astar` answer -/
example :
    let g := (C08Gen.genRun init [.addNode 1, .addNode 2, .addNode 3, .addEdgeW 0 1 5, .addEdgeW 1 2 0, .removeNode 1]).1
    shortest_path (fun _ _ _ => some (0, [0, 2])) g 0 1 = some none ∧
    shortest_path (fun _ _ _ => some (0, [0, 2])) g 0 2 = some (some [0, 2]) := by decide

end C15Gen
