import DcVerif.Model.Collections
import DcVerif.Lemmas.Assoc
import DcVerif.Props.C18
/-!
# C12 — reasoning is deterministic and independent of the container holding the items

Model: `Model.Collections` (containers → `get_all_items()` / `len()`, `CausableReasoning` over causaloids) and
`Model.Reasoning` (assumptions, inferences, observations — shared with C18).

- Containers: every container hands the reasoning code the same thing — a list of items and its length; sequence
containers hand over the sequence, a B-tree the values in ascending key order, a hash map some permutation.
- Every answer is a function of that list (so equal lists ⇒ equal answers, whichever container).
- Counts, percentages, "all" answers are invariant under permutation, filters are as multisets.
- Reasoning over causaloids: the verdict does not depend on the activation cells (so a clone sharing
the cells, or a rebuilt twin with fresh cells, answers the same), and repeating a call changes nothing.
-/
namespace C12
open Model.Collections Model.Reasoning Spec.Reasoning

variable {α ι κ δ : Type}

def keysOf (m : List (Nat × α)) : List Nat := m.map (·.1)

theorem binsert_last (m : List (Nat × α)) (k : Nat) (v : α) (h : ∀ e ∈ m, e.1 < k) :
    binsert m k v = m ++ [(k, v)] := by
  induction m with
  | nil => rfl
  | cons e r ih =>
    obtain ⟨j, w⟩ := e
    have hj : j < k := h (j, w) (by simp)
    have h1 : ¬ k < j := by omega
    have h2 : ¬ k = j := by omega
    simp only [binsert, h1, h2, if_false, List.cons_append]
    rw [ih (fun e he => h e (by simp [he]))]

theorem btreeOf_increasing (kvs acc : List (Nat × α)) (hs : (keysOf kvs).Pairwise (· < ·))
    (hacc : ∀ e ∈ acc, ∀ f ∈ kvs, e.1 < f.1) :
    kvs.foldl (fun m kv => binsert m kv.1 kv.2) acc = acc ++ kvs := by
  induction kvs generalizing acc with
  | nil => simp
  | cons kv r ih =>
    simp only [keysOf, List.map_cons, List.pairwise_cons] at hs
    simp only [List.foldl_cons]
    rw [binsert_last acc kv.1 kv.2 (fun e he => hacc e he kv (by simp))]
    rw [ih (acc ++ [(kv.1, kv.2)]) hs.2]
    · simp
    · intro e he f hf
      rcases List.mem_append.1 he with h | h
      · exact hacc e h f (by simp [hf])
      · simp only [List.mem_singleton] at h
        subst h
        exact hs.1 f.1 (List.mem_map_of_mem hf)

theorem mem_keys_binsert (m : List (Nat × α)) (k j : Nat) (v : α) :
    j ∈ keysOf (binsert m k v) ↔ j = k ∨ j ∈ keysOf m := by
  induction m with
  | nil => simp [binsert, keysOf]
  | cons e r ih =>
    obtain ⟨i, w⟩ := e
    simp only [binsert]
    split
    · simp [keysOf]
    · split
      · rename_i h2; subst h2; simp [keysOf]
      · simp only [keysOf, List.map_cons, List.mem_cons] at ih ⊢
        rw [ih]; exact or_left_comm

theorem binsert_perm (m : List (Nat × α)) (k : Nat) (v : α) (h : k ∉ keysOf m) :
    (binsert m k v).Perm ((k, v) :: m) := by
  induction m with
  | nil => exact List.Perm.refl _
  | cons e r ih =>
    obtain ⟨i, w⟩ := e
    have hik : ¬ k = i := fun e => h (e ▸ List.mem_cons_self)
    have hr : k ∉ keysOf r := fun e => h (List.mem_cons_of_mem _ e)
    simp only [binsert, hik, if_false]
    split
    · exact List.Perm.refl _
    · exact ((ih hr).cons (i, w)).trans (List.Perm.swap _ _ _)

theorem binsert_sorted (m : List (Nat × α)) (k : Nat) (v : α) (h : (keysOf m).Pairwise (· < ·)) :
    (keysOf (binsert m k v)).Pairwise (· < ·) := by
  induction m with
  | nil => simp [binsert, keysOf]
  | cons e r ih =>
    obtain ⟨i, w⟩ := e
    simp only [keysOf, List.map_cons, List.pairwise_cons] at h
    simp only [binsert]
    split
    · rename_i hk
      exact List.pairwise_cons.2 ⟨fun a ha => by
        rcases List.mem_cons.1 ha with rfl | ha
        · exact hk
        · exact Nat.lt_trans hk (h.1 a ha), List.pairwise_cons.2 h⟩
    · split
      · rename_i h2; subst h2
        exact List.pairwise_cons.2 h
      · refine List.pairwise_cons.2 ⟨fun a ha => ?_, ih h.2⟩
        rcases (mem_keys_binsert r k a v).1 ha with rfl | ha'
        · show i < a; omega
        · exact h.1 a ha'

theorem btreeOf_sorted (kvs : List (Nat × α)) : (keysOf (btreeOf kvs)).Pairwise (· < ·) :=
  List.foldlRecOn (motive := fun m => (keysOf m).Pairwise (· < ·)) kvs _ List.Pairwise.nil
    fun m hm kv _ => binsert_sorted m kv.1 kv.2 hm

theorem foldl_insert_perm (ins : List (Nat × α) → Nat → α → List (Nat × α))
    (hmem : ∀ m k j v, j ∈ keysOf (ins m k v) ↔ j = k ∨ j ∈ keysOf m)
    (hfresh : ∀ m k v, k ∉ keysOf m → (ins m k v).Perm ((k, v) :: m))
    (kvs acc : List (Nat × α)) (hn : (keysOf kvs).Nodup) (hd : ∀ k ∈ keysOf kvs, k ∉ keysOf acc) :
    (kvs.foldl (fun m kv => ins m kv.1 kv.2) acc).Perm (acc ++ kvs) := by
  induction kvs generalizing acc with
  | nil => simp
  | cons kv r ih =>
    simp only [keysOf, List.map_cons, List.nodup_cons] at hn
    refine (ih (ins acc kv.1 kv.2) hn.2 ?_).trans ?_
    · intro k hk' hmem'
      rcases (hmem acc kv.1 k kv.2).1 hmem' with rfl | h
      · exact hn.1 hk'
      · exact hd k (List.mem_cons_of_mem _ hk') h
    · exact ((hfresh acc kv.1 kv.2 (hd kv.1 (List.mem_cons_self ..))).append_right r).trans List.perm_middle.symm

theorem hinsert_fresh (m : List (Nat × α)) (k : Nat) (v : α) (h : k ∉ keysOf m) :
    hinsert m k v = m ++ [(k, v)] :=
  Lemmas.Assoc.ins_fresh hinsert (fun _ _ => rfl) (fun _ _ _ _ _ => rfl) m k v h

theorem hget_values (m : List (Nat × α)) (hn : (keysOf m).Nodup) :
    (keysOf m).filterMap (hget m) = m.map (·.2) :=
  Lemmas.Assoc.filterMap_get hget (fun _ _ _ _ => rfl) m hn

theorem mem_keys_hinsert (m : List (Nat × α)) (k j : Nat) (v : α) :
    j ∈ keysOf (hinsert m k v) ↔ j = k ∨ j ∈ keysOf m :=
  Lemmas.Assoc.mem_keys_ins hinsert (fun _ _ => rfl) (fun _ _ _ _ _ => rfl) m k j v

theorem hinsert_nodup (m : List (Nat × α)) (k : Nat) (v : α) (h : (keysOf m).Nodup) :
    (keysOf (hinsert m k v)).Nodup :=
  Lemmas.Assoc.nodup_ins hinsert (fun _ _ => rfl) (fun _ _ _ _ _ => rfl) m k v h

theorem hashOf_nodup (kvs : List (Nat × α)) : (keysOf (hashOf kvs)).Nodup :=
  List.foldlRecOn (motive := fun m => (keysOf m).Nodup) kvs _ List.nodup_nil
    fun m hm kv _ => hinsert_nodup m kv.1 kv.2 hm

theorem items_hash_perm (kvs : List (Nat × α)) (order : List Nat) (wf : WellFormed (.hash kvs order)) :
    (items (.hash kvs order)).Perm ((hashOf kvs).map (·.2)) := by
  rw [← hget_values _ (hashOf_nodup kvs)]
  exact List.Perm.filterMap _ wf

/-- **the container's own `len()` is the number of items `get_all_items()` returns** — for all five container
types (hash map: for every enumeration order) -/
theorem c12_len_is_number_of_items (c : Container α) (wf : WellFormed c) :
    len c = (items c).length ∧ isEmpty c = (items c).isEmpty := by
  have h : len c = (items c).length := by
    cases c with
    | slice l => rfl
    | vec l => rfl
    | deque l => rfl
    | btree kvs => exact (List.length_map _).symm
    | hash kvs order => exact ((items_hash_perm kvs order wf).length_eq.trans (List.length_map _)).symm
  refine ⟨h, ?_⟩
  simp only [isEmpty, h]
  cases items c <;> rfl

/-- **which list each container hands over.** Slice, `Vec` and `VecDeque` hand over their sequence; a B-tree
filled with strictly increasing keys hands over the values in insertion order (an ordered map with the same
iteration order); for pairwise distinct keys a B-tree hands over the values sorted by key and a hash map some
permutation — both the same multiset as the sequence. -/
theorem c12_items_of_containers (l : List α) (kvs : List (Nat × α)) (order : List Nat) :
    items (.slice l) = l ∧ items (.vec l) = l ∧ items (.deque l) = l ∧
    ((keysOf kvs).Pairwise (· < ·) → items (.btree kvs) = kvs.map (·.2)) ∧
    (keysOf (btreeOf kvs)).Pairwise (· < ·) ∧
    ((keysOf kvs).Nodup → (items (.btree kvs)).Perm (kvs.map (·.2))) ∧
    ((keysOf kvs).Nodup → WellFormed (.hash kvs order) → (items (.hash kvs order)).Perm (kvs.map (·.2))) := by
  refine ⟨rfl, rfl, rfl, ?_, btreeOf_sorted kvs, ?_, ?_⟩
  · intro hs
    exact congrArg (List.map (·.2)) (btreeOf_increasing kvs [] hs (fun _ h => nomatch h))
  · intro hn
    exact (foldl_insert_perm binsert mem_keys_binsert binsert_perm kvs [] hn (fun _ _ h => nomatch h)).map _
  · intro hn wf
    exact (items_hash_perm kvs order wf).trans
      ((foldl_insert_perm hinsert mem_keys_hinsert
        (fun m k v h => hinsert_fresh m k v h ▸ List.perm_append_singleton _ _) kvs [] hn (fun _ _ h => nomatch h)).map _)

/-- all answers of `AssumableReasoning` on a container -/
structure AssumableAns (ι : Type) where
  allTested : Bool
  allValid : Bool
  numberValid : Nat
  percentValid : Rat
  invalid : List ι
  valid : List ι
  tested : List ι
  untested : List ι
  len : Nat
  isEmpty : Bool

/-- … computed the way the trait computes them on a container: from `get_all_items()` and the container's `len()` -/
def assumableAns (tested valid : ι → Bool) (c : Container ι) : AssumableAns ι :=
  { allTested := allTested tested (items c), allValid := allValid valid (items c),
    numberValid := numberValid valid (items c),
    percentValid := ((numberValid valid (items c) : Nat) : Rat) / (len c : Rat) * 100,
    invalid := getAllInvalid valid (items c), valid := getAllValid valid (items c),
    tested := getAllTested tested (items c), untested := getAllUntested tested (items c),
    len := len c, isEmpty := isEmpty c }

def assumableOfList (tested valid : ι → Bool) (l : List ι) : AssumableAns ι :=
  { allTested := allTested tested l, allValid := allValid valid l, numberValid := numberValid valid l,
    percentValid := percentValid valid l, invalid := getAllInvalid valid l, valid := getAllValid valid l,
    tested := getAllTested tested l, untested := getAllUntested tested l, len := l.length, isEmpty := l.isEmpty }

structure InferableAns (κ : Type) where
  inferable : List (Inference κ)
  inverse : List (Inference κ)
  non : List (Inference κ)
  allInferable : Bool
  allInverse : Bool
  allNon : Bool
  numberInferable : Nat
  numberInverse : Nat
  numberNon : Nat
  percentInferable : Rat
  percentInverse : Rat
  percentNon : Rat
  conjointDelta : Rat
  len : Nat
  isEmpty : Bool

def inferableAns (cmp : κ → κ → Ordering) (approx : κ → κ → Bool) (c : Container (Inference κ)) : InferableAns κ :=
  let l := items c
  let total : Rat := (len c : Rat)
  { inferable := getAllInferable cmp approx l, inverse := getAllInverseInferable cmp approx l,
    non := getAllNonInferable cmp approx l, allInferable := allInferable cmp approx l,
    allInverse := allInverseInferable cmp approx l, allNon := allNonInferable cmp approx l,
    numberInferable := numberInferable cmp approx l, numberInverse := numberInverseInferable cmp approx l,
    numberNon := numberNonInferable cmp approx l,
    percentInferable := percentOf (numberInferable cmp approx l) (len c),
    percentInverse := percentOf (numberInverseInferable cmp approx l) (len c),
    percentNon := percentOf (numberNonInferable cmp approx l) (len c),
    conjointDelta := absNum (1 - (total - (numberNonInferable cmp approx l : Rat)) / total),
    len := len c, isEmpty := isEmpty c }

def inferableOfList (cmp : κ → κ → Ordering) (approx : κ → κ → Bool) (l : List (Inference κ)) : InferableAns κ :=
  { inferable := getAllInferable cmp approx l, inverse := getAllInverseInferable cmp approx l,
    non := getAllNonInferable cmp approx l, allInferable := allInferable cmp approx l,
    allInverse := allInverseInferable cmp approx l, allNon := allNonInferable cmp approx l,
    numberInferable := numberInferable cmp approx l, numberInverse := numberInverseInferable cmp approx l,
    numberNon := numberNonInferable cmp approx l,
    percentInferable := percentInferable cmp approx l, percentInverse := percentInverseInferable cmp approx l,
    percentNon := percentNonInferable cmp approx l, conjointDelta := conjointDelta cmp approx l,
    len := l.length, isEmpty := l.isEmpty }

structure ObservableAns where
  numberObservation : Nat
  numberNonObservation : Int
  percentObservation : Rat
  percentNonObservation : Rat
  len : Nat
  isEmpty : Bool

def observableAns (ge eq : κ → κ → Bool) (c : Container (Observation κ)) (thr e : κ) : ObservableAns :=
  let l := items c
  { numberObservation := numberObservation ge eq l thr e,
    numberNonObservation := (len c : Int) - (numberObservation ge eq l thr e : Int),
    percentObservation := (numberObservation ge eq l thr e : Rat) / (len c : Rat),
    percentNonObservation := 1 - (numberObservation ge eq l thr e : Rat) / (len c : Rat),
    len := len c, isEmpty := isEmpty c }

def observableOfList (ge eq : κ → κ → Bool) (l : List (Observation κ)) (thr e : κ) : ObservableAns :=
  { numberObservation := numberObservation ge eq l thr e, numberNonObservation := numberNonObservation ge eq l thr e,
    percentObservation := percentObservation ge eq l thr e, percentNonObservation := percentNonObservation ge eq l thr e,
    len := l.length, isEmpty := l.isEmpty }

/-- all answers of `CausableReasoning` on a container of causaloids, for the activation state `cells`, and the
outcome of `reason_all_causes(data)` (verdict and activation state afterwards) -/
structure CausableAns where
  allTrue : Bool
  active : List Cause
  inactive : List Cause
  numberActive : Nat
  percentActive : Rat
  explain : Option (List Nat)
  toVec : List Cause
  len : Nat
  isEmpty : Bool

def causableAns (cells : Cells) (c : Container Cause) : CausableAns :=
  let l := items c
  { allTrue := allCausesTrue cells l, active := getAllActive cells l, inactive := getAllInactive cells l,
    numberActive := numberActive cells l, percentActive := percentActive cells l (len c),
    explain := explainIds cells l, toVec := l, len := len c, isEmpty := isEmpty c }

def causableOfList (cells : Cells) (l : List Cause) : CausableAns :=
  { allTrue := allCausesTrue cells l, active := getAllActive cells l, inactive := getAllInactive cells l,
    numberActive := numberActive cells l, percentActive := percentActive cells l l.length,
    explain := explainIds cells l, toVec := l, len := l.length, isEmpty := l.isEmpty }

/-- `reason_all_causes` on a container: `is_empty()` of the container, then the loop over `get_all_items()` -/
def reasonAllC (eval : Nat → δ → Option Bool) (c : Container Cause) (data : List δ) (cells : Cells) : Res × Cells :=
  if isEmpty c then (.err, cells) else loopCauses eval (items c) 0 data cells

/-- **every reasoning answer is a function of the item list only**: for each of the five container types (hash map:
every enumeration order), all answers of the four reasoning traits computed on the container — through its
`get_all_items()` and its own `len()`/`is_empty()` — are the answers computed from the bare list `items c`. -/
theorem c12_answers_function_of_items :
    (∀ (tested valid : ι → Bool) (c : Container ι), WellFormed c →
      assumableAns tested valid c = assumableOfList tested valid (items c)) ∧
    (∀ (cmp : κ → κ → Ordering) (approx : κ → κ → Bool) (c : Container (Inference κ)), WellFormed c →
      inferableAns cmp approx c = inferableOfList cmp approx (items c)) ∧
    (∀ (ge eq : κ → κ → Bool) (c : Container (Observation κ)) (thr e : κ), WellFormed c →
      observableAns ge eq c thr e = observableOfList ge eq (items c) thr e) ∧
    (∀ (cells : Cells) (c : Container Cause), WellFormed c → causableAns cells c = causableOfList cells (items c)) ∧
    (∀ (eval : Nat → δ → Option Bool) (c : Container Cause) (data : List δ) (cells : Cells), WellFormed c →
      reasonAllC eval c data cells = reasonAll eval (items c) data cells) := by
  refine ⟨?_, ?_, ?_, ?_, ?_⟩
  · intro tested valid c wf
    obtain ⟨h1, h2⟩ := c12_len_is_number_of_items c wf
    simp only [assumableAns, assumableOfList, h1, h2, percentValid]
  · intro cmp approx c wf
    obtain ⟨h1, h2⟩ := c12_len_is_number_of_items c wf
    simp only [inferableAns, inferableOfList, h1, h2, percentInferable, percentInverseInferable,
      percentNonInferable, conjointDelta]
  · intro ge eq c thr e wf
    obtain ⟨h1, h2⟩ := c12_len_is_number_of_items c wf
    simp only [observableAns, observableOfList, h1, h2, numberNonObservation, percentObservation,
      percentNonObservation]
  · intro cells c wf
    obtain ⟨h1, h2⟩ := c12_len_is_number_of_items c wf
    simp only [causableAns, causableOfList, h1, h2]
  · intro eval c data cells wf
    obtain ⟨h1, h2⟩ := c12_len_is_number_of_items c wf
    simp only [reasonAllC, reasonAll, h2]

/-- hence: **two containers holding the same list give the same answers, whichever container types they are** -/
theorem c12_same_items_same_answers :
    (∀ (tested valid : ι → Bool) (c₁ c₂ : Container ι), WellFormed c₁ → WellFormed c₂ → items c₁ = items c₂ →
      assumableAns tested valid c₁ = assumableAns tested valid c₂) ∧
    (∀ (cmp : κ → κ → Ordering) (approx : κ → κ → Bool) (c₁ c₂ : Container (Inference κ)),
      WellFormed c₁ → WellFormed c₂ → items c₁ = items c₂ → inferableAns cmp approx c₁ = inferableAns cmp approx c₂) ∧
    (∀ (ge eq : κ → κ → Bool) (c₁ c₂ : Container (Observation κ)) (thr e : κ),
      WellFormed c₁ → WellFormed c₂ → items c₁ = items c₂ → observableAns ge eq c₁ thr e = observableAns ge eq c₂ thr e) ∧
    (∀ (cells : Cells) (c₁ c₂ : Container Cause), WellFormed c₁ → WellFormed c₂ → items c₁ = items c₂ →
      causableAns cells c₁ = causableAns cells c₂) ∧
    (∀ (eval : Nat → δ → Option Bool) (c₁ c₂ : Container Cause) (data : List δ) (cells : Cells),
      WellFormed c₁ → WellFormed c₂ → items c₁ = items c₂ →
      reasonAllC eval c₁ data cells = reasonAllC eval c₂ data cells) := by
  obtain ⟨h1, h2, h3, h4, h5⟩ := @c12_answers_function_of_items ι κ δ
  refine ⟨?_, ?_, ?_, ?_, ?_⟩
  · intro t v c₁ c₂ w₁ w₂ e; rw [h1 t v c₁ w₁, h1 t v c₂ w₂, e]
  · intro cmp ap c₁ c₂ w₁ w₂ e; rw [h2 cmp ap c₁ w₁, h2 cmp ap c₂ w₂, e]
  · intro ge eq c₁ c₂ thr x w₁ w₂ e; rw [h3 ge eq c₁ thr x w₁, h3 ge eq c₂ thr x w₂, e]
  · intro cells c₁ c₂ w₁ w₂ e; rw [h4 cells c₁ w₁, h4 cells c₂ w₂, e]
  · intro ev c₁ c₂ d cells w₁ w₂ e; rw [h5 ev c₁ d cells w₁, h5 ev c₂ d cells w₂, e]

theorem loop_perm (p : ι → Bool) (loop : List ι → Bool) (hnil : loop [] = true)
    (hcons : ∀ a r, loop (a :: r) = if !p a then false else loop r) {l₁ l₂ : List ι} (h : l₁.Perm l₂) :
    loop l₁ = loop l₂ := by
  rw [Bool.eq_iff_iff, C18.all_loop_iff p loop hnil hcons, C18.all_loop_iff p loop hnil hcons]
  exact ⟨fun H a ha => H a (h.mem_iff.2 ha), fun H a ha => H a (h.mem_iff.1 ha)⟩

/-- **assumptions: permutation invariance** — counts, percentage and "all" answers are equal, the four filters are
equal as multisets -/
theorem c12_perm_invariant_assumable (tested valid : ι → Bool) {l₁ l₂ : List ι} (h : l₁.Perm l₂) :
    numberValid valid l₁ = numberValid valid l₂ ∧ percentValid valid l₁ = percentValid valid l₂ ∧
    allTested tested l₁ = allTested tested l₂ ∧ allValid valid l₁ = allValid valid l₂ ∧
    (getAllValid valid l₁).Perm (getAllValid valid l₂) ∧ (getAllInvalid valid l₁).Perm (getAllInvalid valid l₂) ∧
    (getAllTested tested l₁).Perm (getAllTested tested l₂) ∧
    (getAllUntested tested l₁).Perm (getAllUntested tested l₂) := by
  have hn : numberValid valid l₁ = numberValid valid l₂ := (h.filter _).length_eq
  refine ⟨hn, by simp only [percentValid, hn, h.length_eq],
    loop_perm tested (allTested tested) rfl (fun _ _ => rfl) h,
    loop_perm valid (allValid valid) rfl (fun _ _ => rfl) h,
    h.filter _, h.filter _, h.filter _, h.filter _⟩

theorem c12_perm_invariant_inferable (cmp : κ → κ → Ordering) (approx : κ → κ → Bool)
    {l₁ l₂ : List (Inference κ)} (h : l₁.Perm l₂) :
    numberInferable cmp approx l₁ = numberInferable cmp approx l₂ ∧
    numberInverseInferable cmp approx l₁ = numberInverseInferable cmp approx l₂ ∧
    numberNonInferable cmp approx l₁ = numberNonInferable cmp approx l₂ ∧
    percentInferable cmp approx l₁ = percentInferable cmp approx l₂ ∧
    percentInverseInferable cmp approx l₁ = percentInverseInferable cmp approx l₂ ∧
    percentNonInferable cmp approx l₁ = percentNonInferable cmp approx l₂ ∧
    conjointDelta cmp approx l₁ = conjointDelta cmp approx l₂ ∧
    allInferable cmp approx l₁ = allInferable cmp approx l₂ ∧
    allInverseInferable cmp approx l₁ = allInverseInferable cmp approx l₂ ∧
    allNonInferable cmp approx l₁ = allNonInferable cmp approx l₂ ∧
    (getAllInferable cmp approx l₁).Perm (getAllInferable cmp approx l₂) ∧
    (getAllInverseInferable cmp approx l₁).Perm (getAllInverseInferable cmp approx l₂) ∧
    (getAllNonInferable cmp approx l₁).Perm (getAllNonInferable cmp approx l₂) := by
  have h1 : numberInferable cmp approx l₁ = numberInferable cmp approx l₂ := (h.filter _).length_eq
  have h2 : numberInverseInferable cmp approx l₁ = numberInverseInferable cmp approx l₂ := (h.filter _).length_eq
  have h3 : numberNonInferable cmp approx l₁ = numberNonInferable cmp approx l₂ := (h.filter _).length_eq
  refine ⟨h1, h2, h3, by simp only [percentInferable, h1, h.length_eq],
    by simp only [percentInverseInferable, h2, h.length_eq], by simp only [percentNonInferable, h3, h.length_eq],
    by simp only [conjointDelta, h3, h.length_eq],
    loop_perm _ (allInferable cmp approx) rfl (fun _ _ => rfl) h,
    loop_perm _ (allInverseInferable cmp approx) rfl (fun _ _ => rfl) h, ?_, h.filter _, h.filter _, h.filter _⟩
  rw [(C18.c18_non_inferable_family cmp approx l₁).2.2.1, (C18.c18_non_inferable_family cmp approx l₂).2.2.1]

theorem c12_perm_invariant_observable (ge eq : κ → κ → Bool) {l₁ l₂ : List (Observation κ)} (h : l₁.Perm l₂)
    (thr e : κ) :
    numberObservation ge eq l₁ thr e = numberObservation ge eq l₂ thr e ∧
    numberNonObservation ge eq l₁ thr e = numberNonObservation ge eq l₂ thr e ∧
    percentObservation ge eq l₁ thr e = percentObservation ge eq l₂ thr e ∧
    percentNonObservation ge eq l₁ thr e = percentNonObservation ge eq l₂ thr e := by
  have h1 : numberObservation ge eq l₁ thr e = numberObservation ge eq l₂ thr e := (h.filter _).length_eq
  exact ⟨h1, by simp only [numberNonObservation, h1, h.length_eq],
    by simp only [percentObservation, h1, h.length_eq],
    by simp only [percentNonObservation, percentObservation, h1, h.length_eq]⟩

/-- **causaloids: permutation invariance** of the order-insensitive answers -/
theorem c12_perm_invariant_causable (cells : Cells) {l₁ l₂ : List Cause} (h : l₁.Perm l₂) :
    numberActive cells l₁ = numberActive cells l₂ ∧
    percentActive cells l₁ l₁.length = percentActive cells l₂ l₂.length ∧
    allCausesTrue cells l₁ = allCausesTrue cells l₂ ∧
    (getAllActive cells l₁).Perm (getAllActive cells l₂) ∧
    (getAllInactive cells l₁).Perm (getAllInactive cells l₂) := by
  have h1 : numberActive cells l₁ = numberActive cells l₂ := (h.filter _).length_eq
  exact ⟨h1, by simp only [percentActive, h1, h.length_eq],
    loop_perm (isActive cells) (allCausesTrue cells) rfl (fun _ _ => rfl) h, h.filter _, h.filter _⟩

/-- writes to activation cells, oldest first -/
abbrev Writes := List (Nat × Bool)

def applyWrites (ws : Writes) (c : Cells) : Cells := ws.foldl (fun c w => c.set w.1 w.2) c

def traceStep (eval : Nat → δ → Option Bool) (s : Single) (d : Option δ) (rest : Res × Writes) : Res × Writes :=
  match d with
  | none => (.panic, [])
  | some d =>
    match eval s.kind d with
    | none => (.err, [])
    | some true => (rest.1, (s.id, true) :: rest.2)
    | some false => (.ok false, [(s.id, false)])

/-- the pure content of the loop over singletons: verdict and cell writes, no cells read -/
def traceSingles (eval : Nat → δ → Option Bool) : List Single → Nat → List δ → Res × Writes
  | [], _, _ => (.ok true, [])
  | s :: r, i, data => traceStep eval s data[i]? (traceSingles eval r (i + 1) data)

def traceInner (eval : Nat → δ → Option Bool) (inner : List Single) (data : List δ) : Res × Writes :=
  if inner.isEmpty then (.err, []) else traceSingles eval inner 0 data

def traceCauses (eval : Nat → δ → Option Bool) : List Cause → Nat → List δ → Res × Writes
  | [], _, _ => (.ok true, [])
  | .single s :: r, i, data => traceStep eval s data[i]? (traceCauses eval r (i + 1) data)
  | .coll _ inner :: r, i, data =>
    let ti := traceInner eval inner data
    if ti.1 = .ok true then
      let t := traceCauses eval r (i + 1) data
      (t.1, ti.2 ++ t.2)
    else ti

theorem applyWrites_append (a b : Writes) (c : Cells) : applyWrites (a ++ b) c = applyWrites b (applyWrites a c) := by
  simp [applyWrites, List.foldl_append]

theorem step_eq_trace (eval : Nat → δ → Option Bool) (s : Single) (d : Option δ) (K : Cells → Res × Cells)
    (t : Res × Writes) (hK : ∀ c, K c = (t.1, applyWrites t.2 c)) (c : Cells) :
    (match d with
      | none => (.panic, c)
      | some d =>
        match verifySingle eval s d c with
        | (.ok true, c') => K c'
        | (x, c') => (x, c')) = ((traceStep eval s d t).1, applyWrites (traceStep eval s d t).2 c) := by
  cases d with
  | none => rfl
  | some d =>
    simp only [verifySingle, traceStep]
    cases eval s.kind d with
    | none => rfl
    | some b =>
      cases b with
      | true => simp only [hK]; rfl
      | false => rfl

theorem loopSingles_eq_trace (eval : Nat → δ → Option Bool) (l : List Single) (i : Nat) (data : List δ) (c : Cells) :
    loopSingles eval l i data c = ((traceSingles eval l i data).1, applyWrites (traceSingles eval l i data).2 c) := by
  induction l generalizing i c with
  | nil => rfl
  | cons s r ih => exact step_eq_trace eval s _ _ _ (ih (i + 1)) c

theorem reasonSingles_eq_trace (eval : Nat → δ → Option Bool) (l : List Single) (data : List δ) (c : Cells) :
    reasonSingles eval l data c = ((traceInner eval l data).1, applyWrites (traceInner eval l data).2 c) := by
  simp only [reasonSingles, traceInner]
  split
  · rfl
  · exact loopSingles_eq_trace eval l 0 data c

theorem loopCauses_eq_trace (eval : Nat → δ → Option Bool) (l : List Cause) (i : Nat) (data : List δ) (c : Cells) :
    loopCauses eval l i data c = ((traceCauses eval l i data).1, applyWrites (traceCauses eval l i data).2 c) := by
  induction l generalizing i c with
  | nil => rfl
  | cons x r ih =>
    cases x with
    | single s => exact step_eq_trace eval s _ _ _ (ih (i + 1)) c
    | coll id inner =>
      simp only [loopCauses, traceCauses, reasonSingles_eq_trace]
      cases hv : (traceInner eval inner data).1 with
      | ok b =>
        cases b with
        | true => simp [ih, applyWrites_append]
        | false => simp [hv]
      | err => simp [hv]
      | panic => simp [hv]

/-- `reason_all_causes` = a pure verdict plus a sequence of cell writes that do not depend on the cells -/
theorem reasonAll_eq_trace (eval : Nat → δ → Option Bool) (l : List Cause) (data : List δ) (c : Cells) :
    reasonAll eval l data c =
      if l.isEmpty then (.err, c)
      else ((traceCauses eval l 0 data).1, applyWrites (traceCauses eval l 0 data).2 c) := by
  simp only [reasonAll]; split
  · rfl
  · exact loopCauses_eq_trace eval l 0 data c

theorem applyWrites_apply (ws : Writes) (c : Cells) (j : Nat) :
    applyWrites ws c j = match ws.reverse.find? (fun w => w.1 == j) with
      | some w => w.2
      | none => c j := by
  induction ws generalizing c with
  | nil => rfl
  | cons w r ih =>
    simp only [applyWrites, List.foldl_cons] at ih ⊢
    rw [ih]
    simp only [List.reverse_cons, List.find?_append]
    cases h : List.find? (fun w => w.1 == j) r.reverse with
    | some x => simp
    | none =>
      simp only [Option.none_or, List.find?_cons, List.find?_nil]
      by_cases hj : w.1 = j
      · simp [hj, Cells.set]
      · have : ¬ j = w.1 := fun e => hj e.symm
        have hb : (w.1 == j) = false := by simp [hj]
        simp [hb, Cells.set, this]

theorem applyWrites_idem (ws : Writes) (c : Cells) : applyWrites ws (applyWrites ws c) = applyWrites ws c := by
  funext j
  rw [applyWrites_apply ws (applyWrites ws c), applyWrites_apply ws c]
  cases List.find? (fun w => w.1 == j) ws.reverse <;> rfl

/-- **the verdict does not depend on the activation state**: whatever the cells hold — untouched (a rebuilt
model), left over from earlier calls, or shared with a clone that was evaluated in between — `reason_all_causes`
returns the same verdict -/
theorem c12_verdict_independent_of_cells (eval : Nat → δ → Option Bool) (l : List Cause) (data : List δ)
    (c₁ c₂ : Cells) : (reasonAll eval l data c₁).1 = (reasonAll eval l data c₂).1 := by
  simp only [reasonAll_eq_trace]; split <;> rfl

/-- **repeating a call changes nothing**: the second call returns the same verdict and leaves every activation
cell as the first call left it — for any number of repetitions -/
theorem c12_reason_idempotent (eval : Nat → δ → Option Bool) (l : List Cause) (data : List δ) (c : Cells) (n : Nat) :
    let once := reasonAll eval l data c
    reasonAll eval l data once.2 = once ∧
    Nat.repeat (fun r : Res × Cells => reasonAll eval l data r.2) (n + 1) (.err, c) = once := by
  intro once
  have h1 : reasonAll eval l data once.2 = once := by
    simp only [once, reasonAll_eq_trace]
    split
    · rfl
    · simp only [applyWrites_idem]
  refine ⟨h1, ?_⟩
  induction n with
  | zero => rfl
  | succ n ih =>
    rw [Nat.repeat]
    rw [ih]
    exact h1

/-- forget which cells a member uses: only the kinds of the causal functions and the nesting remain -/
def shape : Cause → Cause
  | .single s => .single ⟨0, s.kind⟩
  | .coll _ inner => .coll 0 (inner.map (fun s => ⟨0, s.kind⟩))

theorem traceStep_shape (eval : Nat → δ → Option Bool) (s : Single) (d : Option δ) {t t' : Res × Writes}
    (h : t'.1 = t.1) : (traceStep eval ⟨0, s.kind⟩ d t').1 = (traceStep eval s d t).1 := by
  cases d with
  | none => rfl
  | some d =>
    simp only [traceStep]
    cases eval s.kind d with
    | none => rfl
    | some b => cases b <;> simp [h]

theorem traceSingles_shape (eval : Nat → δ → Option Bool) (l : List Single) (i : Nat) (data : List δ) :
    (traceSingles eval (l.map (fun s => (⟨0, s.kind⟩ : Single))) i data).1 = (traceSingles eval l i data).1 := by
  induction l generalizing i with
  | nil => rfl
  | cons s r ih => exact traceStep_shape eval s _ (ih (i + 1))

theorem traceCauses_shape (eval : Nat → δ → Option Bool) (l : List Cause) (i : Nat) (data : List δ) :
    (traceCauses eval (l.map shape) i data).1 = (traceCauses eval l i data).1 := by
  induction l generalizing i with
  | nil => rfl
  | cons x r ih =>
    cases x with
    | single s => exact traceStep_shape eval s _ (ih (i + 1))
    | coll id inner =>
      have hin : (traceInner eval (inner.map (fun s => (⟨0, s.kind⟩ : Single))) data).1 = (traceInner eval inner data).1 := by
        simp only [traceInner, List.isEmpty_map]
        split
        · rfl
        · exact traceSingles_shape eval inner 0 data
      simp only [List.map_cons, shape, traceCauses, hin]
      split
      · simp [ih]
      · exact hin

/-- **a clone and a rebuilt twin give the same verdict** (collections of causaloids). Two collections whose members
have the same causal functions and the same nesting — a clone (same members, activation cells shared with the
original) or a model rebuilt from the same description (fresh cells) — return the same verdict on the same data,
whatever their activation cells hold.

`_partial`: this is `CausableReasoning` over a collection (`Model.Collections`); a `CausaloidGraph` and nested
causaloids are `Props/C12Graph.lean` (`c12_graph_twin_same_verdict`, `c12_graph_twin_same_activation`). -/
theorem c12_clone_same_verdict_partial (eval : Nat → δ → Option Bool) (l₁ l₂ : List Cause) (data : List δ)
    (c₁ c₂ : Cells) (h : l₁.map shape = l₂.map shape) :
    (reasonAll eval l₁ data c₁).1 = (reasonAll eval l₂ data c₂).1 := by
  have he : l₁.isEmpty = l₂.isEmpty := by
    have := congrArg List.isEmpty h
    simpa using this
  simp only [reasonAll_eq_trace, he]
  split
  · rfl
  · show (traceCauses eval l₁ 0 data).1 = (traceCauses eval l₂ 0 data).1
    rw [← traceCauses_shape eval l₁, ← traceCauses_shape eval l₂, h]

section Examples

example : items (.slice [7, 8, 9]) = [7, 8, 9] ∧ items (.btree [(1, 7), (5, 8), (6, 9)]) = [7, 8, 9] ∧
    items (.btree [(5, 8), (6, 9), (1, 7)]) = [7, 8, 9] ∧
    items (.hash [(10, 7), (20, 8), (30, 9)] [30, 10, 20]) = [9, 7, 8] ∧
    len (.hash [(10, 7), (20, 8), (30, 9)] [30, 10, 20]) = 3 := by decide +kernel
example : WellFormed (.hash [(10, 7), (20, 8), (30, 9)] [30, 10, 20]) := by
  show [30, 10, 20].Perm [10, 20, 30]; decide

/-- causal functions by kind: verdict from the residue of the data value (0: `1`↦true `0`↦false `2`↦error; 1: inverted) -/
def exEval (kind : Nat) (d : Nat) : Option Bool :=
  if d % 3 = 2 then none else some ((d % 3 = 1) != (kind = 1))

def exItems : List Cause := [.single ⟨0, 0⟩, .coll 1 [⟨10, 0⟩, ⟨11, 1⟩], .single ⟨2, 1⟩]

example : (reasonAll exEval exItems [1, 0, 3] (fun _ => false)).1 = .ok true ∧
    (reasonAll exEval exItems [1, 1, 3] (fun _ => false)).1 = .ok false ∧
    (reasonAll exEval exItems [1, 2, 3] (fun _ => false)).1 = .err ∧
    (reasonAll exEval exItems [1, 0] (fun _ => false)).1 = .panic ∧
    (reasonAll exEval [] [1] (fun _ => false)).1 = .err := by decide +kernel
example : let c := (reasonAll exEval exItems [1, 0, 3] (fun _ => false)).2
    [c 0, c 10, c 11, c 2, c 5] = [true, true, true, true, false] ∧
    numberActive c exItems = 3 ∧ explainIds c exItems = some [0, 10, 11, 2] := by decide +kernel
example : exItems.map shape = ([.single ⟨5, 0⟩, .coll 9 [⟨6, 0⟩, ⟨7, 1⟩], .single ⟨8, 1⟩] : List Cause).map shape := by
  decide +kernel

end Examples

end C12
