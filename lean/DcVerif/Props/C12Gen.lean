import DcVerif.Gen.Containers
import DcVerif.Props.C12
import DcVerif.Props.C18Gen
import DcVerif.Props.C11Gen
/-!
# C12 on the definitions generated from the source

`Gen/Containers.lean` is regenerated on every run by `tools/rs2lean_containers.py` from the token strings of
`deep_causality_macros/src/collections.rs`, the `#[proc_macro]` table of `lib.rs` and the impl blocks of
`deep_causality/src/extensions/{causable,assumable,inferable,observable}/mod.rs`.

- Every generated adapter (4 traits × 5 containers × `len` / `is_empty` / `get_all_items`, and `to_vec`) equals the
function of `Model/Collections.lean` the theorems of `Props/C12.lean` are about.
- The record of required methods a container hands to the default methods (`Coll`) satisfies `len = |get_all_items|`
and `is_empty = (get_all_items = [])` — the hypothesis `hlen` of `Props/C18Gen.lean` / `Props/C11Gen.lean`, discharged
for every container of the repository; `Coll.ofVec` of `Gen/Causable.lean` is the generated `Vec` adapter.
- The property on the generated definitions: two containers of any kinds that hand over the same list give the same
answer to *every* function of `Coll` (all default methods generated from the four traits are such functions); a container
whose list is a permutation (hash map, B-tree with unsorted insertion) gives the same counts, percentages, "all" answers and
the same filters as multisets.
-/
namespace C12Gen
open Model.Collections Model.ContainerPrim Gen.Containers

variable {α ι κ δ : Type}

/-- a `for` loop that pushes every item copies the list -/
theorem foldl_push (l acc : List α) : List.foldl (fun a x => a ++ [x]) acc l = acc ++ l := by
  induction l generalizing acc with
  | nil => simp
  | cons x r ih => simp [ih]

/-- the four dispatch tables, as a list so that statements can range over "every trait" -/
def impls : List (Kind → Impl α) :=
  [CausableReasoning.impl, AssumableReasoning.impl, InferableReasoning.impl, ObservableReasoning.impl]

theorem mem_impls {I : Kind → Impl α} (hI : I ∈ impls) :
    I = CausableReasoning.impl ∨ I = AssumableReasoning.impl ∨ I = InferableReasoning.impl ∨ I = ObservableReasoning.impl := by
  simpa [impls] using hI

/-- which macro hands over the items in each impl block of each trait: `make_get_all_items` for a sequence,
`make_get_all_map_items` for a map -/
theorem impl_items (I : Kind → Impl α) (hI : I ∈ impls) (k : Kind) :
    (I k).get_all_items = match k with | .btree | .hash => make_get_all_map_items | _ => make_get_all_items := by
  rcases mem_impls hI with rfl | rfl | rfl | rfl <;> cases k <;> rfl

/-- the required methods of the trait with dispatch table `I` (any of `impls`) as the impl for `c`'s type answers them on `c`
(`Coll` of `Gen/Collections.lean`) -/
def collOf (I : Kind → Impl α) (c : Container α) : Gen.Collections.Coll α :=
  { len := (I (kindOf c)).len c, is_empty := (I (kindOf c)).is_empty c, get_all_items := (I (kindOf c)).get_all_items c }

/-- The macro's `fn`, whether it collects an iterator or pushes in a loop, hands over what std's container answers. The rest is
evaluation on a container of each kind: the dispatch, `len` and `is_empty` however the impl block provides them, and that
std's answers are the model's. -/
theorem collOf_eq (I : Kind → Impl α) (hI : I ∈ impls) (c : Container α) :
    collOf I c = { len := len c, is_empty := isEmpty c, get_all_items := items c } := by
  unfold collOf
  rw [impl_items I hI]
  rcases mem_impls hI with rfl | rfl | rfl | rfl <;> cases c <;>
    simp only [kindOf, make_get_all_items, make_get_all_map_items, foldl_push, List.nil_append] <;> rfl

/-- **`get_all_items`** of every trait's impl for every container = the list the model says the container hands over -/
theorem get_all_items_eq (I : Kind → Impl α) (hI : I ∈ impls) (c : Container α) :
    (I (kindOf c)).get_all_items c = items c :=
  congrArg (·.get_all_items) (collOf_eq I hI c)

/-- **`len`** of every impl = the container's own length -/
theorem len_eq (I : Kind → Impl α) (hI : I ∈ impls) (c : Container α) :
    (I (kindOf c)).len c = len c :=
  congrArg (·.len) (collOf_eq I hI c)

/-- **`is_empty`** of every impl = the container's own emptiness -/
theorem is_empty_eq (I : Kind → Impl α) (hI : I ∈ impls) (c : Container α) :
    (I (kindOf c)).is_empty c = isEmpty c :=
  congrArg (·.is_empty) (collOf_eq I hI c)

/-- **`to_vec`** (`CausableReasoning` only: macro for four containers, hand-written for `VecDeque`) returns the items in the
order `get_all_items` does -/
theorem to_vec_eq (c : Container α) : CausableReasoning.to_vec (kindOf c) c = items c := by
  cases c <;>
    simp only [CausableReasoning.to_vec, kindOf, make_array_to_vec, make_vec_to_vec, CausableReasoning.deque_to_vec,
      make_map_to_vec, foldl_push, List.nil_append] <;> rfl

/-- the same for `CausableReasoning` (`Coll` of `Gen/Causable.lean`) -/
def causableCollOf (c : Container α) : Gen.Causable.Coll α :=
  { len := (CausableReasoning.impl (kindOf c)).len c, is_empty := (CausableReasoning.impl (kindOf c)).is_empty c,
    get_all_items := (CausableReasoning.impl (kindOf c)).get_all_items c }

theorem causableCollOf_eq (c : Container α) :
    causableCollOf c = { len := len c, is_empty := isEmpty c, get_all_items := items c } := by
  have h : CausableReasoning.impl ∈ (impls : List (Kind → Impl α)) := by simp [impls]
  simp only [causableCollOf, len_eq _ h, is_empty_eq _ h, get_all_items_eq _ h]

/-- **`hlen` discharged**: for every trait and every container of the repository (hash map: every enumeration order that is
a permutation of the keys) `len()` is the number of items `get_all_items()` returns and `is_empty()` says whether there are any -/
theorem c12gen_len_is_number_of_items (I : Kind → Impl α) (hI : I ∈ impls) (c : Container α) (wf : WellFormed c) :
    (collOf I c).len = (collOf I c).get_all_items.length ∧ (collOf I c).is_empty = (collOf I c).get_all_items.isEmpty := by
  rw [collOf_eq I hI]
  exact C12.c12_len_is_number_of_items c wf

theorem c12gen_causable_len_is_number_of_items (c : Container α) (wf : WellFormed c) :
    (causableCollOf c).len = (causableCollOf c).get_all_items.length ∧
    (causableCollOf c).is_empty = (causableCollOf c).get_all_items.isEmpty := by
  rw [causableCollOf_eq]
  exact C12.c12_len_is_number_of_items c wf

/-- the adapter `Gen/Causable.lean` assumes for the `Vec` inside a collection causaloid **is** the generated one -/
theorem ofVec_is_generated (v : List α) : Gen.Causable.Coll.ofVec v = causableCollOf (.vec v) := by
  rw [causableCollOf_eq]
  cases v <;> rfl

theorem len_isEmpty_congr {c₁ c₂ : Container α} (w₁ : WellFormed c₁) (w₂ : WellFormed c₂) (h : items c₁ = items c₂) :
    len c₁ = len c₂ ∧ isEmpty c₁ = isEmpty c₂ := by
  have l₁ := C12.c12_len_is_number_of_items c₁ w₁
  have l₂ := C12.c12_len_is_number_of_items c₂ w₂
  rw [l₁.1, l₁.2, l₂.1, l₂.2, h]
  exact ⟨rfl, rfl⟩

/-- **container independence, order-sensitive part**: two containers — of any two of the five types, under any two of the
four traits' adapters — that hold the same items in the same iteration order give the same answer to every function of the
required methods, in particular to every default method generated from `AssumableReasoning`, `InferableReasoning`,
`ObservableReasoning` (`Gen/Collections.lean`: all take a `Coll`) -/
theorem c12gen_same_items_same_answers {β : Type} (I₁ I₂ : Kind → Impl α) (h₁ : I₁ ∈ impls) (h₂ : I₂ ∈ impls)
    (c₁ c₂ : Container α) (w₁ : WellFormed c₁) (w₂ : WellFormed c₂) (h : items c₁ = items c₂)
    (f : Gen.Collections.Coll α → β) : f (collOf I₁ c₁) = f (collOf I₂ c₂) := by
  obtain ⟨hl, he⟩ := len_isEmpty_congr w₁ w₂ h
  rw [collOf_eq I₁ h₁, collOf_eq I₂ h₂, hl, he, h]

/-- the same for `CausableReasoning` (every definition of `Gen/Causable.lean` that takes the collection) -/
theorem c12gen_causable_same_items_same_answers {β : Type} (c₁ c₂ : Container α) (w₁ : WellFormed c₁) (w₂ : WellFormed c₂)
    (h : items c₁ = items c₂) (f : Gen.Causable.Coll α → β) : f (causableCollOf c₁) = f (causableCollOf c₂) := by
  obtain ⟨hl, he⟩ := len_isEmpty_congr w₁ w₂ h
  rw [causableCollOf_eq, causableCollOf_eq, hl, he, h]

/-- which list each generated adapter hands over: slice, `Vec`, `VecDeque` their sequence; a B-tree filled with strictly
increasing keys the values in insertion order; for pairwise distinct keys a B-tree and a hash map a permutation of it -/
theorem c12gen_items_of_containers (I : Kind → Impl α) (hI : I ∈ impls) (l : List α) (kvs : List (Nat × α)) (order : List Nat) :
    (collOf I (.slice l)).get_all_items = l ∧ (collOf I (.vec l)).get_all_items = l ∧ (collOf I (.deque l)).get_all_items = l ∧
    ((C12.keysOf kvs).Pairwise (· < ·) → (collOf I (.btree kvs)).get_all_items = kvs.map (·.2)) ∧
    ((C12.keysOf kvs).Nodup → ((collOf I (.btree kvs)).get_all_items).Perm (kvs.map (·.2))) ∧
    ((C12.keysOf kvs).Nodup → WellFormed (.hash kvs order) → ((collOf I (.hash kvs order)).get_all_items).Perm (kvs.map (·.2))) := by
  have h := C12.c12_items_of_containers l kvs order
  simp only [collOf, get_all_items_eq I hI]
  exact ⟨h.1, h.2.1, h.2.2.1, h.2.2.2.1, h.2.2.2.2.2.1, h.2.2.2.2.2.2⟩

section Perm
open Gen.Collections Model.Reasoning

/-- **assumptions, order-insensitive part** on the generated definitions: two containers (any kinds) whose item lists are
permutations of each other — a hash map against the `Vec` it was filled from — agree on count, percentage and the two "all"
answers, and their four filters are permutations of each other -/
theorem c12gen_perm_assumable (T : AssumableDict ι δ) (c₁ c₂ : Container ι) (w₁ : WellFormed c₁) (w₂ : WellFormed c₂)
    (h : (items c₁).Perm (items c₂)) :
    let I := (AssumableReasoning.impl : Kind → Impl ι)
    AssumableReasoning.number_assumption_valid T (collOf I c₁) = AssumableReasoning.number_assumption_valid T (collOf I c₂) ∧
    AssumableReasoning.percent_assumption_valid T (collOf I c₁) = AssumableReasoning.percent_assumption_valid T (collOf I c₂) ∧
    AssumableReasoning.all_assumptions_tested T (collOf I c₁) = AssumableReasoning.all_assumptions_tested T (collOf I c₂) ∧
    AssumableReasoning.all_assumptions_valid T (collOf I c₁) = AssumableReasoning.all_assumptions_valid T (collOf I c₂) ∧
    (AssumableReasoning.get_all_valid_assumptions T (collOf I c₁)).Perm (AssumableReasoning.get_all_valid_assumptions T (collOf I c₂)) ∧
    (AssumableReasoning.get_all_invalid_assumptions T (collOf I c₁)).Perm (AssumableReasoning.get_all_invalid_assumptions T (collOf I c₂)) ∧
    (AssumableReasoning.get_all_tested_assumptions T (collOf I c₁)).Perm (AssumableReasoning.get_all_tested_assumptions T (collOf I c₂)) ∧
    (AssumableReasoning.get_all_untested_assumptions T (collOf I c₁)).Perm (AssumableReasoning.get_all_untested_assumptions T (collOf I c₂)) := by
  intro I
  have hI : I ∈ impls := by simp [I, impls]
  have l₁ := (c12gen_len_is_number_of_items I hI c₁ w₁).1
  have l₂ := (c12gen_len_is_number_of_items I hI c₂ w₂).1
  have g₁ : (collOf I c₁).get_all_items = items c₁ := get_all_items_eq I hI c₁
  have g₂ : (collOf I c₂).get_all_items = items c₂ := get_all_items_eq I hI c₂
  have p := C12.c12_perm_invariant_assumable T.assumption_tested T.assumption_valid h
  simp only [C18Gen.number_assumption_valid_eq, C18Gen.percent_assumption_valid_eq _ _ l₁, C18Gen.percent_assumption_valid_eq _ _ l₂,
    C18Gen.all_assumptions_tested_eq, C18Gen.all_assumptions_valid_eq, C18Gen.get_all_valid_assumptions_eq,
    C18Gen.get_all_invalid_assumptions_eq, C18Gen.get_all_tested_assumptions_eq, C18Gen.get_all_untested_assumptions_eq, g₁, g₂]
  exact ⟨by rw [p.1], p.2.1, p.2.2.1, p.2.2.2.1, p.2.2.2.2.1, p.2.2.2.2.2.1, p.2.2.2.2.2.2.1, p.2.2.2.2.2.2.2⟩

end Perm

section PermCausable
open Gen.Causable C11Gen

/-- **causaloids, order-insensitive part** on the generated definitions (`number_active`, `percent_active`,
`get_all_causes_true`, the two filters as multisets) for any member type and dictionary -/
theorem c12gen_perm_causable (M : CausableDict ι δ) (s : Cells) (c₁ c₂ : Container ι) (w₁ : WellFormed c₁) (w₂ : WellFormed c₂)
    (h : (items c₁).Perm (items c₂)) :
    CausableReasoning.number_active M s (causableCollOf c₁) = CausableReasoning.number_active M s (causableCollOf c₂) ∧
    CausableReasoning.percent_active M s (causableCollOf c₁) = CausableReasoning.percent_active M s (causableCollOf c₂) ∧
    CausableReasoning.get_all_causes_true M s (causableCollOf c₁) = CausableReasoning.get_all_causes_true M s (causableCollOf c₂) ∧
    (CausableReasoning.get_all_active_causes M s (causableCollOf c₁)).Perm (CausableReasoning.get_all_active_causes M s (causableCollOf c₂)) ∧
    (CausableReasoning.get_all_inactive_causes M s (causableCollOf c₁)).Perm
      (CausableReasoning.get_all_inactive_causes M s (causableCollOf c₂)) := by
  have l₁ := (C12.c12_len_is_number_of_items c₁ w₁).1
  have l₂ := (C12.c12_len_is_number_of_items c₂ w₂).1
  have hn : CausableReasoning.number_active M s (causableCollOf c₁) = CausableReasoning.number_active M s (causableCollOf c₂) := by
    simp only [number_active_canon, causableCollOf_eq, (h.filter _).length_eq]
  refine ⟨hn, ?_, ?_, ?_, ?_⟩
  · simp only [percent_active_canon, hn]
    simp only [causableCollOf_eq, l₁, l₂, h.length_eq]
  · simp only [get_all_causes_true_canon, causableCollOf_eq]
    rw [Bool.eq_iff_iff]; simp only [List.all_eq_true]
    exact ⟨fun H x hx => H x (h.mem_iff.2 hx), fun H x hx => H x (h.mem_iff.1 hx)⟩
  · simp only [get_all_active_causes_canon, causableCollOf_eq]; exact h.filter _
  · simp only [get_all_inactive_causes_canon, causableCollOf_eq]; exact h.filter _

end PermCausable

example : (collOf AssumableReasoning.impl (.btree [(3, 30), (1, 10), (2, 20)])).get_all_items = [10, 20, 30] := by decide
example : (collOf ObservableReasoning.impl (.hash [(3, 30), (1, 10), (2, 20)] [2, 3, 1])).get_all_items = [20, 30, 10] := by decide
example : (causableCollOf (.deque [7, 8, 9])).len = 3 ∧ CausableReasoning.to_vec .deque (.deque [7, 8, 9]) = [7, 8, 9] := by decide
example : WellFormed (.hash [(3, 30), (1, 10), (2, 20)] [2, 3, 1]) := by
  show List.Perm [2, 3, 1] [3, 1, 2]
  decide

end C12Gen
