import DcVerif.Gen.Causable
import DcVerif.Props.C11
/-!
# C11 (and the singleton / collection level of C02), tie to the source: the hand model satisfies what the translator read

`Gen/Causable.lean` is regenerated on every run from the current Rust source of `impl Causable for Causaloid`, its six
constructors, the default methods of `CausableReasoning` and the aggregates of `impl CausableGraph for CausaloidGraph`
(`tools/rs2lean_causable.py`: symbolic execution, one definition per Rust function). The generated definitions are **one level
deep**: a call on a member of a collection / a node of a graph goes through the dictionary `M : CausableDict ι δ`, a call on the
wrapped graph through `G : GraphOps γ ι δ`. Here both are instantiated with the functions of `Model/Causaloid.lean` (`modelDict`,
`modelGraph`), and every theorem `…_eq` says: *the generated function, applied to the record a generated constructor builds for a
model causaloid (`Rep`), answers what the model function answers — verdict and cell writes — for all inputs*. That is exactly the
statement that the model's mutually recursive definitions satisfy the generated equations; by structural induction over the
(finite) nesting tree the model therefore is the function the source defines, and every theorem of `Props/C11.lean` is a statement
about what the translator read. `CausableGraphReasoning::reason_all_causes` stays abstract here (`GraphOps.reason_all_causes`,
instantiated with the model's `reasonAllGraph`): graph reasoning is tied by its own generator.

The model logs every *evaluation* (`(cell, V.e)` for one that erred), the code can only log *writes*: `writes` drops the `V.e`
events, `applyLog_writes` shows that this does not change any activation.

The proofs unfold the generated definitions and let `simp` / `split` / `grind` case-split on whatever the generated decision tree
splits on (`split_all`), go through `Bool.eq_iff_iff` for the all/any spellings, `foldl_count` for counter loops and induction over
the list a loop walks; they depend on the names and parameter lists of the generated definitions, not on their text.
-/
set_option linter.unusedSimpArgs false   -- the simp sets cover spellings the current source does not use
namespace C11Gen
open Causal Dfs Spec.Nest Gen.Causable

/-- the cell writes an evaluation log stands for: an evaluation that erred wrote nothing -/
def writes (log : List Event) : List Event := log.filter (fun e => e.2 != V.e)

theorem writes_append (a b : List Event) : writes (a ++ b) = writes a ++ writes b := by
  simp [writes]

theorem writes_nil : writes [] = [] := rfl

theorem applyLog_append (s : Cells) (a b : List Event) : applyLog s (a ++ b) = applyLog (applyLog s a) b := by
  simp [applyLog, List.foldl_append]

theorem applyLog_writes (log : List Event) : ∀ s : Cells, applyLog s (writes log) = applyLog s log := by
  induction log with
  | nil => intro s; rfl
  | cons e rest ih =>
    intro s
    obtain ⟨c, v⟩ := e
    cases v
    · simpa [writes, applyLog, applyEvent] using ih _
    · simpa [writes, applyLog, applyEvent] using ih _
    · simpa [writes, applyLog, applyEvent] using ih s

structure MGraph where
  nodes : List Causal.Causaloid
  edges : List (Nat × Nat)
  root : Option Nat

/-- the members' side of the one-level definitions: every call on a member is answered by the model -/
def modelDict (mk : Nat → Nat) (fuel : Nat) : CausableDict Causal.Causaloid Nat where
  is_active := isActive
  is_singleton := Causal.Causaloid.isSingleton
  verify_single_cause := fun c o => (verifySingle mk c o, writes (singleLog mk c o))
  verify_all_causes := fun c d ix => (verifyAll mk fuel c d ix, writes (logAll mk fuel c d ix))

def modelGraph (mk : Nat → Nat) (fuel : Nat) : GraphOps MGraph Causal.Causaloid Nat where
  get_all_nodes := fun g => g.nodes
  size := fun g => g.nodes.length
  is_empty := fun g => g.nodes.isEmpty
  reason_all_causes := fun g d ix =>
    (reasonAllGraph mk fuel g.nodes g.edges g.root d ix, writes (logAllGraph mk fuel g.nodes g.edges g.root d ix))

abbrev GC := Gen.Causable.Causaloid Nat Nat Causal.Causaloid MGraph

/-- the record the Rust constructors build for a causaloid of the model -/
inductive Rep (mk : Nat → Nat) : Causal.Causaloid → GC → Prop
  | plain (cell id : Nat) : Rep mk (.single cell id .plain) (Causaloid.new cell id (fun o => decode o)).1
  | inv (cell id : Nat) : Rep mk (.single cell id .inv) (Causaloid.new cell id (fun o => neg (decode o))).1
  | ctx (cell id : Nat) (c : Option Nat) :
      Rep mk (.single cell id (.ctx c)) (Causaloid.new_with_context cell id (fun o k => decode (o + mk k)) c).1
  | coll (cell id : Nat) (items : List Causal.Causaloid) :
      Rep mk (.coll id items) (Causaloid.from_causal_collection cell id items).1
  | collCtx (cell id : Nat) (items : List Causal.Causaloid) (c : Option Nat) :
      Rep mk (.coll id items) (Causaloid.from_causal_collection_with_context cell id items c).1
  | graph (cell id : Nat) (nodes : List Causal.Causaloid) (edges : List (Nat × Nat)) (root : Option Nat) :
      Rep mk (.graph id nodes edges root) (Causaloid.from_causal_graph cell id ⟨nodes, edges, root⟩).1
  | graphCtx (cell id : Nat) (nodes : List Causal.Causaloid) (edges : List (Nat × Nat)) (root : Option Nat) (c : Option Nat) :
      Rep mk (.graph id nodes edges root) (Causaloid.from_causal_graph_with_context cell id ⟨nodes, edges, root⟩ c).1

@[simp] theorem md_is_active (mk : Nat → Nat) (fuel : Nat) (s : Cells) (c : Causal.Causaloid) :
    (modelDict mk fuel).is_active s c = isActive s c := id rfl
@[simp] theorem md_is_singleton (mk : Nat → Nat) (fuel : Nat) (c : Causal.Causaloid) :
    (modelDict mk fuel).is_singleton c = c.isSingleton := id rfl
@[simp] theorem md_verify_single (mk : Nat → Nat) (fuel : Nat) (c : Causal.Causaloid) (o : Nat) :
    (modelDict mk fuel).verify_single_cause c o = (verifySingle mk c o, writes (singleLog mk c o)) := id rfl
@[simp] theorem md_verify_all (mk : Nat → Nat) (fuel : Nat) (c : Causal.Causaloid) (d : List Nat) (ix : Idx) :
    (modelDict mk fuel).verify_all_causes c d ix = (verifyAll mk fuel c d ix, writes (logAll mk fuel c d ix)) := id rfl
@[simp] theorem mg_nodes (mk : Nat → Nat) (fuel : Nat) (g : MGraph) : (modelGraph mk fuel).get_all_nodes g = g.nodes := id rfl
@[simp] theorem mg_size (mk : Nat → Nat) (fuel : Nat) (g : MGraph) : (modelGraph mk fuel).size g = g.nodes.length := id rfl
@[simp] theorem mg_is_empty (mk : Nat → Nat) (fuel : Nat) (g : MGraph) : (modelGraph mk fuel).is_empty g = g.nodes.isEmpty := id rfl
@[simp] theorem mg_reason (mk : Nat → Nat) (fuel : Nat) (g : MGraph) (d : List Nat) (ix : Idx) :
    (modelGraph mk fuel).reason_all_causes g d ix =
      (reasonAllGraph mk fuel g.nodes g.edges g.root d ix, writes (logAllGraph mk fuel g.nodes g.edges g.root d ix)) := id rfl
@[simp] theorem writes_t (c : Nat) : writes [(c, V.t)] = [(c, V.t)] := rfl
@[simp] theorem writes_f (c : Nat) : writes [(c, V.f)] = [(c, V.f)] := rfl
@[simp] theorem writes_e (c : Nat) : writes [(c, V.e)] = [] := rfl
attribute [simp] writes_nil writes_append
@[simp] theorem ofVec_items (v : List Causal.Causaloid) : (Coll.ofVec v).get_all_items = v := rfl
@[simp] theorem ofVec_len (v : List Causal.Causaloid) : (Coll.ofVec v).len = v.length := rfl
@[simp] theorem ofVec_is_empty (v : List Causal.Causaloid) : (Coll.ofVec v).is_empty = v.isEmpty := rfl

/-- closes what is left after unfolding when the generated decision tree splits where the model does not (or the other way
round): case-split every remaining `match` / `if` and simplify with the case hypotheses -/
macro "split_all" : tactic => `(tactic| (repeat' (first | rfl | (split <;> simp_all))))

/-! Canonical forms of the aggregates for every dictionary `M` and every graph storage `G`, whatever spelling the source uses
(`for … return false`, `.all(..)`, `!….any(!..)`, `filter(..).count()`, a counter loop); the model's functions are these at
`modelDict` / `modelGraph`. -/

theorem foldl_count {α : Type} (p : α → Bool) (xs : List α) : ∀ n : Nat,
    xs.foldl (fun acc x => if p x then acc + 1 else acc) n = n + (xs.filter p).length := by
  induction xs with
  | nil => intro n; rfl
  | cons x xs ih => grind

section Canon
variable {ι δ γ : Type} (M : CausableDict ι δ) (G : GraphOps γ ι δ) (s : Cells) (c : Coll ι) (g : γ)

theorem get_all_causes_true_canon :
    CausableReasoning.get_all_causes_true M s c = c.get_all_items.all (M.is_active s) := by
  unfold CausableReasoning.get_all_causes_true
  refine Bool.eq_iff_iff.2 ?_
  simp [List.all_eq_true, List.any_eq_true]

theorem number_active_canon :
    CausableReasoning.number_active M s c = (((c.get_all_items.filter (M.is_active s)).length : Nat) : Rat) := by
  unfold CausableReasoning.number_active
  simp [foldl_count]

theorem get_all_active_causes_canon :
    CausableReasoning.get_all_active_causes M s c = c.get_all_items.filter (M.is_active s) := by
  unfold CausableReasoning.get_all_active_causes
  simp

theorem get_all_inactive_causes_canon :
    CausableReasoning.get_all_inactive_causes M s c = c.get_all_items.filter (fun x => !M.is_active s x) := by
  unfold CausableReasoning.get_all_inactive_causes
  simp

/-- `rfl` up to `let`s; `grind` should the source reassociate the arithmetic -/
theorem percent_active_canon :
    CausableReasoning.percent_active M s c = CausableReasoning.number_active M s c / ((c.len : Nat) : Rat) * (100 : Rat) := by
  unfold CausableReasoning.percent_active
  first | rfl | grind

theorem graph_all_active_canon :
    CausaloidGraph.all_active M G s g = (G.get_all_nodes g).all (M.is_active s) := by
  unfold CausaloidGraph.all_active
  refine Bool.eq_iff_iff.2 ?_
  simp [List.all_eq_true, List.any_eq_true]

theorem graph_number_active_canon :
    CausaloidGraph.number_active M G s g = ((((G.get_all_nodes g).filter (M.is_active s)).length : Nat) : Rat) := by
  unfold CausaloidGraph.number_active
  simp [foldl_count]

theorem graph_percent_active_canon :
    CausaloidGraph.percent_active M G s g = CausaloidGraph.number_active M G s g / ((G.size g : Nat) : Rat) * (100 : Rat) := by
  unfold CausaloidGraph.percent_active CausaloidGraph.size
  first | rfl | grind

end Canon

/-- `number_active() > 0` ⇔ some member is active -/
theorem countActive_pos_decide (s : Cells) (cs : List Causal.Causaloid) :
    decide (0 < countActive s cs) = cs.any (isActive s) := by
  rw [Bool.eq_iff_iff]
  simp [C11.countActive_pos_iff]

theorem number_active_eq (mk : Nat → Nat) (fuel : Nat) (s : Cells) (c : Coll Causal.Causaloid) :
    CausableReasoning.number_active (modelDict mk fuel) s c = (countActive s c.get_all_items : Rat) := by
  rw [number_active_canon, C11.countActive_eq_filter]; rfl

theorem get_all_causes_true_eq (mk : Nat → Nat) (fuel : Nat) (s : Cells) (c : Coll Causal.Causaloid) :
    CausableReasoning.get_all_causes_true (modelDict mk fuel) s c = allActive s c.get_all_items :=
  get_all_causes_true_canon _ s c

theorem get_all_active_causes_eq (mk : Nat → Nat) (fuel : Nat) (s : Cells) (c : Coll Causal.Causaloid) :
    CausableReasoning.get_all_active_causes (modelDict mk fuel) s c = c.get_all_items.filter (isActive s) :=
  get_all_active_causes_canon _ s c

theorem get_all_inactive_causes_eq (mk : Nat → Nat) (fuel : Nat) (s : Cells) (c : Coll Causal.Causaloid) :
    CausableReasoning.get_all_inactive_causes (modelDict mk fuel) s c = c.get_all_items.filter (fun x => !isActive s x) :=
  get_all_inactive_causes_canon _ s c

theorem percent_active_eq (mk : Nat → Nat) (fuel : Nat) (s : Cells) (c : Coll Causal.Causaloid)
    (hlen : c.len = c.get_all_items.length) :
    CausableReasoning.percent_active (modelDict mk fuel) s c = percentActive s c.get_all_items := by
  rw [percent_active_canon, number_active_eq, hlen]; rfl

theorem reason_loop_eq (mk : Nat → Nat) (fuel : Nat) (s : Cells) (c : Coll Causal.Causaloid) (data : List Nat) :
    ∀ (items : List Causal.Causaloid) (lg : List Event) (i : Nat),
      CausableReasoning.reason_all_causes.loop1 (modelDict mk fuel) s c data lg i items
        = (reasonFrom mk fuel items data i, lg ++ writes (logFrom mk fuel items data i)) := by
  intro items
  induction items with
  | nil => intro lg i; simp [CausableReasoning.reason_all_causes.loop1, reasonFrom, logFrom]
  | cons m ms ih =>
    intro lg i
    simp only [CausableReasoning.reason_all_causes.loop1, reasonFrom, logFrom, writes_append, md_is_singleton,
      md_verify_single, md_verify_all]
    cases m with
    | single cell id fn =>
      simp only [Causal.Causaloid.isSingleton, dispatch, dispatchLog, verifySingle, singleLog]
      cases hd : data[i]? with
      | none => simp [*]
      | some o =>
        cases hf : fn.apply mk o with
        | none => simp [*]
        | some v => cases v <;> simp [*]
    | _ =>
      simp only [Causal.Causaloid.isSingleton, dispatch, dispatchLog]
      generalize verifyAll mk fuel _ data none = v
      rcases v with _ | _ | _ | _ <;> simp [*]

theorem reason_all_causes_eq (mk : Nat → Nat) (fuel : Nat) (s : Cells) (c : Coll Causal.Causaloid) (data : List Nat)
    (hemp : c.is_empty = c.get_all_items.isEmpty) :
    CausableReasoning.reason_all_causes (modelDict mk fuel) s c data =
      (reasonColl mk fuel c.get_all_items data, writes (logColl mk fuel c.get_all_items data)) := by
  unfold CausableReasoning.reason_all_causes
  simp only [reason_loop_eq, reasonColl, logColl, hemp]
  by_cases he : c.get_all_items.isEmpty = true
  · have : c.get_all_items = [] := by simpa using he
    simp [this, logFrom]
  · simp [he]

theorem graph_all_active_eq (mk : Nat → Nat) (fuel : Nat) (s : Cells) (g : MGraph) :
    CausaloidGraph.all_active (modelDict mk fuel) (modelGraph mk fuel) s g = allActive s g.nodes :=
  graph_all_active_canon _ _ s g

theorem graph_number_active_eq (mk : Nat → Nat) (fuel : Nat) (s : Cells) (g : MGraph) :
    CausaloidGraph.number_active (modelDict mk fuel) (modelGraph mk fuel) s g = (countActive s g.nodes : Rat) := by
  rw [graph_number_active_canon, C11.countActive_eq_filter]; rfl

theorem graph_percent_active_eq (mk : Nat → Nat) (fuel : Nat) (s : Cells) (g : MGraph) :
    CausaloidGraph.percent_active (modelDict mk fuel) (modelGraph mk fuel) s g = percentActive s g.nodes := by
  rw [graph_percent_active_canon, graph_number_active_eq]; rfl

attribute [local simp] Causaloid.new Causaloid.new_with_context Causaloid.from_causal_collection
  Causaloid.from_causal_collection_with_context Causaloid.from_causal_graph Causaloid.from_causal_graph_with_context

theorem reason_all_causes_vec (mk : Nat → Nat) (fuel : Nat) (s : Cells) (items : List Causal.Causaloid) (data : List Nat) :
    CausableReasoning.reason_all_causes (modelDict mk fuel) s (Coll.ofVec items) data =
      (reasonColl mk fuel items data, writes (logColl mk fuel items data)) :=
  reason_all_causes_eq mk fuel s (Coll.ofVec items) data rfl

theorem is_singleton_eq (mk : Nat → Nat) (fuel : Nat) (s : Cells) (c : Causal.Causaloid) (r : GC) (h : Rep mk c r) :
    Causaloid.is_singleton (modelDict mk fuel) (modelGraph mk fuel) s r = c.isSingleton := by
  cases h <;> simp [Causaloid.is_singleton, Causal.Causaloid.isSingleton]

theorem is_active_eq (mk : Nat → Nat) (fuel : Nat) (s : Cells) (c : Causal.Causaloid) (r : GC) (h : Rep mk c r) :
    Causaloid.is_active (modelDict mk fuel) (modelGraph mk fuel) s r = some (isActive s c) := by
  cases h <;> simp [Causaloid.is_active, isActive, number_active_eq, graph_number_active_eq, Rat.natCast_pos,
    countActive_pos_decide]

theorem verify_single_cause_eq (mk : Nat → Nat) (fuel : Nat) (s : Cells) (c : Causal.Causaloid) (r : GC) (h : Rep mk c r)
    (obs : Nat) :
    Causaloid.verify_single_cause (modelDict mk fuel) (modelGraph mk fuel) s r obs =
      (verifySingle mk c obs, writes (singleLog mk c obs)) := by
  cases h <;> simp [Causaloid.verify_single_cause, verifySingle, singleLog, Fn.apply] <;> split_all

theorem verify_all_causes_eq (mk : Nat → Nat) (fuel : Nat) (s : Cells) (c : Causal.Causaloid) (r : GC) (h : Rep mk c r)
    (data : List Nat) (ix : Idx) :
    Causaloid.verify_all_causes (modelDict mk fuel) (modelGraph mk fuel) s r data ix =
      (verifyAll mk fuel c data ix, writes (logAll mk fuel c data ix)) := by
  cases h <;>
    simp [Causaloid.verify_all_causes, reason_all_causes_vec, verifyAll, logAll, reasonColl, logColl, reasonAllGraph,
      logAllGraph] <;> grind

/-- a new causaloid owns a fresh cell that holds `false` (`Cells.init`) -/
theorem constructors_start_inactive (cell id : Nat) (f : Nat → V) (g : Nat → Nat → V) (k : Option Nat)
    (items : List Causal.Causaloid) (gr : MGraph) :
    (Causaloid.new cell id f : GC × Bool).2 = Cells.init cell ∧
    (Causaloid.new_with_context cell id g k : GC × Bool).2 = Cells.init cell ∧
    (Causaloid.from_causal_collection cell id items : GC × Bool).2 = Cells.init cell ∧
    (Causaloid.from_causal_collection_with_context cell id items k : GC × Bool).2 = Cells.init cell ∧
    (Causaloid.from_causal_graph cell id gr : GC × Bool).2 = Cells.init cell ∧
    (Causaloid.from_causal_graph_with_context cell id gr k : GC × Bool).2 = Cells.init cell := by
  simp [Cells.init]

/-! `embed` picks one record per model causaloid (the constructor without context, wrappers own cell 0 — `Rep` covers the other
choices); `genOpLog` is what one call of a history writes according to the *generated* functions. -/

def embed (mk : Nat → Nat) : Causal.Causaloid → GC
  | .single cell id .plain => (Causaloid.new cell id (fun o => decode o)).1
  | .single cell id .inv => (Causaloid.new cell id (fun o => neg (decode o))).1
  | .single cell id (.ctx c) => (Causaloid.new_with_context cell id (fun o k => decode (o + mk k)) c).1
  | .coll id items => (Causaloid.from_causal_collection 0 id items).1
  | .graph id nodes edges root => (Causaloid.from_causal_graph 0 id ⟨nodes, edges, root⟩).1

theorem rep_embed (mk : Nat → Nat) (c : Causal.Causaloid) : Rep mk c (embed mk c) := by
  cases c with
  | single cell id fn => cases fn <;> constructor
  | coll id items => exact Rep.coll 0 id items
  | graph id nodes edges root => exact Rep.graph 0 id nodes edges root

def genOpLog (mk : Nat → Nat) (fuel : Nat) (s : Cells) : Op → List Event
  | .single c obs => (Causaloid.verify_single_cause (modelDict mk fuel) (modelGraph mk fuel) s (embed mk c) obs).2
  | .all c data ix => (Causaloid.verify_all_causes (modelDict mk fuel) (modelGraph mk fuel) s (embed mk c) data ix).2
  | .coll items data => (CausableReasoning.reason_all_causes (modelDict mk fuel) s (Coll.ofVec items) data).2
  | .graph nodes edges root data ix => ((modelGraph mk fuel).reason_all_causes ⟨nodes, edges, root⟩ data ix).2

theorem genOpLog_eq (mk : Nat → Nat) (fuel : Nat) (s : Cells) (op : Op) : genOpLog mk fuel s op = writes (opLog mk fuel op) := by
  cases op <;>
    simp [genOpLog, opLog, verify_single_cause_eq _ _ _ _ _ (rep_embed mk _), verify_all_causes_eq _ _ _ _ _ (rep_embed mk _),
      reason_all_causes_vec]

theorem c11gen_run_append (mk : Nat → Nat) (fuel : Nat) (ops : List Op) (op : Op) (s : Cells) :
    run mk fuel (ops ++ [op]) = applyLog (run mk fuel ops) (genOpLog mk fuel s op) := by
  rw [genOpLog_eq, applyLog_writes, run_append]

/-- the flag is written only after the causal function succeeded: a `verify_single_cause` that errs or panics writes nothing,
    one that answers `Ok(b)` writes exactly `b` to the causaloid's own cell -/
theorem c11gen_single_writes (mk : Nat → Nat) (fuel : Nat) (s : Cells) (cell id : Nat) (fn : Fn) (r : GC)
    (h : Rep mk (.single cell id fn) r) (obs : Nat) :
    Causaloid.verify_single_cause (modelDict mk fuel) (modelGraph mk fuel) s r obs =
      match fn.apply mk obs with
      | some .t => (some .t, [(cell, .t)])
      | some .f => (some .f, [(cell, .f)])
      | some .e => (some .e, [])
      | none => (none, []) := by
  rw [verify_single_cause_eq mk fuel s _ r h]
  simp only [verifySingle, singleLog]
  cases fn.apply mk obs with
  | none => rfl
  | some v => cases v <;> rfl

/-- `is_active` as generated, after every history: a singleton mirrors the latest evaluation of its cell that did not err,
    a wrapper is active iff some member is -/
theorem c11gen_is_active_after_history (mk : Nat → Nat) (fuel : Nat) (ops : List Op) (c : Causal.Causaloid) (r : GC)
    (h : Rep mk c r) :
    Causaloid.is_active (modelDict mk fuel) (modelGraph mk fuel) (run mk fuel ops) r =
      some (activeSpec (events mk fuel ops) c) := by
  rw [is_active_eq mk fuel _ c r h, C11.active_eq_spec]

/-- the aggregates as generated = the recount over the members, after every history -/
theorem c11gen_aggregates (mk : Nat → Nat) (fuel : Nat) (ops : List Op) (c : Coll Causal.Causaloid)
    (hlen : c.len = c.get_all_items.length) :
    CausableReasoning.number_active (modelDict mk fuel) (run mk fuel ops) c = (recount (events mk fuel ops) c.get_all_items : Rat) ∧
    CausableReasoning.percent_active (modelDict mk fuel) (run mk fuel ops) c = percent (events mk fuel ops) c.get_all_items ∧
    (CausableReasoning.get_all_causes_true (modelDict mk fuel) (run mk fuel ops) c = true ↔
      recount (events mk fuel ops) c.get_all_items = c.get_all_items.length) := by
  refine ⟨?_, ?_, ?_⟩
  · rw [number_active_eq, C11.number_active_eq_recount]
  · rw [percent_active_eq _ _ _ _ hlen, C11.percent_active_eq_recount]
  · rw [get_all_causes_true_eq, C11.all_active_iff_recount]

theorem c11gen_graph_aggregates (mk : Nat → Nat) (fuel : Nat) (ops : List Op) (g : MGraph) :
    CausaloidGraph.number_active (modelDict mk fuel) (modelGraph mk fuel) (run mk fuel ops) g =
      (recount (events mk fuel ops) g.nodes : Rat) ∧
    CausaloidGraph.percent_active (modelDict mk fuel) (modelGraph mk fuel) (run mk fuel ops) g =
      percent (events mk fuel ops) g.nodes ∧
    (CausaloidGraph.all_active (modelDict mk fuel) (modelGraph mk fuel) (run mk fuel ops) g = true ↔
      recount (events mk fuel ops) g.nodes = g.nodes.length) := by
  refine ⟨?_, ?_, ?_⟩
  · rw [graph_number_active_eq, C11.number_active_eq_recount]
  · rw [graph_percent_active_eq, C11.percent_active_eq_recount]
  · rw [graph_all_active_eq, C11.all_active_iff_recount]

example : Rep (fun _ => 0) C11.w (Causaloid.from_causal_collection_with_context 7 5 [C11.a, C11.b] (some 1)).1 :=
  Rep.collCtx 7 5 [C11.a, C11.b] (some 1)
example : (Coll.ofVec [C11.a, C11.b]).len = (Coll.ofVec [C11.a, C11.b]).get_all_items.length := rfl

end C11Gen
