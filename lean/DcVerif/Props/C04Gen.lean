import DcVerif.Gen.Consumer
import DcVerif.Model.Ring
/-!
# One pass of the handler loop, tied to the source (C04, C13; used by every ring property)

`Gen/Consumer.lean` is regenerated on every run by `tools/rs2lean_consumer.py` from `consumer/batch_event_processor.rs` (both `run`
twins must give the same text). Here: the consumer of `Model/Ring.lean` (shared by `RingMulti`) starts a pass at the generated `next`,
hands exactly the generated range to the handler, in ascending order, and then stores the generated value into its cursor — and what
that means for C04 directly on the generated arithmetic: consecutive passes hand over consecutive, gap-free, non-overlapping ranges.
-/
namespace C04Gen
open Gen.Consumer Ring

/-- top of a pass: the wanted sequence is the generated `c_next` of the own cursor, and it is what `wait_for` is asked for -/
theorem model_readOwn (s : St) (k j : Nat) (c : Cons) (h : c.pc = .readOwn) :
    (stepCons s k j c).next = c_next c.cur ∧ c_wait_for (c_next c.cur) = c_next c.cur := by
  cases hb : s.blocking <;> simp [stepCons, h, hb, c_next, c_wait_for]

/-- the batch starts at the generated lower end (`handle` is entered with `i := next`) … -/
theorem model_batch_start (s : St) (k j : Nat) (c : Cons) :
    (c.pc = .bUnlockGo → (stepCons s k j c).i = (c_batch c.next c.avail).1 ∧ (stepCons s k j c).pc = .handle) ∧
    (c.pc = .checkAvail → s.blocking = false → c.avail ≥ c.next →
      (stepCons s k j c).i = (c_batch c.next c.avail).1 ∧ (stepCons s k j c).pc = .handle) := by
  constructor
  · intro h; simp [stepCons, h, c_batch]
  · intro h hb ha; simp [stepCons, h, hb, ha, c_batch]

/-- … every step of `handle` hands over the next sequence while it is within the generated upper end, then the pass publishes -/
theorem model_batch_step (s : St) (k j : Nat) (c : Cons) (h : c.pc = .handle) :
    stepCons s k j c =
      if c.i ≤ (c_batch c.next c.avail).2 then { c with log := c.log ++ [c.i], i := c.i + 1 } else { c with pc := .publish } := by
  simp [stepCons, h, c_batch]

/-- the cursor store after the batch is the generated value -/
theorem model_publish (s : St) (k j : Nat) (c : Cons) (h : c.pc = .publish) :
    (stepCons s k j c).cur = c_publish c.next c.avail := by
  simp [stepCons, h, c_publish]

def passSeqs (own available : Nat) : List Nat :=
  (List.range ((c_batch (c_next own) available).2 + 1 - (c_batch (c_next own) available).1)).map (· + (c_batch (c_next own) available).1)

/-- **consecutive passes hand over consecutive ranges**: a pass that found `available ≥ next` hands over exactly `own+1 … available`,
ascending, and leaves the cursor at `available`, so the next pass starts at `available + 1` — no sequence twice, none skipped -/
theorem c04gen_passes_tile (own a1 a2 : Nat) (h1 : c_next own ≤ a1) (h2 : c_next (c_publish (c_next own) a1) ≤ a2) :
    passSeqs own a1 ++ passSeqs (c_publish (c_next own) a1) a2 = (List.range (a2 - own)).map (· + (own + 1)) := by
  simp only [passSeqs, c_batch, c_next, c_publish] at *
  apply List.ext_getElem
  · simp; omega
  · intro n hn1 hn2
    simp only [List.length_append, List.length_map, List.length_range] at hn1
    by_cases hlt : n < a1 + 1 - (own + 1)
    · rw [List.getElem_append_left (by simpa using hlt)]; simp
    · rw [List.getElem_append_right (by simpa using hlt)]; simp; omega

/-- the end-of-batch flag is raised exactly on the last sequence of the pass -/
theorem c04gen_eob (i available : Nat) : c_eob i available = true ↔ i = available := by simp [c_eob]

example : passSeqs 4 7 = [5, 6, 7] ∧ passSeqs 7 7 = [] ∧ c_eob 7 7 = true ∧ c_eob 6 7 = false := by decide

end C04Gen
