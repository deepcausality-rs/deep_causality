import DcVerif.Lemmas.RingHandlerLive
import DcVerif.Lemmas.FairTermination
/-!
# Liveness of the single-producer pipeline (`Model/Ring.lean`)

The handler threads' half of every argument is the one of `Lemmas/RingHandlerLive.lean` at `x.s`; this file adds the
producer's half and assembles the two.

Every schedule, both strategies: `fin` (the final value of the producer cursor), `WInv` (bookkeeping of the `write`
calls), `MInv` (mutex ownership, `is_done`), `NInv` (no lost wake-up: a handler that is parked, or under the mutex on its
way to park, although its wait is over, implies a thread between its store and its `notify_all`), `exists_enabled`,
stability of the wait conditions.

Termination, from `Fit` (= `BInv` and the batches fit the ring):
* blocking strategy (`namespace Blk`): `Fair.fair_termination_sf` with the measure
  `μ = (2·#handlers + 1)·remaining work + outstanding wake-ups`; "the owner of the mutex releases it after `hrank` own
  steps"; `Blk.strongFair_of_lockFair` reduces strong fairness of all steps to weak fairness + strong fairness of lock
  steps. The producer's readiness, rank and own-step lemma (`Blk.hown_prod`) hold under either strategy.
* spin strategy (`namespace Spin`): `Fair.fair_termination` with the same producer half.
-/
namespace Ring

/-- gate condition of the producer for the batch ending at `stop` -/
def condG (s : St) (stop : Nat) : Prop := ∀ d, d < ngate s → stop ≤ gate s d + s.n
/-- drain condition of the producer -/
def condD (s : St) (nw : Nat) : Prop := ∀ d, d < ngate s → nw - 1 ≤ gate s d

/-- the run is over: the producer has returned from `drain` and `Drop`, every handler thread has left its loop -/
def terminal (x : PSt) : Prop :=
  x.p.pc = .done ∧ ∀ k j, k < x.s.K → j < x.s.h k → (x.s.cons k j).pc = .done

def inTopo (K : Nat) (h : Nat → Nat) : Tid → Prop
  | .prod => True
  | .cons k j => k < K ∧ j < h k

/-- the final value of the producer cursor (constant along every run) -/
def fin (x : PSt) : Nat :=
  match x.p.pc with
  | .gateCheck | .gateLoad | .write | .publish => x.p.stop + x.p.todo.sum
  | _ => x.p.nextWrite + x.p.todo.sum - 1

theorem fin_prod (x : PSt) (h : PInvAll x) : fin (stepProd x) = fin x := by
  obtain ⟨_, _, hP, hbb⟩ := h
  cases hpc : x.p.pc
  case start =>
    cases htodo : x.p.todo with
    | nil => simp [fin, stepProd, hpc, htodo]
    | cons b rest =>
      have := hbb b (by simp [htodo])
      simp [fin, stepProd, hpc, htodo]; omega
  case publish =>
    -- the batch is written: `nextWrite = stop + 1`
    have := (hP.wr (Or.inr hpc)).2.2.1
    cases hb : x.s.blocking <;> simp [fin, stepProd, hpc, hb] <;> omega
  all_goals (clear hP hbb; simp only [stepProd, hpc] <;> (repeat' split) <;> simp [fin, hpc])

theorem fin_step (x : PSt) (t : Tid) (h : PInvAll x) : fin (stepX x t) = fin x := by
  cases t with
  | prod => exact fin_prod x h
  | cons k j => simp only [stepX]; split <;> rfl

theorem cursor_le_fin (x : PSt) (h : PInvAll x) : x.s.cursor ≤ fin x := by
  have hnw := h.2.2.1.nw; have hcl := h.2.2.1.claim; have hwr := h.2.2.1.wr
  cases hpc : x.p.pc <;> simp only [fin, hpc] <;>
    simp only [hpc, PPc.idle, reduceCtorEq, or_false, or_true, forall_const, false_implies] at hnw hcl hwr <;> omega

theorem fin_xC (x : PSt) (k j : Nat) : fin (xC x k j) = fin x := rfl

theorem μC_prod (x : PSt) (h : PInvAll x) : CS.μC (fin (stepProd x)) (stepProd x).s = CS.μC (fin x) x.s := by
  obtain ⟨ec, eK, eh, _, _⟩ := cons_same_prod x
  rw [fin_prod x h, CS.μC_congr _ _ _ ec eK eh]

namespace Spin

def pSpin : PPc → Bool
  | .start | .gateCheck | .gateLoad | .write | .publish | .drainInit | .drainLoad | .drainCheck | .setDone
  | .dropDone | .done => true
  | _ => false

end Spin

/-- every batch handed to the producer becomes, in order, one claim of exactly its length; once the producer is
draining no batch is left -/
structure WInv (batches : List Nat) (p : Prod) : Prop where
  split : p.claims.map (·.2.2) ++ (if p.pc = .gateCheck ∨ p.pc = .gateLoad then [p.count] else []) ++ p.todo = batches
  empty : (p.pc = .drainInit ∨ p.pc.draining = true) → p.todo = []

theorem winv_prod (batches : List Nat) (x : PSt) (h : WInv batches x.p) : WInv batches (stepProd x).p := by
  obtain ⟨h1, h2⟩ := h
  cases hpc : x.p.pc <;> simp only [hpc, PPc.draining, reduceCtorEq, or_false, or_true, ite_true, ite_false,
    List.append_nil, Bool.false_eq_true, false_implies, forall_const] at h1 h2
  case start =>
    cases htodo : x.p.todo with
    | nil => constructor <;> simp_all [stepProd, PPc.draining]
    | cons b rest => constructor <;> simp_all [stepProd, PPc.draining]
  all_goals (simp only [stepProd, hpc] <;> (repeat' split) <;> constructor <;> simp [PPc.draining, hpc, ← h1, h2])

theorem winv_step (batches : List Nat) (x : PSt) (t : Tid) (h : WInv batches x.p) : WInv batches (stepX x t).p := by
  cases t with
  | prod => exact winv_prod batches x h
  | cons k j => simp only [stepX]; split <;> exact h

theorem winv_run (batches : List Nat) (σ : Nat → Tid) (x : PSt) (h : WInv batches x.p) :
    ∀ i, WInv batches (Fair.run stepX σ x i).p :=
  Fair.run_inv stepX (fun x => WInv batches x.p) (winv_step batches) σ x h

theorem winv_init (n K : Nat) (h : Nat → Nat) (bl : Bool) (batches : List Nat) :
    WInv batches (mk n K h bl batches).p := by
  constructor <;> simp [mk, PPc.draining]

theorem inv_frun (σ : Nat → Tid) (x : PSt) (h : PInvAll x) : ∀ i, PInvAll (Fair.run stepX σ x i) :=
  Fair.run_inv stepX PInvAll inv_stepX σ x h

theorem frun_eq_runX (σ : Nat → Tid) (x : PSt) (i : Nat) :
    Fair.run stepX σ x i = runX x ((List.range i).map σ) := by
  induction i with
  | zero => rfl
  | succ i ih =>
    simp only [Fair.run, ih, runX, List.range_succ, List.map_append, List.foldl_append, List.map, List.foldl]

/-- producer pcs at which it owns the mutex -/
def pHold : PPc → Bool
  | .pNotify | .pUnlock | .dNotify | .dUnlock | .eNotify | .eUnlock | .fNotify | .fUnlock => true
  | _ => false

/-- pcs after `is_done.store(true)` of `drain` -/
def pAfterSet : PPc → Bool
  | .eLock | .eNotify | .eUnlock | .dropDone | .fLock | .fNotify | .fUnlock | .done => true
  | _ => false

/-- **mutual exclusion and ownership**: with the blocking strategy a thread is at a pc between its `lock` and its
`unlock` (or `cvar.wait`) exactly when it owns the mutex; with the spin strategy the mutex is never touched and the
blocking-only program points are never reached; `is_done` is set exactly from `drain`'s store on, and a handler
thread only leaves its loop after that. -/
structure MInv (x : PSt) : Prop extends HInv x.s where
  spinP : x.s.blocking = false → Spin.pSpin x.p.pc = true
  blkP  : x.s.blocking = true → (pHold x.p.pc = true ↔ x.s.mtx = some .prod)
  doneIff : x.s.isDone = true ↔ pAfterSet x.p.pc = true

theorem prod_mtx_step (x : PSt) (hb : x.s.blocking = true) (hp : pHold x.p.pc = true ↔ x.s.mtx = some .prod) :
    (pHold (stepProd x).p.pc = true ↔ (stepProd x).s.mtx = some .prod) ∧
    ((stepProd x).s.mtx = x.s.mtx ∨ (x.s.mtx = none ∧ (stepProd x).s.mtx = some .prod) ∨
      (x.s.mtx = some .prod ∧ (stepProd x).s.mtx = none)) := by
  cases hpc : x.p.pc <;> simp only [hpc, pHold] at hp <;> simp only [stepProd, hpc, hb] <;> (repeat' split) <;>
    simp_all [pHold]

theorem prod_spin_step (x : PSt) (hb : x.s.blocking = false) (hm : x.s.mtx = none) (hp : Spin.pSpin x.p.pc = true) :
    Spin.pSpin (stepProd x).p.pc = true ∧ (stepProd x).s.mtx = none := by
  cases hpc : x.p.pc <;> simp only [hpc, Spin.pSpin] at hp <;> (try contradiction) <;>
    simp only [stepProd, hpc, hb, hm] <;> (repeat' split) <;> simp_all [Spin.pSpin]

theorem prod_done_step (x : PSt) (hd : x.s.isDone = true ↔ pAfterSet x.p.pc = true) :
    ((stepProd x).s.isDone = true ↔ pAfterSet (stepProd x).p.pc = true) ∧
    (x.s.isDone = true → (stepProd x).s.isDone = true) := by
  cases hpc : x.p.pc <;> simp only [hpc, pAfterSet] at hd <;> simp only [stepProd, hpc] <;> (repeat' split) <;>
    simp_all [pAfterSet]

theorem minv_step (x : PSt) (t : Tid) (h : MInv x) : MInv (stepX x t) := by
  obtain ⟨g, m2, m5, m7⟩ := h
  cases t with
  | prod =>
    show MInv (stepProd x)
    obtain ⟨m1, m3, m4, m6, m8⟩ := g
    obtain ⟨ec, eK, eh, en, ebl⟩ := cons_same_prod x
    obtain ⟨d1, d2⟩ := prod_done_step x m7
    have hmtx : (stepProd x).s.mtx = x.s.mtx ∨ (x.s.mtx = none ∧ (stepProd x).s.mtx = some .prod) ∨
        (x.s.mtx = some .prod ∧ (stepProd x).s.mtx = none) := by
      cases hb : x.s.blocking
      · left; rw [(prod_spin_step x hb (m1 hb) (m2 hb)).2, m1 hb]
      · exact (prod_mtx_step x hb (m5 hb)).2
    refine ⟨⟨?_, ?_, ?_, ?_, ?_⟩, ?_, ?_, d1⟩
    · intro hb; rw [ebl] at hb; exact (prod_spin_step x hb (m1 hb) (m2 hb)).2
    · intro hb; rw [ebl] at hb; rw [ec, eK, eh]; exact m3 hb
    · intro hb k j hk hj; rw [ebl] at hb; rw [eK] at hk; rw [eh] at hj; rw [ec]
      obtain ⟨a1, a2⟩ := m4 hb k j hk hj
      exact ⟨a1.trans (mtx_other (by simp) hmtx).symm, a2⟩
    · intro k j hm
      rw [eK, eh]
      exact m6 k j ((mtx_other (by simp) hmtx).1 hm)
    · intro k j hk hj hpc
      rw [eK] at hk; rw [eh] at hj; rw [ec] at hpc
      exact d2 (m8 k j hk hj hpc)
    · intro hb; rw [ebl] at hb; exact (prod_spin_step x hb (m1 hb) (m2 hb)).1
    · intro hb; rw [ebl] at hb; exact (prod_mtx_step x hb (m5 hb)).1
  | cons k j =>
    by_cases hv : k < x.s.K ∧ j < x.s.h k
    · rw [stepX_cons_in x hv.1 hv.2]
      obtain ⟨g', hp⟩ := hinv_stepC x.s k j hv.1 hv.2 g
      exact ⟨g', m2, fun hb => (m5 hb).trans hp.symm, m7⟩
    · rw [stepX_cons_out x hv]; exact ⟨g, m2, m5, m7⟩

theorem minv_init (n K : Nat) (h : Nat → Nat) (bl : Bool) (batches : List Nat) : MInv (mk n K h bl batches) := by
  refine ⟨⟨?_, ?_, ?_, ?_, ?_⟩, ?_, ?_, ?_⟩ <;> simp [mk, Spin.pSpin, Spin.cSpin, cHold, pHold, pAfterSet]

/-- producer pcs between a store (cursor / `is_done`) or a drain-loop iteration and the `notify_all` of `signal()` -/
def pPend : PPc → Bool
  | .pLock | .pNotify | .dLock | .dNotify | .eLock | .eNotify | .fLock | .fNotify => true
  | _ => false

/-- some thread is at a pc from which it executes `notify_all` before it can block -/
def pending (x : PSt) : Prop :=
  pPend x.p.pc = true ∨ ∃ k j, k < x.s.K ∧ j < x.s.h k ∧ cPend (x.s.cons k j).pc = true

/-- **no lost wake-up** (invariant form) -/
def NInv (x : PSt) : Prop := ∀ k j, k < x.s.K → j < x.s.h k → owed x.s k j → pending x

theorem prod_nlw_cases (x : PSt) (hb : x.s.blocking = true) :
    pPend (stepProd x).p.pc = true ∨
    (pHold x.p.pc = true ∧ (stepProd x).s.woken = fun _ _ => true) ∨
    (pPend x.p.pc = false ∧ (stepProd x).s.cursor = x.s.cursor ∧ (stepProd x).s.isDone = x.s.isDone ∧
      (stepProd x).s.woken = x.s.woken) := by
  cases hpc : x.p.pc <;> simp only [stepProd, hpc, hb] <;> (repeat' split) <;> simp_all [pPend, pHold]

theorem ninv_step (x : PSt) (t : Tid) (hA : PInvAll x) (hM : MInv x) (hN : NInv x) : NInv (stepX x t) := by
  cases t with
  | prod =>
    show NInv (stepProd x)
    obtain ⟨ec, eK, eh, en, ebl⟩ := cons_same_prod x
    intro k j hk hj ho
    rw [eK] at hk; rw [eh] at hj
    have hb : x.s.blocking = true := by rw [← ebl]; exact ho.1
    rcases prod_nlw_cases x hb with h | ⟨h1, h2⟩ | ⟨h1, h2, h3, h4⟩
    · exact Or.inl h
    · -- the producer notifies while owning the mutex: nobody is owed anything afterwards
      exfalso
      have hm : x.s.mtx = some .prod := (hM.blkP hb).1 h1
      rcases parkish_hold ho.2.2 with hh | ⟨_, hw⟩
      · rw [ec] at hh
        have := ((hM.blkC hb k j hk hj).1).1 hh
        rw [hm] at this; cases this
      · simp [h2] at hw
    · have ho' : owed x.s k j :=
        owed_mono x.s (stepProd x).s k j (by rw [ec]) (by rw [ec]; intros; rfl) h2 h3 eh ebl (by rw [h4]; exact id) ho
      rcases hN k j hk hj ho' with hp | ⟨a, b, ha, hb', hc⟩
      · simp [h1] at hp
      · exact Or.inr ⟨a, b, by rw [eK]; exact ha, by rw [eh]; exact hb', by rw [ec]; exact hc⟩
  | cons k j =>
    by_cases hv : k < x.s.K ∧ j < x.s.h k
    · rw [stepX_cons_in x hv.1 hv.2]
      exact ninvH_stepC x.s k j hv.1 hv.2 hA.1 hM.toHInv (pPend x.p.pc = true) hN
    · rw [stepX_cons_out x hv]; exact hN

theorem ninv_init (n K : Nat) (h : Nat → Nat) (bl : Bool) (batches : List Nat) : NInv (mk n K h bl batches) := by
  intro k j _ _ ho
  obtain ⟨_, _, hp⟩ := ho
  simp [parkish, mk] at hp

structure BInv (x : PSt) : Prop where
  base : PInvAll x
  mtx  : MInv x
  nlw  : NInv x

theorem binv_step (x : PSt) (t : Tid) (h : BInv x) : BInv (stepX x t) :=
  ⟨inv_stepX x t h.base, minv_step x t h.mtx, ninv_step x t h.base h.mtx h.nlw⟩

theorem binv_init (n K : Nat) (h : Nat → Nat) (bl : Bool) (batches : List Nat)
    (hK : 0 < K) (hh : ∀ k, k < K → 0 < h k) (hb : ∀ b, b ∈ batches → 1 ≤ b) : BInv (mk n K h bl batches) :=
  ⟨inv_init n K h bl batches hK hh hb, minv_init n K h bl batches, ninv_init n K h bl batches⟩

theorem reachable_binv {x : PSt} (hr : Reachable x) : BInv x := by
  obtain ⟨n, K, h, bl, bs, sched, hK, hh, hb, rfl⟩ := hr
  exact runX_inv BInv binv_step _ sched (binv_init n K h bl bs hK hh hb)

/-- **no lost wake-up**: a handler parked on the condvar (`bRelock`) whose wait condition holds, or for which `is_done`
is set, has been woken — or some *other* thread is between its store and the `notify_all` of its `signal()` -/
theorem no_lost_wakeup {x : PSt} (h : BInv x) (k j : Nat) (hk : k < x.s.K) (hj : j < x.s.h k)
    (hpark : (x.s.cons k j).pc = .bRelock) (hc : condC x.s k (x.s.cons k j) ∨ x.s.isDone = true) :
    x.s.woken k j = true ∨ pPend x.p.pc = true ∨
      ∃ k' j', k' < x.s.K ∧ j' < x.s.h k' ∧ (k', j') ≠ (k, j) ∧ cPend (x.s.cons k' j').pc = true := by
  have hb : x.s.blocking = true := by
    cases hbl : x.s.blocking
    · have := h.mtx.spinC hbl k j hk hj
      simp [hpark, Spin.cSpin] at this
    · rfl
  cases hw : x.s.woken k j
  · right
    have ho : owed x.s k j := ⟨hb, hc, by simp [parkish, hpark, hw]⟩
    rcases h.nlw k j hk hj ho with hp | ⟨a, b, ha, hb', hc'⟩
    · exact Or.inl hp
    · refine Or.inr ⟨a, b, ha, hb', ?_, hc'⟩
      intro he
      injection he with e1 e2; subst e1; subst e2
      simp [hpark, cPend] at hc'
  · exact Or.inl rfl

theorem exists_unfinished {x : PSt} (hnt : ¬ terminal x) (hpd : x.p.pc = .done) :
    ∃ k j, k < x.s.K ∧ j < x.s.h k ∧ (x.s.cons k j).pc ≠ .done :=
  Classical.byContradiction fun hno =>
    hnt ⟨hpd, fun k j hk hj => Classical.byContradiction fun hne => hno ⟨k, j, hk, hj, hne⟩⟩

/-- **no deadlock** (both strategies): in every non-terminal state satisfying the invariants some thread of the topology
has an enabled step — a step that is not a stutter on a taken mutex or of a parked, un-notified handler -/
theorem exists_enabled {x : PSt} (h : BInv x) (hnt : ¬ terminal x) :
    ∃ t, inTopo x.s.K x.s.h t ∧ enabled x t = true := by
  have hM := h.mtx
  cases hm : x.s.mtx with
  | some t =>
    -- the owner of the mutex (blocking strategy) is between lock and unlock: enabled
    have hbl : x.s.blocking = true := by
      cases hbl : x.s.blocking
      · rw [hM.spinM hbl] at hm; cases hm
      · rfl
    cases t with
    | prod =>
      refine ⟨.prod, trivial, ?_⟩
      have := (hM.blkP hbl).2 hm
      clear h hM
      cases hpc : x.p.pc <;> simp_all [enabled, pHold]
    | cons k j =>
      obtain ⟨hk, hj⟩ := hM.owner k j hm
      refine ⟨.cons k j, ⟨hk, hj⟩, ?_⟩
      have := ((hM.blkC hbl k j hk hj).1).2 hm
      clear h hM
      cases hpc : (x.s.cons k j).pc <;> simp_all [enabled, cHold]
  | none =>
    -- the mutex is free: every thread that has not finished is enabled, except a parked handler that was not notified
    by_cases hpd : x.p.pc = .done
    · obtain ⟨k, j, hk, hj, hne⟩ := exists_unfinished hnt hpd
      by_cases hpark : (x.s.cons k j).pc = .bRelock
      · have hd : x.s.isDone = true := hM.doneIff.2 (by simp [hpd, pAfterSet])
        rcases no_lost_wakeup h k j hk hj hpark (Or.inr hd) with hw | hp | ⟨a, b, ha, hb, _, hc⟩
        · exact ⟨.cons k j, ⟨hk, hj⟩, by simp [enabled, hpark, hw, hm]⟩
        · simp [hpd, pPend] at hp
        · refine ⟨.cons a b, ⟨ha, hb⟩, ?_⟩
          clear h hM
          cases hpc : (x.s.cons a b).pc <;> simp_all [enabled, cPend]
      · refine ⟨.cons k j, ⟨hk, hj⟩, ?_⟩
        clear h hM
        cases hpc : (x.s.cons k j).pc <;> simp_all [enabled]
    · refine ⟨.prod, trivial, ?_⟩
      clear h hM
      cases hpc : x.p.pc <;> simp_all [enabled]

theorem dep_mono_stepX (x : PSt) (t : Tid) (h : PInvAll x) (k d : Nat) :
    dep x.s k d ≤ dep (stepX x t).s k d := by
  cases t with
  | prod =>
    show dep x.s k d ≤ dep (stepProd x).s k d
    obtain ⟨ec, _, _, _, _⟩ := cons_same_prod x
    unfold dep; rw [ec]; split
    · exact cursor_mono_prod x h
    · exact Nat.le_refl _
  | cons a b =>
    simp only [stepX]; split
    · rename_i hv; exact dep_mono_stepC x.s a b hv.1 hv.2 h.1 k d
    · exact Nat.le_refl _

theorem gate_mono_stepX (x : PSt) (t : Tid) (h : PInvAll x) (d : Nat) :
    gate x.s d ≤ gate (stepX x t).s d := by
  cases t with
  | prod =>
    show gate x.s d ≤ gate (stepProd x).s d
    obtain ⟨ec, eK, _, _, _⟩ := cons_same_prod x
    unfold gate; rw [ec, eK]; exact Nat.le_refl _
  | cons a b =>
    simp only [stepX]; split
    · rename_i hv; exact gate_mono_stepC x.s a b hv.1 hv.2 h.1 d
    · exact Nat.le_refl _

theorem topo_step (x : PSt) (t : Tid) : (stepX x t).s.K = x.s.K ∧ (stepX x t).s.h = x.s.h ∧ (stepX x t).s.n = x.s.n := by
  cases t with
  | prod => obtain ⟨_, eK, eh, en, _⟩ := cons_same_prod x; exact ⟨eK, eh, en⟩
  | cons k j => simp only [stepX]; split <;> exact ⟨rfl, rfl, rfl⟩

/-- a handler's wait condition, once true, stays true under every step of every *other* thread (and under its own
steps as long as it does not publish) -/
theorem condC_stable (x : PSt) (t : Tid) (h : PInvAll x) (k j : Nat)
    (hcur : ((stepX x t).s.cons k j).cur = (x.s.cons k j).cur)
    (hc : condC x.s k (x.s.cons k j)) : condC (stepX x t).s k ((stepX x t).s.cons k j) := by
  intro d hd
  have hn : ndeps (stepX x t).s k = ndeps x.s k := by simp [ndeps, (topo_step x t).2.1]
  rw [hn] at hd
  have := hc d hd
  have := dep_mono_stepX x t h k d
  omega

theorem condG_stable (x : PSt) (t : Tid) (h : PInvAll x) (stop : Nat) (hc : condG x.s stop) :
    condG (stepX x t).s stop := by
  intro d hd
  obtain ⟨eK, eh, en⟩ := topo_step x t
  have hn : ngate (stepX x t).s = ngate x.s := by simp [ngate, eK, eh]
  rw [hn] at hd
  have := hc d hd
  have := gate_mono_stepX x t h d
  rw [en]; omega

theorem condD_stable (x : PSt) (t : Tid) (h : PInvAll x) (nw : Nat) (hc : condD x.s nw) :
    condD (stepX x t).s nw := by
  intro d hd
  obtain ⟨eK, eh, en⟩ := topo_step x t
  have hn : ngate (stepX x t).s = ngate x.s := by simp [ngate, eK, eh]
  rw [hn] at hd
  have := hc d hd
  have := gate_mono_stepX x t h d
  omega

theorem isDone_stable (x : PSt) (t : Tid) (h : MInv x) (hd : x.s.isDone = true) : (stepX x t).s.isDone = true := by
  cases t with
  | prod => exact (prod_done_step x h.doneIff).2 hd
  | cons k j => simp only [stepX]; split <;> exact hd

/-- a producer step other than a store keeps the handler records, the cursor and `is_done`; of the wake-up flags it at
most sets all (the form in which the handler-side frame lemmas take it) -/
theorem prod_frame (x : PSt) (hns : ¬(x.p.pc = .publish ∨ x.p.pc = .setDone ∨ x.p.pc = .dropDone)) :
    (stepProd x).s.cons = x.s.cons ∧ (stepProd x).s.cursor = x.s.cursor ∧ (stepProd x).s.isDone = x.s.isDone ∧
    (stepProd x).s.K = x.s.K ∧ (stepProd x).s.h = x.s.h ∧ (stepProd x).s.blocking = x.s.blocking ∧
    ((stepProd x).s.woken = x.s.woken ∨ (stepProd x).s.woken = fun _ _ => true) := by
  obtain ⟨ec, eK, eh, _, ebl⟩ := cons_same_prod x
  have : (stepProd x).s.cursor = x.s.cursor ∧ (stepProd x).s.isDone = x.s.isDone ∧
      ((stepProd x).s.woken = x.s.woken ∨ (stepProd x).s.woken = fun _ _ => true) := by
    cases hpc : x.p.pc <;> simp only [stepProd, hpc] <;> (repeat' split) <;> simp_all
  exact ⟨ec, this.1, this.2.1, eK, eh, ebl, this.2.2⟩

theorem topo_frun (σ : Nat → Tid) (x : PSt) (i : Nat) :
    (Fair.run stepX σ x i).s.K = x.s.K ∧ (Fair.run stepX σ x i).s.h = x.s.h ∧ (Fair.run stepX σ x i).s.n = x.s.n :=
  Fair.run_inv stepX (fun y => y.s.K = x.s.K ∧ y.s.h = x.s.h ∧ y.s.n = x.s.n)
    (fun y t ⟨e1, e2, e3⟩ => by obtain ⟨f1, f2, f3⟩ := topo_step y t; exact ⟨f1.trans e1, f2.trans e2, f3.trans e3⟩)
    σ x ⟨rfl, rfl, rfl⟩ i

structure Fit (x : PSt) : Prop where
  b      : BInv x
  fit    : ∀ b, b ∈ x.p.todo → b ≤ x.s.n
  fitCur : (x.p.pc = .gateCheck ∨ x.p.pc = .gateLoad) → x.p.stop + 1 ≤ x.p.start + x.s.n

theorem blocking_step (x : PSt) (t : Tid) : (stepX x t).s.blocking = x.s.blocking := by
  cases t with
  | prod => exact (cons_same_prod x).2.2.2.2
  | cons k j => simp only [stepX]; split <;> rfl

theorem fit_step (x : PSt) (t : Tid) (h : Fit x) : Fit (stepX x t) := by
  obtain ⟨hb, hfit, hfc⟩ := h
  cases t with
  | prod =>
    have hbb := hb.base.2.2.2
    have en : (stepProd x).s.n = x.s.n := (cons_same_prod x).2.2.2.1
    refine ⟨binv_step x .prod hb, fun b hbm => en ▸ hfit b (todo_prod_mem x b hbm), ?_⟩
    -- a batch enters the gate with `start = nextWrite`, `stop = start + b - 1`; then `start`, `stop` stay
    show ((stepProd x).p.pc = .gateCheck ∨ (stepProd x).p.pc = .gateLoad) →
        (stepProd x).p.stop + 1 ≤ (stepProd x).p.start + (stepProd x).s.n
    rw [en]
    clear hb
    cases hpc : x.p.pc <;> simp only [hpc, reduceCtorEq, or_false, or_true, false_implies, forall_const] at hfc
    case start =>
      cases htodo : x.p.todo with
      | nil => simp [stepProd, hpc, htodo]
      | cons b rest =>
        have h1 := hfit b (by simp [htodo]); have h2 := hbb b (by simp [htodo])
        simp [stepProd, hpc, htodo]; omega
    all_goals (clear hfit hbb; simp only [stepProd, hpc] <;> (repeat' split) <;> simp [hpc, hfc])
  | cons k j =>
    have e : (stepX x (.cons k j)).p = x.p := by simp only [stepX]; split <;> rfl
    have e2 : (stepX x (.cons k j)).s.n = x.s.n := (topo_step x _).2.2
    exact ⟨binv_step x _ hb, by rw [e, e2]; exact hfit, by rw [e, e2]; exact hfc⟩

theorem fit_init (n K : Nat) (h : Nat → Nat) (bl : Bool) (batches : List Nat)
    (hK : 0 < K) (hh : ∀ k, k < K → 0 < h k) (hb : ∀ b, b ∈ batches → 1 ≤ b ∧ b ≤ n) :
    Fit (mk n K h bl batches) :=
  ⟨binv_init n K h bl batches hK hh (fun b hbm => (hb b hbm).1), fun b hbm => (hb b hbm).2, by simp [mk]⟩

/-- when no handler's wait condition holds the handlers have caught up with the producer cursor, and the producer's
gate and drain conditions hold -/
theorem prod_conds_of_stuck (x : PSt) (h : Fit x)
    (hw : ∀ k j, k < x.s.K → j < x.s.h k → ¬ condC x.s k (x.s.cons k j)) :
    ((x.p.pc = .gateCheck ∨ x.p.pc = .gateLoad) → condG x.s x.p.stop) ∧
    (x.p.pc.idle = true → condD x.s x.p.nextWrite) := by
  obtain ⟨hI, hK, hP, _⟩ := h.b.base
  have hall := all_caught_up x.s hI hw
  have hg : ∀ d, d < ngate x.s → gate x.s d = x.s.cursor := by
    intro d hd; exact hall (x.s.K - 1) d (by omega) (by simpa [ngate] using hd)
  constructor
  · intro hpc d hd; rw [hg d hd]
    have h1 := hP.claim hpc; have h2 := h.fitCur hpc; omega
  · intro hpc d hd; rw [hg d hd]; have := hP.nw hpc; omega

namespace Blk
def phaseB : PPc → Nat
  | .gateCheck | .gateLoad | .write | .publish => 10
  | .pLock | .pNotify | .pUnlock => 9
  | .start => 8
  | .drainInit => 7
  | .drainLoad | .drainCheck | .dLock | .dNotify | .dUnlock => 6
  | .setDone => 5
  | .eLock | .eNotify | .eUnlock => 4
  | .dropDone => 3
  | .fLock | .fNotify | .fUnlock => 2
  | .done => 0

def μP (x : PSt) : Nat := (fin x - x.s.cursor) + 3 * x.p.todo.length + phaseB x.p.pc

/-- remaining work: events still to consume / threads still to finish / batches and producer phases still to go -/
def μmain (x : PSt) : Nat := CS.μC (fin x) x.s + μP x

/-- the global measure: remaining work, weighted so that one unit of work outweighs all outstanding wake-ups -/
noncomputable def μ (x : PSt) : Nat := (CS.bnd x.s + 1) * μmain x + CS.owedW x.s

structure JInv (x : PSt) : Prop extends Fit x where
  blk : x.s.blocking = true

theorem jinv_step (x : PSt) (t : Tid) (h : JInv x) : JInv (stepX x t) :=
  ⟨fit_step x t h.toFit, by rw [blocking_step]; exact h.blk⟩

theorem μP_xC (x : PSt) (k j : Nat) : μP (xC x k j) = μP x := rfl

def progP (x : PSt) : Prop :=
  x.p.pc = .start ∨ x.p.pc = .drainInit ∨ x.p.pc = .publish ∨ x.p.pc = .pUnlock ∨ x.p.pc = .setDone ∨
  x.p.pc = .eUnlock ∨ x.p.pc = .dropDone ∨ x.p.pc = .fUnlock ∨ (x.p.pc = .drainCheck ∧ ¬ x.p.min < x.p.current)

theorem μP_prod (x : PSt) (h : JInv x) : μP (stepProd x) ≤ μP x ∧ (progP x → μP (stepProd x) < μP x) := by
  have hf := fin_prod x h.b.base
  have hcf := cursor_le_fin x h.b.base
  have hblk := h.blk
  have hwr := h.b.base.2.2.1.wr
  clear h
  simp only [μP, hf, progP]
  cases hpc : x.p.pc
  case start =>
    cases htodo : x.p.todo with
    | nil => simp [stepProd, hpc, htodo, phaseB]
    | cons b rest => simp [stepProd, hpc, htodo, phaseB]; omega
  case publish => have := hwr (Or.inr hpc); simp [stepProd, hpc, hblk, phaseB]; omega
  case drainCheck => by_cases hc : x.p.min < x.p.current <;> simp [stepProd, hpc, hc, hblk, phaseB]
  all_goals (simp only [stepProd, hpc, hblk, ↓reduceIte] <;> (try split) <;> simp [phaseB, hpc])

theorem bnd_step (x : PSt) (t : Tid) : CS.bnd (stepX x t).s = CS.bnd x.s := by
  obtain ⟨eK, eh, _⟩ := topo_step x t
  exact CS.bnd_congr _ _ eK eh

theorem μ_lt_of_main (x x' : PSt) (hb : CS.bnd x'.s = CS.bnd x.s) (hm : μmain x' < μmain x) : μ x' < μ x := by
  simp only [μ, hb]; exact CS.weighted_lt_of_main (hb ▸ CS.owedW_le_bnd x'.s) hm

theorem μ_lt_of_ow (x x' : PSt) (hb : CS.bnd x'.s = CS.bnd x.s) (hm : μmain x' ≤ μmain x)
    (ho : CS.owedW x'.s < CS.owedW x.s) : μ x' < μ x := by
  simp only [μ, hb]; exact CS.weighted_lt_of_ow hm ho

theorem μ_le_of (x x' : PSt) (hb : CS.bnd x'.s = CS.bnd x.s) (hm : μmain x' ≤ μmain x)
    (ho : μmain x' < μmain x ∨ CS.owedW x'.s ≤ CS.owedW x.s) : μ x' ≤ μ x := by
  simp only [μ, hb]; exact CS.weighted_le (hb ▸ CS.owedW_le_bnd x'.s) hm ho

theorem μmain_prod (x : PSt) (h : JInv x) : μmain (stepProd x) ≤ μmain x := by
  have := (μP_prod x h).1
  simp only [μmain, μC_prod x h.b.base]
  omega

theorem owedW_prod_le (x : PSt) (hns : ¬(x.p.pc = .publish ∨ x.p.pc = .setDone ∨ x.p.pc = .dropDone)) :
    CS.owedW (stepProd x).s ≤ CS.owedW x.s := by
  obtain ⟨ec, h1, h2, eK, eh, ebl, h3⟩ := prod_frame x hns
  exact CS.owedW_frame_le x.s _ ec h1 h2 eK eh ebl h3

theorem μ_prod_lt_of_ow (x : PSt) (h : JInv x) (hns : ¬(x.p.pc = .publish ∨ x.p.pc = .setDone ∨ x.p.pc = .dropDone))
    (hlt : ∃ a b, a < x.s.K ∧ b < x.s.h a ∧ CS.ow (stepProd x).s a b < CS.ow x.s a b) : μ (stepProd x) < μ x := by
  obtain ⟨ec, h1, h2, eK, eh, ebl, h3⟩ := prod_frame x hns
  obtain ⟨a, b, ha, hb, hlt⟩ := hlt
  exact μ_lt_of_ow x _ (bnd_step x .prod) (μmain_prod x h)
    (CS.owedW_frame_lt x.s _ ec h1 h2 eK eh ebl h3 a b ha hb hlt)

theorem μmain_xC (x : PSt) (h : JInv x) (k j : Nat) (hk : k < x.s.K) (hj : j < x.s.h k) :
    μmain (xC x k j) ≤ μmain x ∧
    (progressC (x.s.cons k j) (stepCons x.s k j (x.s.cons k j)) → μmain (xC x k j) < μmain x) :=
  ⟨Nat.add_le_add_right (CS.μC_stepC_le (fin x) x.s k j hk hj h.b.base.1) _,
   fun hp => Nat.add_lt_add_right
     (CS.μC_progress (fin x) x.s k j hk hj h.b.base.1 (cursor_le_fin x h.b.base) hp) _⟩

theorem μ_drop (x : PSt) (h : JInv x) {k j : Nat} (hk : k < x.s.K) (hj : j < x.s.h k) (hd : CS.Drop x.s k j) :
    μ (xC x k j) < μ x := by
  obtain ⟨hle, hlt⟩ := μmain_xC x h k j hk hj
  rcases hd with hp | ⟨hnp, a, b, ha, hb, hlt'⟩
  · exact μ_lt_of_main x _ rfl (hlt hp)
  · exact μ_lt_of_ow x _ rfl hle (CS.owedW_cons_lt x.s h.b.base.1 k j hk hj hnp a b ha hb hlt')

theorem μ_prod_lt (x : PSt) (h : JInv x) (hp : progP x) : μ (stepProd x) < μ x := by
  apply μ_lt_of_main x _ (bnd_step x .prod)
  show μmain (stepProd x) < μmain x
  simp only [μmain, μC_prod x h.b.base]
  exact Nat.add_lt_add_left ((μP_prod x h).2 hp) _

theorem progP_of_store {x : PSt} (hs : x.p.pc = .publish ∨ x.p.pc = .setDone ∨ x.p.pc = .dropDone) : progP x := by
  rcases hs with hs | hs | hs <;> simp [progP, hs]

theorem μ_mono (x : PSt) (t : Tid) (h : JInv x) : μ (stepX x t) ≤ μ x := by
  cases t with
  | prod =>
    by_cases hs : x.p.pc = .publish ∨ x.p.pc = .setDone ∨ x.p.pc = .dropDone
    · exact Nat.le_of_lt (μ_prod_lt x h (progP_of_store hs))
    · exact μ_le_of x _ (bnd_step x .prod) (μmain_prod x h) (Or.inr (owedW_prod_le x hs))
  | cons k j =>
    by_cases hv : k < x.s.K ∧ j < x.s.h k
    · rw [stepX_cons_in x hv.1 hv.2]
      obtain ⟨h1, h2⟩ := μmain_xC x h k j hv.1 hv.2
      apply μ_le_of x (xC x k j) rfl h1
      by_cases hp : (x.s.cons k j).pc = .publish
      · exact Or.inl (h2 (CS.publish_progress x.s k j hv.1 hv.2 h.b.base.1 hp))
      · exact Or.inr (CS.owedW_cons_le x.s h.b.base.1 k j hv.1 hv.2 hp)
    · rw [stepX_cons_out x hv]; exact Nat.le_refl _

def owedParked (x : PSt) : Prop :=
  ∃ k j, k < x.s.K ∧ j < x.s.h k ∧ (x.s.cons k j).pc = .bRelock ∧ owed x.s k j

/-- a handler is *ready*: it reaches its next progress event (cursor store, exit, parking while owed a wake-up, or the
`notify_all` that an owed handler waits for) after a bounded number of own enabled steps, whatever the others do -/
def readyC (x : PSt) (k j : Nat) : Prop :=
  match (x.s.cons k j).pc with
  | .handle | .publish | .bUnlockGo | .bUnlockExit => True
  | .checkAvail => (x.s.cons k j).next ≤ (x.s.cons k j).avail ∨ owed x.s k j
  | .waitLoad => owed x.s k j ∨
      (condC x.s k (x.s.cons k j) ∧ bad (x.s.cons k j) = false ∧ x.s.isDone = false)
  | .bWait => owed x.s k j
  | .bRelock => x.s.woken k j = true ∧ condCD x.s k j
  | .sLock | .sNotify => condCD x.s k j ∨ owedParked x
  | .readOwn | .bLock | .bAlert | .sUnlock | .bUnlockRetry => condCD x.s k j
  | .checkAlert | .done => False

def readyP (x : PSt) : Prop :=
  match x.p.pc with
  | .gateCheck | .gateLoad => condG x.s x.p.stop
  | .drainLoad | .drainCheck | .dUnlock => condD x.s x.p.nextWrite
  | .dLock | .dNotify => condD x.s x.p.nextWrite ∨ owedParked x
  | .done => False
  | _ => True

def ready (x : PSt) : Tid → Prop
  | .prod => readyP x
  | .cons k j => k < x.s.K ∧ j < x.s.h k ∧ readyC x k j

/-- `readyP`, read off the producer's record: `cg`, `cd` = its gate / drain condition as a function of the sequence it
waits for, `op` = somebody is parked and owed a wake-up -/
def readyPB (cg cd : Nat → Prop) (op : Prop) (p : Prod) : Prop :=
  match p.pc with
  | .gateCheck | .gateLoad => cg p.stop
  | .drainLoad | .drainCheck | .dUnlock => cd p.nextWrite
  | .dLock | .dNotify => cd p.nextWrite ∨ op
  | .done => False
  | _ => True

open Classical in
/-- upper bound on the producer's own steps until its next progress event: `ng` gating sequences, ring size `n` -/
noncomputable def rankPB (ng n : Nat) (cd : Nat → Prop) (p : Prod) : Nat :=
  let A := 1 + (p.stop + 2 - p.start)
  match p.pc with
  | .gateCheck => if p.min + n < p.stop then 1 + ((ng + 1) + A) else A
  | .gateLoad => if stale p.stop n p.acc then (ng - p.idx) + 1 + (1 + ((ng + 1) + A)) else (ng - p.idx) + 1 + A
  | .write => p.stop + 2 - p.w
  | .pLock | .eLock | .fLock => 3
  | .pNotify | .eNotify | .fNotify => 2
  | .pUnlock | .eUnlock | .fUnlock => 1
  | .drainLoad => if stale (p.nextWrite - 1) 0 p.acc then (ng - p.idx) + 1 + (ng + 6) else (ng - p.idx) + 2
  | .drainCheck => if p.min < p.nextWrite - 1 then ng + 6 else 1
  | .dLock => if cd p.nextWrite then ng + 5 else 2
  | .dNotify => if cd p.nextWrite then ng + 4 else 1
  | .dUnlock => ng + 3
  | _ => 0

noncomputable def rankP (x : PSt) : Nat := rankPB (ngate x.s) x.s.n (condD x.s) x.p

theorem readyP_iff (x : PSt) : readyP x ↔ readyPB (condG x.s) (condD x.s) (owedParked x) x.p := Iff.rfl

noncomputable def rank : Tid → PSt → Nat
  | .prod, x => rankP x
  | .cons k j, x => CS.rankC x.s k j

theorem notifier_ready (x : PSt) (h : JInv x) (hop : owedParked x) : ∃ t, inTopo x.s.K x.s.h t ∧ ready x t := by
  obtain ⟨k, j, hk, hj, hpc, ho⟩ := hop
  rcases h.b.nlw k j hk hj ho with hp | ⟨a, b, ha, hb, hc⟩
  · refine ⟨.prod, trivial, ?_⟩
    show readyP x
    have hop : owedParked x := ⟨k, j, hk, hj, hpc, ho⟩
    cases hpp : x.p.pc <;> simp only [hpp, pPend] at hp <;> simp_all [readyP]
  · refine ⟨.cons a b, ⟨ha, hb⟩, ha, hb, ?_⟩
    have hop : owedParked x := ⟨k, j, hk, hj, hpc, ho⟩
    unfold readyC
    cases hpp : (x.s.cons a b).pc <;> simp only [hpp, cPend] at hc <;> simp_all

theorem readyP_afterSet (x : PSt) (hpa : pAfterSet x.p.pc = true) (hpd : x.p.pc ≠ .done) : readyP x := by
  cases hpc : x.p.pc <;> simp_all [readyP, pAfterSet]

/-- **no deadlock**, for any notion `R` of handler readiness that covers every handler whose wait is over: in a
non-terminal state the producer is ready or some handler is -/
theorem exists_ready_of (x : PSt) (h : Fit x) (R : Nat → Nat → Prop)
    (hC : ∀ k j, k < x.s.K → j < x.s.h k → (x.s.cons k j).pc ≠ .done → condCD x.s k j → R k j)
    (hnt : ¬ terminal x) : readyP x ∨ ∃ k j, k < x.s.K ∧ j < x.s.h k ∧ R k j := by
  apply Classical.byContradiction; intro hno
  have hnoP : ¬ readyP x := fun hr => hno (Or.inl hr)
  have hw : ∀ k j, k < x.s.K → j < x.s.h k → (x.s.cons k j).pc ≠ .done → ¬ condCD x.s k j :=
    fun k j hk hj hnd hc => hno (Or.inr ⟨k, j, hk, hj, hC k j hk hj hnd hc⟩)
  have hM := h.b.mtx
  by_cases hd : x.s.isDone = true
  · -- every handler has finished, so the producer has not: it is after `is_done := true`, hence ready
    have hall : ∀ k j, k < x.s.K → j < x.s.h k → (x.s.cons k j).pc = .done :=
      fun k j hk hj => Classical.byContradiction fun hnd => hw k j hk hj hnd (Or.inr hd)
    exact hnoP (readyP_afterSet x (hM.doneIff.1 hd) (fun hpd => hnt ⟨hpd, hall⟩))
  · -- no handler has finished, none has its wait condition: they have caught up, the producer's conditions hold
    have hw' : ∀ k j, k < x.s.K → j < x.s.h k → ¬ condC x.s k (x.s.cons k j) :=
      fun k j hk hj hc => hw k j hk hj (fun hpc => hd (hM.consDone k j hk hj (Or.inl hpc))) (Or.inl hc)
    obtain ⟨hcG, hcD⟩ := prod_conds_of_stuck x h hw'
    apply hnoP
    cases hpc : x.p.pc <;> simp only [readyP, hpc] <;> first
      | trivial
      | exact hcG (by simp [hpc])
      | exact hcD (by simp [hpc, PPc.idle])
      | exact Or.inl (hcD (by simp [hpc, PPc.idle]))
      | (exfalso; exact hd (hM.doneIff.2 (by simp [hpc, pAfterSet])))

/-- **no deadlock, strong form** (blocking strategy): in every non-terminal state some thread of the topology is ready -/
theorem exists_ready (x : PSt) (h : JInv x) (hnt : ¬ terminal x) : ∃ t, inTopo x.s.K x.s.h t ∧ ready x t := by
  rcases exists_ready_of x h.toFit (fun k j => readyC x k j ∨ ((x.s.cons k j).pc = .bRelock ∧ owed x.s k j))
      (fun k j hk hj hnd hc => CS.cons_ready_of_cond x.s h.blk k j (h.b.mtx.blkC h.blk k j hk hj).2 hnd hc) hnt with hr | ⟨k, j, hk, hj, hr | ⟨hp, ho⟩⟩
  · exact ⟨.prod, trivial, hr⟩
  · exact ⟨.cons k j, ⟨hk, hj⟩, hk, hj, hr⟩
  · exact notifier_ready x h ⟨k, j, hk, hj, hp, ho⟩

theorem hown_cons (x : PSt) (h : JInv x) (k j : Nat) (hk : k < x.s.K) (hj : j < x.s.h k)
    (hr : readyC x k j) (he : enabled x (.cons k j) = true) :
    μ (xC x k j) < μ x ∨ (CS.rankC (xC x k j).s k j < CS.rankC x.s k j ∧ readyC (xC x k j) k j) :=
  (CS.hown_cons x.s h.b.base.1 h.blk k j hk hj hr he).imp (μ_drop x h hk hj) id

theorem condG_prod (x : PSt) (stop : Nat) : condG (stepProd x).s stop ↔ condG x.s stop := by
  obtain ⟨ec, eK, eh, en, _⟩ := cons_same_prod x
  simp only [condG, ngate, gate, ec, eK, eh, en]

theorem condD_prod (x : PSt) (nw : Nat) : condD (stepProd x).s nw ↔ condD x.s nw := by
  obtain ⟨ec, eK, eh, en, _⟩ := cons_same_prod x
  simp only [condD, ngate, gate, ec, eK, eh]

theorem ngate_prod (x : PSt) : ngate (stepProd x).s = ngate x.s := by
  obtain ⟨ec, eK, eh, en, _⟩ := cons_same_prod x
  simp only [ngate, eK, eh]

open Classical in
/-- The producer's own enabled step when ready, over what it observes: one of its progress events, the `notify_all` of
the drain loop with the drain condition still open, or its rank drops and it stays ready. `hop`: taking the mutex
keeps a parked and owed handler so. -/
theorem own_rankPB (x : PSt) (cg cd : Nat → Prop) (op op' : Prop) (hP : PInv x.s x.p) (hgpos : 0 < ngate x.s)
    (hcg : ∀ stop, cg stop → condG x.s stop) (hcd : ∀ nw, cd nw → condD x.s nw)
    (hop : x.p.pc = .dLock → op → op') (hr : readyPB cg cd op x.p) (he : enabled x .prod = true) :
    progP x ∨ (x.p.pc = .dNotify ∧ ¬ cd x.p.nextWrite) ∨
      (rankPB (ngate x.s) x.s.n cd (stepProd x).p < rankPB (ngate x.s) x.s.n cd x.p ∧
       readyPB cg cd op' (stepProd x).p) := by
  cases hpc : x.p.pc <;> simp only [readyPB, hpc] at hr
  case start | drainInit | publish | pUnlock | setDone | eUnlock | dropDone | fUnlock =>
    exact .inl (by simp [progP, hpc])
  case pLock | eLock | fLock =>
    have hm : x.s.mtx = none := by simpa [enabled, hpc] using he
    exact .inr (.inr (by simp [stepProd, rankPB, readyPB, hpc, hm]))
  case pNotify | eNotify | fNotify => exact .inr (.inr (by simp [stepProd, rankPB, readyPB, hpc]))
  case gateCheck =>
    refine .inr (.inr ?_)
    by_cases hc : x.p.min + x.s.n < x.p.stop
    · simp only [stepProd, hpc, hc, if_true, rankPB, readyPB]; exact ⟨by simp [stale], hr⟩
    · simp only [stepProd, hpc, hc, if_false, rankPB, readyPB]; exact ⟨by omega, trivial⟩
  case gateLoad =>
    refine .inr (.inr ?_)
    by_cases hlt : x.p.idx < ngate x.s
    · -- one more load: the stale-snapshot flag stays as it is
      have hb := stale_minOpt x.p.stop x.s.n (gate x.s x.p.idx) (hcg _ hr _ hlt) x.p.acc
      simp only [stepProd, hpc, hlt, if_true, rankPB, readyPB, hb]; exact ⟨by split <;> omega, hr⟩
    · -- the minimum `m` is complete: the flag is what `gateCheck` will see
      have hidx : x.p.idx = ngate x.s := by have := hP.idxLe (.inl hpc); omega
      obtain ⟨m, hacc⟩ := Option.isSome_iff_exists.1 (hP.accSome (.inl hpc) (by have := hgpos; omega))
      simp only [stepProd, hpc, hlt, if_false, rankPB, readyPB, stale, hacc, Option.any_some, Option.getD_some,
        decide_eq_true_eq]
      exact ⟨by split <;> omega, hr⟩
  case write =>
    refine .inr (.inr ?_)
    have hwr := hP.wr (.inl hpc)
    by_cases hle : x.p.w ≤ x.p.stop
    · simp only [stepProd, hpc, hle, if_true, rankPB, readyPB]; exact ⟨by omega, trivial⟩
    · simp only [stepProd, hpc, hle, if_false, rankPB, readyPB]; exact ⟨by omega, trivial⟩
  case drainLoad =>
    refine .inr (.inr ?_)
    by_cases hlt : x.p.idx < ngate x.s
    · have hb := stale_minOpt (x.p.nextWrite - 1) 0 (gate x.s x.p.idx) (hcd _ hr _ hlt) x.p.acc
      simp only [stepProd, hpc, hlt, if_true, rankPB, readyPB, hb]; exact ⟨by split <;> omega, hr⟩
    · have hidx : x.p.idx = ngate x.s := by have := hP.idxLe (.inr hpc); omega
      obtain ⟨m, hacc⟩ := Option.isSome_iff_exists.1 (hP.accSome (.inr hpc) (by have := hgpos; omega))
      simp only [stepProd, hpc, hlt, if_false, rankPB, readyPB, stale, hacc, Option.any_some, Option.getD_some,
        decide_eq_true_eq, Nat.add_zero]
      exact ⟨by split <;> omega, hr⟩
  case drainCheck =>
    by_cases hc : x.p.min < x.p.current
    · -- another round of the drain loop: with the blocking strategy through `signal()`, else directly
      refine .inr (.inr ?_)
      have hc' : x.p.min < x.p.nextWrite - 1 := hP.cur (by simp [hpc, PPc.draining]) ▸ hc
      cases hbl : x.s.blocking <;> simp only [stepProd, hpc, hc, hc', hbl, if_true, rankPB, readyPB]
      · exact ⟨by simp [stale], hr⟩
      · exact ⟨by simp [hr], .inl hr⟩
    · exact .inl (by simp [progP, hpc, hc])
  case dLock =>
    have hm : x.s.mtx = none := by simpa [enabled, hpc] using he
    refine .inr (.inr ?_)
    simp only [stepProd, hpc, hm, if_true, rankPB, readyPB]; exact ⟨by split <;> omega, hr.imp id (hop hpc)⟩
  case dNotify =>
    by_cases hc : cd x.p.nextWrite
    · refine .inr (.inr ?_)
      simp only [stepProd, hpc, rankPB, readyPB, hc, if_true]; exact ⟨by omega, trivial⟩
    · exact .inr (.inl ⟨rfl, hc⟩)
  case dUnlock =>
    refine .inr (.inr ?_)
    simp only [stepProd, hpc, rankPB, readyPB]; exact ⟨by simp [stale], hr⟩

theorem hown_prod (x : PSt) (h : PInvAll x) (hr : readyP x) (he : enabled x .prod = true) :
    progP x ∨ (x.p.pc = .dNotify ∧ ¬ condD x.s x.p.nextWrite) ∨
      (rankP (stepProd x) < rankP x ∧ readyP (stepProd x)) := by
  have hG : condG (stepProd x).s = condG x.s := funext fun _ => propext (condG_prod x _)
  have hD : condD (stepProd x).s = condD x.s := funext fun _ => propext (condD_prod x _)
  rw [readyP_iff, rankP, rankP, ngate_prod, (cons_same_prod x).2.2.2.1, hG, hD]
  refine own_rankPB x _ _ _ _ h.2.2.1 (ngate_pos x.s h.1.1 h.2.1) (fun _ => id) (fun _ => id) (fun hpc hop => ?_) hr he
  -- `lock` changes nothing the obligations read
  have hm : x.s.mtx = none := by simpa [enabled, hpc] using he
  have e : (stepProd x).s = { x.s with mtx := some .prod } := by simp [stepProd, hpc, hm]
  show CS.owedParked (stepProd x).s
  rw [e]; exact CS.owedParked_congr x.s _ rfl rfl rfl rfl rfl rfl rfl hop

theorem μ_dNotify_lt (x : PSt) (h : JInv x) (hpc : x.p.pc = .dNotify) (hop : owedParked x) : μ (stepProd x) < μ x := by
  obtain ⟨a, b, ha, hb, hpa, hoa⟩ := hop
  have e : stepProd x = { s := { x.s with woken := fun _ _ => true }, p := { x.p with pc := .dUnlock } } := by
    simp [stepProd, hpc]
  exact μ_prod_lt_of_ow x h (by simp [hpc]) ⟨a, b, ha, hb, CS.ow_notified x.s _ a b (by rw [e]) hpa hoa (by rw [e])⟩

theorem prod_frame' (x x' : PSt) (hp : x'.p = x.p) (hg : ∀ d, gate x'.s d = gate x.s d)
    (hng : ngate x'.s = ngate x.s) (hn : x'.s.n = x.s.n) (hop : owedParked x → owedParked x')
    (hr : readyP x) : rankP x' = rankP x ∧ readyP x' := by
  have hG : condG x'.s = condG x.s := by funext stop; simp only [condG, hg, hng, hn]
  have hD : condD x'.s = condD x.s := by funext nw; simp only [condD, hg, hng]
  refine ⟨by unfold rankP; rw [hp, hng, hn, hD], ?_⟩
  rw [readyP_iff] at hr ⊢
  rw [hp, hG, hD]
  unfold readyPB at hr ⊢
  cases hpc : x.p.pc <;> simp only [hpc] at hr ⊢ <;> first | exact hr | exact hr.imp id hop

theorem stutter (x : PSt) (t : Tid) (he : enabled x t = false) : stepX x t = x := by
  cases t with
  | prod =>
    show stepProd x = x
    cases hm : x.s.mtx <;> cases hpc : x.p.pc <;> simp only [enabled, hpc, hm] at he <;> (try cases he) <;>
      simp [stepProd, hpc, hm]
  | cons k j =>
    simp only [stepX]; split
    · rw [stepC_stutter x.s k j he]
    · rfl

theorem owedParked_prod_step (x : PSt) (h : JInv x)
    (hns : ¬(x.p.pc = .publish ∨ x.p.pc = .setDone ∨ x.p.pc = .dropDone)) :
    (owedParked x → owedParked (stepProd x)) ∨ μ (stepProd x) < μ x := by
  by_cases hop : owedParked x
  · obtain ⟨ec, h1, h2, eK, eh, ebl, h3⟩ := prod_frame x hns
    exact (CS.owedParked_frame x.s _ ec h1 h2 eK eh ebl h3 hop).imp (fun h _ => h) (μ_prod_lt_of_ow x h hns)
  · exact Or.inl (fun hh => absurd hh hop)

theorem owedParked_cons_step (x : PSt) (h : JInv x) (k j : Nat) (hk : k < x.s.K) (hj : j < x.s.h k)
    (hnp : (x.s.cons k j).pc ≠ .publish) :
    (owedParked x → owedParked (xC x k j)) ∨ μ (xC x k j) < μ x := by
  by_cases hop : owedParked x
  · exact (CS.owedParked_cons_step x.s k j hnp hop).imp (fun h _ => h) (fun hd => μ_drop x h hk hj (Or.inr ⟨hnp, hd⟩))
  · exact Or.inl (fun hh => absurd hh hop)

theorem hoth (x : PSt) (t u : Tid) (h : JInv x) (hr : ready x t) (hu : u ≠ t ∨ ¬ enabled x t = true) :
    μ (stepX x u) < μ x ∨ (rank t (stepX x u) ≤ rank t x ∧ ready (stepX x u) t) := by
  by_cases hut : u = t
  · subst hut
    have hen : enabled x u = false := by
      rcases hu with hu | hu
      · exact absurd rfl hu
      · simpa using hu
    rw [stutter x u hen]; exact Or.inr ⟨Nat.le_refl _, hr⟩
  cases u with
  | prod =>
    show μ (stepProd x) < μ x ∨ _
    by_cases hs : x.p.pc = .publish ∨ x.p.pc = .setDone ∨ x.p.pc = .dropDone
    · exact Or.inl (μ_prod_lt x h (progP_of_store hs))
    cases t with
    | prod => exact absurd rfl hut
    | cons k j =>
      obtain ⟨hk, hj, hrc⟩ := hr
      obtain ⟨ec, f1, f2, eK, eh, ebl, f3⟩ := prod_frame x hs
      rcases owedParked_prod_step x h hs with hop | hdrop
      · right
        have := CS.cons_frame x.s (stepProd x).s h.blk k j (by rw [ec]) (by rw [ec]; intros; rfl) f1 f2 eh ebl
          (by rcases f3 with f3 | f3 <;> rw [f3] <;> simp) hop hrc
        exact ⟨Nat.le_of_eq this.1, by show k < (stepProd x).s.K; rw [eK]; exact hk,
          by show j < (stepProd x).s.h k; rw [eh]; exact hj, this.2⟩
      · exact Or.inl hdrop
  | cons a b =>
    by_cases hv : a < x.s.K ∧ b < x.s.h a
    · rw [stepX_cons_in x hv.1 hv.2]
      by_cases hp : (x.s.cons a b).pc = .publish
      · exact Or.inl (μ_drop x h hv.1 hv.2 (Or.inl (CS.publish_progress x.s a b hv.1 hv.2 h.b.base.1 hp)))
      have hcur := cons_cur_nonpublish x.s a b _ hp
      rcases owedParked_cons_step x h a b hv.1 hv.2 hp with hop | hdrop
      · right
        cases t with
        | prod =>
          have := prod_frame' x (xC x a b) rfl (CS.gate_stepC x.s a b hcur) rfl rfl hop hr
          exact ⟨Nat.le_of_eq this.1, this.2⟩
        | cons k j =>
          obtain ⟨hk, hj, hrc⟩ := hr
          have hne : ¬(k = a ∧ j = b) := fun he => hut (by rw [he.1, he.2])
          have := CS.cons_frame x.s (stepC x.s a b) h.blk k j (stepC_other _ _ _ _ _ hne)
            (CS.stepC_cur_same x.s a b hcur) rfl rfl rfl rfl
            (by
              intro hw
              show wokenAfterC x.s a b k j = true
              cases hh : wokenAfterC x.s a b k j
              · have := woken_other x.s a b k j hne hh; rw [hw] at this; cases this
              · rfl) hop hrc
          exact ⟨Nat.le_of_eq this.1, hk, hj, this.2⟩
      · exact Or.inl hdrop
    · rw [stepX_cons_out x hv]; exact Or.inr ⟨Nat.le_refl _, hr⟩

def hrP : PPc → Nat
  | .pNotify | .dNotify | .eNotify | .fNotify => 2
  | .pUnlock | .dUnlock | .eUnlock | .fUnlock => 1
  | _ => 0

def hrank (x : PSt) : Nat :=
  match x.s.mtx with
  | some .prod => hrP x.p.pc
  | some (.cons k j) => hrC (ndeps x.s k) (x.s.cons k j)
  | none => 0

theorem hold_prod_step (x : PSt) (hm : x.s.mtx = some .prod) (hc : pHold x.p.pc = true) :
    (stepProd x).s.mtx = none ∨
    ((stepProd x).s.mtx = some .prod ∧ hrP (stepProd x).p.pc < hrP x.p.pc) := by
  cases hpc : x.p.pc <;> simp only [hpc, pHold] at hc <;> (try cases hc) <;> simp [stepProd, hpc, hm, hrP]

theorem hhown (x : PSt) (u : Tid) (h : JInv x) (hm : x.s.mtx = some u) :
    (stepX x u).s.mtx = none ∨ (hrank (stepX x u) < hrank x ∧ (stepX x u).s.mtx = some u) := by
  cases u with
  | prod =>
    have hc := (h.b.mtx.blkP h.blk).2 hm
    rcases hold_prod_step x hm hc with h1 | ⟨h1, h2⟩
    · exact Or.inl h1
    · right
      refine ⟨?_, h1⟩
      show hrank (stepProd x) < hrank x
      simp only [hrank, h1, hm]; exact h2
  | cons k j =>
    obtain ⟨hk, hj⟩ := h.b.mtx.owner k j hm
    have hc := ((h.b.mtx.blkC h.blk k j hk hj).1).2 hm
    rw [stepX_cons_in x hk hj]
    rcases hold_cons_step x.s k j h.blk hm hc with h1 | ⟨h1, h2⟩
    · exact Or.inl h1
    · have e1 : (xC x k j).s.mtx = some (.cons k j) := h1
      exact Or.inr ⟨by simp only [hrank, e1, hm]; exact h2, h1⟩

theorem hhoth (x : PSt) (u v : Tid) (h : JInv x) (hm : x.s.mtx = some u) (hne : v ≠ u) :
    hrank (stepX x v) = hrank x ∧ (stepX x v).s.mtx = some u := by
  have hM := h.b.mtx
  cases v with
  | prod =>
    show hrank (stepProd x) = hrank x ∧ (stepProd x).s.mtx = some u
    obtain ⟨ec, eK, eh, en, ebl⟩ := cons_same_prod x
    have hmm : (stepProd x).s.mtx = x.s.mtx :=
      ((mtx_other hne (prod_mtx_step x h.blk (hM.blkP h.blk)).2).2 hm).trans hm.symm
    refine ⟨?_, by rw [hmm]; exact hm⟩
    cases u with
    | prod => exact absurd rfl hne
    | cons k j =>
      have hn : ndeps (stepProd x).s k = ndeps x.s k := by simp [ndeps, eh]
      simp only [hrank, hmm, hm, ec, hn]
  | cons a b =>
    by_cases hv : a < x.s.K ∧ b < x.s.h a
    · rw [stepX_cons_in x hv.1 hv.2]
      obtain ⟨c1, c2⟩ := hM.blkC h.blk a b hv.1 hv.2
      have hmm : (xC x a b).s.mtx = x.s.mtx :=
        ((mtx_other hne (cons_mtx_step x.s a b h.blk c1 c2).2.2).2 hm).trans hm.symm
      refine ⟨?_, by rw [hmm]; exact hm⟩
      cases u with
      | prod => simp only [hrank, hmm, hm]; rfl
      | cons k j =>
        have hkj : ¬(k = a ∧ j = b) := by intro he; apply hne; rw [he.1, he.2]
        have e2 : (xC x a b).s.cons k j = x.s.cons k j := stepC_other _ _ _ _ _ hkj
        have e3 : ndeps (xC x a b).s k = ndeps x.s k := rfl
        simp only [hrank, hmm, hm, e2, e3]
    · rw [stepX_cons_out x hv]; exact ⟨rfl, hm⟩

theorem hen (x : PSt) (t : Tid) (hr : ready x t) (hf : x.s.mtx = none) : enabled x t = true := by
  cases t with
  | prod =>
    have hr' : readyP x := hr
    cases hpc : x.p.pc <;> simp_all [enabled, readyP]
  | cons k j =>
    exact CS.hen_cons x.s k j hr.2.2 hf

/-- **C06 core (single producer, blocking wait)**: from every configuration whose batches fit the ring, every
schedule that is weakly fair and strongly fair (a thread of the topology whose step is enabled infinitely often takes an
enabled step infinitely often — only `lock` / `relock` steps can be disabled) drives the pipeline to the state where the
producer has returned from `drain` and `Drop` and every handler thread has terminated. -/
theorem ring_terminates (x0 : PSt) (h0 : JInv x0) (σ : Nat → Tid)
    (hwf : Fair.WeakFair (inTopo x0.s.K x0.s.h) σ)
    (hsf : Fair.StrongFair stepX (fun x t => enabled x t = true) (inTopo x0.s.K x0.s.h) σ x0) :
    ∃ n, terminal (Fair.run stepX σ x0 n) := by
  apply Fair.fair_termination_sf stepX (inTopo x0.s.K x0.s.h)
    (fun x => JInv x ∧ x.s.K = x0.s.K ∧ x.s.h = x0.s.h) terminal (fun x t => enabled x t = true) ready μ rank
    (fun x => x.s.mtx = none) (fun x u => x.s.mtx = some u) hrank
  · intro s t ⟨hs, e1, e2⟩
    obtain ⟨f1, f2, _⟩ := topo_step s t
    exact ⟨jinv_step s t hs, by rw [f1, e1], by rw [f2, e2]⟩
  · intro s t hs; exact μ_mono s t hs.1
  · intro s ⟨hs, e1, e2⟩ hnt
    obtain ⟨t, ht, hr⟩ := exists_ready s hs hnt
    exact ⟨t, by rw [← e1, ← e2]; exact ht, hr⟩
  · intro s t hs hr he
    cases t with
    | prod =>
      rcases hown_prod s hs.1.b.base hr he with hp | ⟨hpc, hc⟩ | h
      · exact Or.inl (μ_prod_lt s hs.1 hp)
      · have hr' : readyP s := hr
        simp only [readyP, hpc] at hr'
        exact Or.inl (μ_dNotify_lt s hs.1 hpc (hr'.resolve_left hc))
      · exact Or.inr h
    | cons k j =>
      obtain ⟨hk, hj, hrc⟩ := hr
      rw [stepX_cons_in s hk hj]
      rcases hown_cons s hs.1 k j hk hj hrc he with h1 | ⟨h1, h2⟩
      · exact Or.inl h1
      · exact Or.inr ⟨h1, hk, hj, h2⟩
  · intro s t u hs hr hu; exact hoth s t u hs.1 hr hu
  · intro s t _ hr hf; exact hen s t hr hf
  · intro s ⟨hs, e1, e2⟩ hnf
    cases hm : s.s.mtx with
    | none => exact absurd hm hnf
    | some u =>
      refine ⟨u, ?_, rfl⟩
      cases u with
      | prod => trivial
      | cons k j => rw [← e1, ← e2]; exact hs.b.mtx.owner k j hm
  · intro s u hs hm
    rcases hhown s u hs.1 hm with h1 | ⟨h1, h2⟩
    · exact Or.inr (Or.inl h1)
    · exact Or.inr (Or.inr ⟨h1, h2⟩)
  · intro s u v hs hm hne
    obtain ⟨h1, h2⟩ := hhoth s u v hs.1 hm hne
    exact Or.inr (Or.inr ⟨Nat.le_of_eq h1, h2⟩)
  · exact ⟨h0, rfl, rfl⟩
  · exact hwf
  · exact hsf

theorem jinv_init (n K : Nat) (h : Nat → Nat) (batches : List Nat)
    (hK : 0 < K) (hh : ∀ k, k < K → 0 < h k) (hb : ∀ b, b ∈ batches → 1 ≤ b ∧ b ≤ n) :
    JInv (mk n K h true batches) :=
  ⟨fit_init n K h true batches hK hh hb, rfl⟩

/-- the thread's next step is a mutex acquisition (`lock`, or the re-acquisition after `cvar.wait`) -/
def atLock (x : PSt) : Tid → Bool
  | .prod => match x.p.pc with
    | .pLock | .dLock | .eLock | .fLock => true
    | _ => false
  | .cons k j => match (x.s.cons k j).pc with
    | .bLock | .sLock | .bRelock => true
    | _ => false

def finished (x : PSt) : Tid → Bool
  | .prod => decide (x.p.pc = .done)
  | .cons k j => decide ((x.s.cons k j).pc = .done)

theorem enabled_of_plain (x : PSt) (t : Tid) (h1 : ¬ atLock x t = true) (h2 : ¬ finished x t = true) :
    enabled x t = true := by
  cases t with
  | prod => cases hpc : x.p.pc <;> simp_all [atLock, finished, enabled]
  | cons k j => cases hpc : (x.s.cons k j).pc <;> simp_all [atLock, finished, enabled]

theorem not_finished_of_enabled (x : PSt) (t : Tid) (h : enabled x t = true) : ¬ finished x t = true := by
  cases t with
  | prod => cases hpc : x.p.pc <;> simp_all [finished, enabled]
  | cons k j => cases hpc : (x.s.cons k j).pc <;> simp_all [finished, enabled]

theorem plain_other (x : PSt) (t u : Tid) (hne : u ≠ t) :
    atLock (stepX x u) t = atLock x t ∧ finished (stepX x u) t = finished x t := by
  cases u with
  | prod =>
    cases t with
    | prod => exact absurd rfl hne
    | cons k j =>
      obtain ⟨ec, _⟩ := cons_same_prod x
      show atLock (stepProd x) (.cons k j) = _ ∧ finished (stepProd x) (.cons k j) = _
      simp only [atLock, finished, ec, and_self]
  | cons a b =>
    simp only [stepX]; split
    · cases t with
      | prod => exact ⟨rfl, rfl⟩
      | cons k j =>
        have hkj : ¬(k = a ∧ j = b) := by intro he; apply hne; rw [he.1, he.2]
        simp only [atLock, finished, stepC_other _ _ _ _ _ hkj, and_self]
    · exact ⟨rfl, rfl⟩

/-- strong fairness for lock acquisition only: a thread whose `lock` / `relock` step is enabled infinitely often
eventually takes it (while enabled) -/
def LockFair (P : Tid → Prop) (σ : Nat → Tid) (x0 : PSt) : Prop :=
  ∀ t, P t →
    (∀ n, ∃ m, n ≤ m ∧ atLock (Fair.run stepX σ x0 m) t = true ∧ enabled (Fair.run stepX σ x0 m) t = true) →
    ∀ n, ∃ m, n ≤ m ∧ σ m = t ∧ atLock (Fair.run stepX σ x0 m) t = true ∧ enabled (Fair.run stepX σ x0 m) t = true

theorem strongFair_of_lockFair (P : Tid → Prop) (σ : Nat → Tid) (x0 : PSt)
    (hwf : Fair.WeakFair P σ) (hlf : LockFair P σ x0) :
    Fair.StrongFair stepX (fun x t => enabled x t = true) P σ x0 :=
  Fair.strongFair_of_lockFair stepX P (fun x t => enabled x t = true) (fun x t => atLock x t = true)
    (fun x t => finished x t = true) enabled_of_plain not_finished_of_enabled
    (fun x t u hne h1 h2 => by rw [(plain_other x t u hne).1, (plain_other x t u hne).2]; exact ⟨h1, h2⟩)
    σ x0 hwf hlf

theorem jinv_run (x : PSt) (sched : List Tid) (h : JInv x) : JInv (runX x sched) :=
  runX_inv JInv jinv_step x sched h

theorem terminal_not_enabled (x : PSt) (ht : terminal x) (t : Tid) (hP : inTopo x.s.K x.s.h t) :
    enabled x t = false := by
  cases t with
  | prod => simp [enabled, ht.1]
  | cons k j => simp [enabled, ht.2 k j hP.1 hP.2]

theorem terminal_fixed (x : PSt) (ht : terminal x) (t : Tid) : stepX x t = x := by
  cases t with
  | prod => exact stutter x .prod (terminal_not_enabled x ht .prod trivial)
  | cons k j =>
    by_cases hv : k < x.s.K ∧ j < x.s.h k
    · exact stutter x (.cons k j) (terminal_not_enabled x ht (.cons k j) hv)
    · simp [stepX, hv]

theorem lockFair_of_terminates (σ : Nat → Tid) (x0 : PSt) (T : Nat) (ht : terminal (Fair.run stepX σ x0 T)) :
    LockFair (inTopo x0.s.K x0.s.h) σ x0 := by
  obtain ⟨eK, eh, _⟩ := topo_frun σ x0 T
  exact Fair.lockFair_of_terminates stepX (inTopo x0.s.K x0.s.h) (fun x t => enabled x t = true)
    (fun x t => atLock x t = true) σ x0 T (terminal_fixed _ ht)
    (fun t hPt => by rw [terminal_not_enabled _ ht t (by rw [eK, eh]; exact hPt)]; simp)

end Blk

namespace Spin

def ready (x : PSt) : Tid → Prop
  | .prod => Blk.readyP x
  | .cons k j => k < x.s.K ∧ j < x.s.h k ∧ readyC x.s k (x.s.cons k j)

structure LInv (x : PSt) : Prop extends Fit x where
  spin : x.s.blocking = false

theorem linv_step (x : PSt) (t : Tid) (h : LInv x) : LInv (stepX x t) :=
  ⟨fit_step x t h.toFit, by rw [blocking_step]; exact h.spin⟩

/-- **no deadlock** (spin): in every non-terminal state satisfying the invariant some thread is ready -/
theorem exists_ready (x : PSt) (h : LInv x) (hnt : ¬ terminal x) : ∃ t, inTopo x.s.K x.s.h t ∧ ready x t := by
  rcases Blk.exists_ready_of x h.toFit (fun k j => readyC x.s k (x.s.cons k j))
      (fun k j hk hj hnd hc => by
        have hsp := h.b.mtx.spinC h.spin k j hk hj
        unfold Blk.condCD at hc
        cases hpc : (x.s.cons k j).pc <;> simp_all [readyC, cSpin]) hnt with hr | ⟨k, j, hk, hj, hr⟩
  · exact ⟨.prod, trivial, hr⟩
  · exact ⟨.cons k j, ⟨hk, hj⟩, hk, hj, hr⟩

def phaseP : PPc → Nat
  | .gateCheck | .gateLoad | .write | .publish => 6
  | .start => 5 | .drainInit => 4 | .drainLoad | .drainCheck => 3 | .setDone => 2 | .dropDone => 1
  | _ => 0

def μP (x : PSt) : Nat := (fin x - x.s.cursor) + 3 * x.p.todo.length + phaseP x.p.pc

def μ (x : PSt) : Nat := CS.μC (fin x) x.s + μP x

theorem μP_xC (x : PSt) (k j : Nat) : μP (xC x k j) = μP x := rfl

theorem μC_drop (x : PSt) (h : PInvAll x) {k j : Nat} (hk : k < x.s.K) (hj : j < x.s.h k)
    (hp : progressC (x.s.cons k j) (stepCons x.s k j (x.s.cons k j))) : μ (xC x k j) < μ x :=
  Nat.add_lt_add_right (CS.μC_progress (fin x) x.s k j hk hj h.1 (cursor_le_fin x h) hp) _

theorem μP_prod (x : PSt) (h : LInv x) : μP (stepProd x) ≤ μP x ∧ (Blk.progP x → μP (stepProd x) < μP x) := by
  have hf := fin_prod x h.b.base
  have hcf := cursor_le_fin x h.b.base
  have hspin := h.spin
  have hpp := h.b.mtx.spinP h.spin
  have hwr := h.b.base.2.2.1.wr
  clear h
  simp only [μP, hf, Blk.progP]
  cases hpc : x.p.pc <;> simp only [hpc, pSpin] at hpp <;> try contradiction
  case start =>
    cases htodo : x.p.todo with
    | nil => simp [stepProd, hpc, htodo, phaseP]
    | cons b rest => simp [stepProd, hpc, htodo, phaseP]; omega
  case publish => have := hwr (Or.inr hpc); simp [stepProd, hpc, hspin, phaseP]; omega
  case drainCheck => by_cases hc : x.p.min < x.p.current <;> simp [stepProd, hpc, hc, hspin, phaseP]
  all_goals (simp only [stepProd, hpc, hspin, Bool.false_eq_true, ↓reduceIte] <;> (try split) <;> simp [phaseP])

theorem μ_mono (x : PSt) (t : Tid) (h : LInv x) : μ (stepX x t) ≤ μ x := by
  cases t with
  | prod =>
    show μ (stepProd x) ≤ μ x
    simp only [μ, μC_prod x h.b.base]; have := (μP_prod x h).1; omega
  | cons k j =>
    by_cases hv : k < x.s.K ∧ j < x.s.h k
    · rw [stepX_cons_in x hv.1 hv.2]
      exact Nat.add_le_add_right (CS.μC_stepC_le (fin x) x.s k j hv.1 hv.2 h.b.base.1) _
    · rw [stepX_cons_out x hv]; exact Nat.le_refl _

theorem μ_prod_lt (x : PSt) (h : LInv x) (hp : Blk.progP x) : μ (stepProd x) < μ x := by
  show CS.μC (fin (stepProd x)) (stepProd x).s + μP (stepProd x) < CS.μC (fin x) x.s + μP x
  rw [μC_prod x h.b.base]
  exact Nat.add_lt_add_left ((μP_prod x h).2 hp) _

theorem prod_step_frame (x : PSt) (hpp : pSpin x.p.pc = true) :
    (x.p.pc = .publish ∨ x.p.pc = .setDone ∨ x.p.pc = .dropDone) ∨ (stepProd x).s = x.s := by
  cases hpc : x.p.pc <;> simp only [hpc, pSpin] at hpp <;> (try contradiction)
  case publish | setDone | dropDone => exact Or.inl (by simp)
  all_goals (right; simp only [stepProd, hpc] <;> (try split) <;> (try split) <;> rfl)

noncomputable def rank : Tid → PSt → Nat
  | .prod, x => Blk.rankP x
  | .cons k j, x => CS.rankS x.s k j

open Classical in
theorem fair_hown (x : PSt) (t : Tid) (h : LInv x) (hr : ready x t) :
    μ (stepX x t) < μ x ∨ (rank t (stepX x t) < rank t x ∧ ready (stepX x t) t) := by
  cases t with
  | prod =>
    rcases Blk.hown_prod x h.b.base hr (Blk.hen x .prod hr (h.b.mtx.spinM h.spin)) with hp | ⟨hpc, _⟩ | hrk
    · exact Or.inl (μ_prod_lt x h hp)
    · have := h.b.mtx.spinP h.spin
      simp [hpc, pSpin] at this
    · exact Or.inr hrk
  | cons k j =>
    obtain ⟨hk, hj, hrc⟩ := hr
    rw [stepX_cons_in x hk hj]
    rcases CS.spin_hown x.s h.b.base.1 h.spin k j hk hj hrc with hp | ⟨hrk, hrd⟩
    · exact Or.inl (μC_drop x h.b.base hk hj hp)
    · exact Or.inr ⟨hrk, hk, hj, hrd⟩

open Classical in
theorem fair_hoth (x : PSt) (t u : Tid) (h : LInv x) (hne : u ≠ t) (hr : ready x t) :
    μ (stepX x u) < μ x ∨ (rank t (stepX x u) ≤ rank t x ∧ ready (stepX x u) t) := by
  cases u with
  | prod =>
    show μ (stepProd x) < μ x ∨ _
    rcases prod_step_frame x (h.b.mtx.spinP h.spin) with hs | hs
    · exact Or.inl (μ_prod_lt x h (Blk.progP_of_store hs))
    · right
      cases t with
      | prod => exact absurd rfl hne
      | cons k' j' =>
        obtain ⟨hk, hj, hrc⟩ := hr
        refine ⟨?_, ?_⟩
        · show rankC (ndeps (stepProd x).s k') (decide (condC (stepProd x).s k' ((stepProd x).s.cons k' j')))
            (stepProd x).s.cursor (stepProd x).s.isDone ((stepProd x).s.cons k' j') ≤ _
          rw [hs]; exact Nat.le_refl _
        · show k' < (stepProd x).s.K ∧ j' < (stepProd x).s.h k' ∧ readyC (stepProd x).s k' ((stepProd x).s.cons k' j')
          rw [hs]; exact ⟨hk, hj, hrc⟩
  | cons k j =>
    by_cases hv : k < x.s.K ∧ j < x.s.h k
    · rw [stepX_cons_in x hv.1 hv.2]
      rcases Classical.em (progressC (x.s.cons k j) (stepCons x.s k j (x.s.cons k j))) with hp | hnp
      · exact Or.inl (μC_drop x h.b.base hv.1 hv.2 hp)
      · right
        have hcur := cons_step_cur x.s k j _ (h.b.base.1.2 k j hv.1 hv.2) hnp
        cases t with
        | prod =>
          have := Blk.prod_frame' x (xC x k j) rfl (CS.gate_stepC x.s k j hcur) rfl rfl
            (fun ⟨_, _, _, _, _, ho⟩ => absurd (owed_blocking ho) (by simp [h.spin])) hr
          exact ⟨Nat.le_of_eq this.1, this.2⟩
        | cons k' j' =>
          obtain ⟨hk', hj', hrc⟩ := hr
          have hne' : ¬(k' = k ∧ j' = j) := fun he => hne (by rw [he.1, he.2])
          have := CS.spin_frame x.s (stepC x.s k j) k' j' (stepC_other _ _ _ _ _ hne')
            (CS.stepC_cur_same x.s k j hcur) rfl rfl rfl hrc
          exact ⟨Nat.le_of_eq this.1, hk', hj', this.2⟩
    · rw [stepX_cons_out x hv]; exact Or.inr ⟨Nat.le_refl _, hr⟩

/-- **C06 core (single producer, spin wait)**: from every configuration whose batches fit the ring, every schedule in
which every thread of the topology occurs infinitely often drives the pipeline to the state where the producer has
returned from `drain` and `Drop` and every handler thread has terminated. -/
theorem ring_terminates (x0 : PSt) (h0 : LInv x0) (σ : Nat → Tid)
    (hf : Fair.WeakFair (inTopo x0.s.K x0.s.h) σ) :
    ∃ n, terminal (Fair.run stepX σ x0 n) := by
  apply Fair.fair_termination stepX (inTopo x0.s.K x0.s.h)
    (fun x => LInv x ∧ x.s.K = x0.s.K ∧ x.s.h = x0.s.h) terminal ready μ rank
  · intro s t ⟨hs, e1, e2⟩
    obtain ⟨f1, f2, _⟩ := topo_step s t
    exact ⟨linv_step s t hs, by rw [f1, e1], by rw [f2, e2]⟩
  · intro s t hs; exact μ_mono s t hs.1
  · intro s ⟨hs, e1, e2⟩ hnt
    obtain ⟨t, ht, hr⟩ := exists_ready s hs hnt
    exact ⟨t, by rw [← e1, ← e2]; exact ht, hr⟩
  · intro s t hs hr; exact fair_hown s t hs.1 hr
  · intro s t u hs hne hr; exact fair_hoth s t u hs.1 hne hr
  · exact ⟨h0, rfl, rfl⟩
  · exact hf

theorem linv_init (n K : Nat) (h : Nat → Nat) (batches : List Nat)
    (hK : 0 < K) (hh : ∀ k, k < K → 0 < h k) (hb : ∀ b, b ∈ batches → 1 ≤ b ∧ b ≤ n) :
    LInv (mk n K h false batches) :=
  ⟨fit_init n K h false batches hK hh hb, rfl⟩

end Spin
end Ring
