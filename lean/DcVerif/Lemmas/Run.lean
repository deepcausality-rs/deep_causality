/-! Runs that stop at the first step that fails: `run s (x :: xs)` continues from `s'` when `step s x = ok s'`.
`Model.BitMap.run` and `C17.storeAll` are two such functions (with `ok := some`). -/
namespace Lemmas.Run

variable {σ τ ρ : Type} {step : σ → τ → ρ} {run : σ → List τ → ρ} {ok : σ → ρ}

/-- An invariant `I s l` ("`s` represents the history `l`, newest first") that every step on an input satisfying `P`
keeps, while answering `ok`, holds after the whole run, which answers `ok` too. -/
theorem run_inv (hnil : ∀ s, run s [] = ok s) (hcons : ∀ s s' x xs, step s x = ok s' → run s (x :: xs) = run s' xs)
    {I : σ → List τ → Prop} {P : τ → Prop}
    (hstep : ∀ s l x, P x → I s l → ∃ s', step s x = ok s' ∧ I s' (x :: l)) :
    ∀ (xs : List τ) (s : σ) (l : List τ), (∀ x ∈ xs, P x) → I s l → ∃ s', run s xs = ok s' ∧ I s' (xs.reverse ++ l)
  | [], s, _, _, h => ⟨s, hnil s, h⟩
  | x :: xs, s, l, hP, h => by
    obtain ⟨s1, h1, hi1⟩ := hstep s l x (hP x List.mem_cons_self) h
    obtain ⟨s2, h2, hi2⟩ := run_inv hnil hcons hstep xs s1 (x :: l) (fun y hy => hP y (List.mem_cons_of_mem x hy)) hi1
    exact ⟨s2, (hcons s s1 x xs h1).trans h2, by rwa [List.reverse_cons, List.append_assoc]⟩

end Lemmas.Run
