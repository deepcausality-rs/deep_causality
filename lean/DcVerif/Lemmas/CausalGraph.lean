import DcVerif.Model.CausalGraph
import DcVerif.Lemmas.GraphDfs
/-! Lemmas about the `CausaloidGraph` model: invariant of graphs built by adds only, reachability stays inside the graph,
the activation flags after a log. -/
namespace CausalGraph
open Dfs (V)

/-- what adds alone keep: petgraph hands out `0, 1, …`, so the live indices are those below `upper` (`idx`), `node_map` has
exactly one entry for each (`len`, `node`, `keys`), and `add_edge`'s guards and `add_root_node` leave edges and root on live
indices (`adj`, `root`) -/
structure WF (g : CG) : Prop where
  idx : ∀ i, contains g i = true ↔ i < g.upper
  len : g.nodeMap.length = g.upper
  node : ∀ i, i < g.upper → ∃ nd, g.nodeMap.lookup i = some nd
  keys : ∀ kv, kv ∈ g.nodeMap → kv.1 < g.upper
  adj : ∀ e, e ∈ g.adj → e.1 < g.upper ∧ e.2.1 < g.upper
  root : ∀ r, g.root = some r → r < g.upper

theorem wf_empty : WF {} :=
  ⟨fun i => by simp [contains], rfl, fun i h => by simp at h, fun e h => by simp at h, fun e h => by simp at h,
    fun r h => by simp at h⟩

theorem wf_addNode (g : CG) (nd : Node) (h : WF g) : WF (addNode g nd).1 := by
  refine ⟨fun i => ?_, by simp [addNode, h.len], fun i hi => ?_, fun kv hkv => ?_,
    fun e he => ?_, fun r hr => ?_⟩
  · have := h.idx i
    simp only [contains, addNode, List.contains_cons, Bool.or_eq_true, beq_iff_eq] at this ⊢
    rw [this]; omega
  · simp only [addNode, List.lookup_cons] at hi ⊢
    by_cases hi' : i = g.upper
    · exact ⟨nd, by simp [hi']⟩
    · obtain ⟨x, hx⟩ := h.node i (by omega)
      exact ⟨x, by simp [hx, beq_false_of_ne hi']⟩
  · simp only [addNode, List.mem_cons] at hkv ⊢
    rcases hkv with rfl | hkv
    · simp
    · have := h.keys kv hkv; omega
  · have := h.adj e he
    simp only [addNode]; omega
  · have := h.root r hr
    simp only [addNode]; omega

theorem wf_addRoot (g : CG) (nd : Node) (h : WF g) : WF (addRoot g nd).1 := by
  have h' := wf_addNode g nd h
  refine ⟨h'.idx, h'.len, h'.node, h'.keys, h'.adj, ?_⟩
  intro r hr
  simp only [addRoot, addNode] at hr ⊢
  cases hr; omega

theorem wf_addEdge (g g' : CG) (a b w : Nat) (h : WF g) (he : addEdge g a b w = some g') : WF g' := by
  unfold addEdge at he
  split at he; · cases he
  rename_i ha
  split at he; · cases he
  rename_i hb
  split at he; · cases he
  cases he
  refine ⟨h.idx, h.len, h.node, h.keys, ?_, h.root⟩
  intro e hmem
  simp only [List.mem_append, List.mem_singleton] at hmem
  rcases hmem with hmem | rfl
  · exact h.adj e hmem
  · simp only [Bool.not_eq_eq_eq_not] at ha hb
    exact ⟨(h.idx a).1 (by simpa using ha), (h.idx b).1 (by simpa using hb)⟩

theorem wf_step (g : CG) (op : Op) (h : WF g) : WF (step g op) := by
  cases op with
  | add nd => exact wf_addNode g nd h
  | root nd => exact wf_addRoot g nd h
  | edge a b w =>
    simp only [step]
    cases he : addEdge g a b w with
    | none => exact h
    | some g' => exact wf_addEdge g g' a b w h he

theorem wf_build (ops : List Op) : WF (build ops) := by
  suffices ∀ g, WF g → WF (ops.foldl step g) from this {} wf_empty
  induction ops with
  | nil => intro g h; exact h
  | cons op ops ih => intro g h; exact ih _ (wf_step g op h)

theorem lastIndex_eq_upper {g : CG} (h : WF g) : lastIndex g = g.upper := h.len

/-- the graph the DFS machine runs on: a missing observation (panic) stops the traversal like an error does -/
def toG (g : CG) (data : List Nat) (idx : Option (List (Nat × Nat))) : Dfs.G where
  out := out g
  eval := fun v => match evalAt g data idx v with | some x => x | none => .e

/-- reachability along `outgoing_edges` (reflexive, transitive) -/
def Reach (g : CG) (a b : Nat) : Prop := Dfs.Reach (toG g [] none) a b

theorem reach_gOf (g : CG) (ev : Nat → Option V) (a b : Nat) : Dfs.Reach (Dfs.gOf (out g) ev) a b ↔ Reach g a b :=
  have h : (Dfs.gOf (out g) ev).out = (toG g [] none).out := rfl
  ⟨Dfs.Reach.congr_out h, Dfs.Reach.congr_out h.symm⟩

theorem out_lt (g : CG) (a b : Nat) (h : b ∈ out g a) : b < g.upper := by
  simp only [out, List.mem_filter, List.mem_range] at h
  exact h.1

theorem reach_lt (g : CG) (a b : Nat) (h : Reach g a b) (ha : a < g.upper) : b < g.upper :=
  Dfs.Reach.bound (out_lt g) h ha

def Acyclic (g : CG) : Prop := ∃ rank : Nat → Nat, ∀ a b, b ∈ out g a → rank b < rank a

theorem applyVerdict_length (fl : List Bool) (v : Nat) (x : V) : (applyVerdict fl v x).length = fl.length := by
  cases x <;> simp [applyVerdict, setFlag]

theorem applyVerdict_ne (fl : List Bool) (u v : Nat) (x : V) (h : u ≠ v) : (applyVerdict fl u x)[v]? = fl[v]? := by
  cases x <;> simp [applyVerdict, setFlag, List.getElem?_set_ne h]

theorem applyLog_length (ev : Nat → Option V) : ∀ (log : List Nat) (fl : List Bool),
    (applyLog ev fl log).length = fl.length := by
  intro log
  induction log with
  | nil => intro fl; rfl
  | cons u us ih =>
    intro fl
    simp only [applyLog, List.foldl_cons] at ih ⊢
    rw [ih]
    cases ev u with
    | none => rfl
    | some x => exact applyVerdict_length fl u x

theorem applyLog_not_mem (ev : Nat → Option V) (v : Nat) : ∀ (log : List Nat) (fl : List Bool), v ∉ log →
    (applyLog ev fl log)[v]? = fl[v]? := by
  intro log
  induction log with
  | nil => intro fl _; rfl
  | cons u us ih =>
    intro fl hv
    simp only [List.mem_cons, not_or] at hv
    simp only [applyLog, List.foldl_cons] at ih ⊢
    rw [ih _ hv.2]
    cases ev u with
    | none => rfl
    | some x => exact applyVerdict_ne fl u v x (Ne.symm hv.1)

theorem applyLog_all_true (ev : Nat → Option V) (v : Nat) : ∀ (log : List Nat) (fl : List Bool),
    (∀ u, u ∈ log → ev u = some .t) → v ∈ log → v < fl.length → (applyLog ev fl log)[v]? = some true := by
  intro log
  induction log with
  | nil => intro fl _ hv; simp at hv
  | cons u us ih =>
    intro fl hall hv hlen
    have hu := hall u (by simp)
    simp only [applyLog, List.foldl_cons, hu] at ih ⊢
    by_cases hvs : v ∈ us
    · exact ih _ (fun w hw => hall w (by simp [hw])) hvs (by rw [applyVerdict_length]; exact hlen)
    · have : v = u := by simpa [hvs] using hv
      subst this
      have := applyLog_not_mem ev v us (applyVerdict fl v .t) hvs
      simp only [applyLog] at this
      rw [this]
      simp [applyVerdict, setFlag, hlen]

end CausalGraph
