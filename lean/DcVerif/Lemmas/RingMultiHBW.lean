import DcVerif.Lemmas.RingMultiHB
/-!
The ghost (vector-clock) invariant of `Model/RingMultiHB.lean`, part 2: preservation by every step of a writer thread
(`next`: `readHw capLoad capCheck casHw`, slot writes, `publish`: `setBit readLw scan relCheck unsetBit casCur reloadCur setLw`,
`signal`), and the invariant for **every schedule** (`hmgood_run`), every ring size `2^k`, topology, wait strategy, number of
writer threads and batch lists.

The chain for R1: the claimant `A` of sequence `q` writes the slot (its own clock entry counts the write, `WKnow.claimW/S`),
`fetch_or`s the bit of `q` (`bOr` release: the word's clock now knows the write — `HLoc.lB`, tied to "the bit is set" by the
release-safety invariant `MRel` of `Lemmas/RingMultiSafe.lean`: a set bit has exactly one published witness above the cursor,
and a sequence whose bit is being set is pending with exactly one writer); a publisher `B` that scans the word (`bLoad`
acquire) and sees the bit set learns the write (`WKnow.good`: `B` knows everything up to `good_to_release`; below its stale low
watermark through the low watermark's clock, `HLoc.lLw`); `B`'s successful CAS on the cursor (`casOk` release) makes the
cursor's clock cover the new cursor value (`HLoc.lCur`); handlers acquire it from there (`HCons`, as for the single producer).
R3 / R4 and writer/writer across laps: `has_capacity`'s acquire loads of the last-stage cursors (`WKnow.min`, `WKnow.minW`).
-/
namespace RingMultiHB
open Ring RingMulti Gen.Orderings
open RingHB (availPc)

theorem stepWriter_written_app (x : MSt) (i : Nat) : ∃ L, (stepWriter x i).written = x.written ++ L ∧
    (∀ a, a ≠ i → wlog L a = []) := by
  rw [stepWriter_written]; unfold writtenAfterW; split
  · exact ⟨_, rfl, fun a ha => by rw [wlog_single, if_neg (fun e => ha e.symm)]⟩
  · exact ⟨[], (List.append_nil _).symm, fun _ _ => rfl⟩

theorem relaxed_load (v ld : VC) : loadClock .relaxed v ld = v := rfl

theorem writerV_cases (o : Ords) (s : HMSt) (i : Nat) (hZ : HDom s) :
    ((s.x.wr i).pc = .write ∧ (s.x.wr i).w ≤ (s.x.wr i).hi ∧ writerV o s i = (s.vcW i).incW i) ∨
    (¬((s.x.wr i).pc = .write ∧ (s.x.wr i).w ≤ (s.x.wr i).hi) ∧
      ∃ (oo : Ord) (ld : VC), Dom (ow s) (oh s) ld ∧ writerV o s i = loadClock oo (s.vcW i) ld) := by
  cases hpc : (s.x.wr i).pc <;> simp only [writerV, hpc]
  case write =>
    by_cases h : (s.x.wr i).w ≤ (s.x.wr i).hi
    · left; simp [h]
    · right; exact ⟨by simp [h], .relaxed, {}, dom_empty _ _, by simp [h, relaxed_load]⟩
  -- the clock joined in is that of the location the program point reads; where nothing is read, the empty clock
  case readHw | casHw => right; refine ⟨by simp, ?_⟩; (try split) <;> exact ⟨_, _, hZ.dHw, rfl⟩
  case readLw => right; exact ⟨by simp, _, _, hZ.dLw, rfl⟩
  case reloadCur | casCur => right; refine ⟨by simp, ?_⟩; (try split) <;> exact ⟨_, _, hZ.dCur, rfl⟩
  case capLoad =>
    right; refine ⟨by simp, ?_⟩; split
    · exact ⟨_, _, hZ.dH _ _, rfl⟩
    · exact ⟨.relaxed, {}, dom_empty _ _, rfl⟩
  case setBit | scan | unsetBit =>
    right; refine ⟨by simp, ?_⟩; split
    · exact ⟨_, _, hZ.dB _, rfl⟩
    · exact ⟨.relaxed, {}, dom_empty _ _, rfl⟩
  all_goals (right; exact ⟨by simp, .relaxed, {}, dom_empty _ _, rfl⟩)

theorem writerV_le (o : Ords) (s : HMSt) (i : Nat) (hZ : HDom s) : (s.vcW i).le (writerV o s i) := by
  rcases writerV_cases o s i hZ with ⟨_, _, e⟩ | ⟨_, oo, ld, _, e⟩ <;> rw [e]
  · exact le_incW _ _
  · exact le_loadClock _ _ _

theorem writerV_own (o : Ords) (s : HMSt) (i : Nat) (hZ : HDom s) :
    (writerV o s i).pw i = if (s.x.wr i).pc = .write ∧ (s.x.wr i).w ≤ (s.x.wr i).hi then (s.vcW i).pw i + 1 else (s.vcW i).pw i := by
  rcases writerV_cases o s i hZ with ⟨h1, h2, e⟩ | ⟨h, oo, ld, hld, e⟩ <;> rw [e]
  · simp [h1, h2, VC.incW]
  · rw [if_neg h]
    unfold loadClock; split
    · simp only [VC.join]; exact Nat.max_eq_left (hld.1 i)
    · rfl

theorem writerCur_le (o : Ords) (s : HMSt) (i : Nat) : s.lcCur.le (writerCur o s i) := by
  unfold writerCur; (repeat' split) <;> first | exact le_refl' _ | exact le_rmwClock _ _ _

theorem writerB_le (o : Ords) (s : HMSt) (i ix : Nat) : (s.lcB ix).le (writerB o s i ix) := by
  have key : ∀ (j : Nat) (c : VC), (s.lcB j).le c → (s.lcB ix).le (updV1 s.lcB j c ix) := by
    intro j c hc
    by_cases he : ix = j
    · subst he; simpa using hc
    · rw [updV1_other _ _ _ _ he]; exact le_refl' _
  cases hpc : (s.x.wr i).pc <;> simp only [writerB, hpc] <;> (try split) <;>
    first | exact le_refl' _ | exact key _ _ (le_rmwClock _ _ _)

def wstep (o : Ords) (s : HMSt) (i : Nat) : HMSt :=
  { s with x := stepWriter s.x i, vcW := updV1 s.vcW i (writerV o s i), lcCur := writerCur o s i,
           lcHw := writerHw o s i, lcLw := writerLw o s i, lcB := writerB o s i }

theorem stepMH_writer (o : Ords) (s : HMSt) (i : Nat) (hi : i < s.x.P) : stepMH o s (.writer i) = wstep o s i := by
  simp [stepMH, hi, wstep]

theorem hdom_writer (o : Ords) (s : HMSt) (i : Nat) (hZ : HDom s) : HDom (wstep o s i) := by
  have hv := writerV_le o s i hZ
  have how : ∀ a, ow s a ≤ ow (wstep o s i) a := by
    intro a
    by_cases he : a = i
    · subst he; simp [ow, wstep]; exact hv.1 a
    · simp [ow, wstep, updV1_other _ _ _ _ he]
  have hoh : ∀ k j, oh s k j ≤ oh (wstep o s i) k j := fun _ _ => Nat.le_refl _
  have old : ∀ c, Dom (ow s) (oh s) c → Dom (ow (wstep o s i)) (oh (wstep o s i)) c := fun c hc => dom_mono hc how hoh
  have hv' : Dom (ow (wstep o s i)) (oh (wstep o s i)) (writerV o s i) := by
    rcases writerV_cases o s i hZ with ⟨_, _, e⟩ | ⟨_, oo, ld, hld, e⟩
    · refine ⟨fun a => ?_, fun a b => ?_⟩
      · by_cases he : a = i
        · subst he; simp [ow, wstep]
        · rw [e]; simp only [ow, wstep, updV1_other _ _ _ _ he, VC.incW, he, if_false]; exact (hZ.dW i).1 a
      · rw [e]; exact (hZ.dW i).2 a b
    · rw [e]; exact old _ (dom_load _ (hZ.dW i) hld)
  refine ⟨?_, ?_, ?_, fun a b => old _ (hZ.dH a b), ?_, ?_, fun a b => old _ (hZ.dC a b), old _ hZ.dD⟩
  · show Dom _ _ (writerCur o s i)
    unfold writerCur; (repeat' split) <;> first | exact old _ hZ.dCur | exact dom_rmw _ hv' (old _ hZ.dCur)
  · show Dom _ _ (writerHw o s i)
    unfold writerHw; (repeat' split) <;> first | exact old _ hZ.dHw | exact dom_rmw _ hv' (old _ hZ.dHw)
  · show Dom _ _ (writerLw o s i)
    unfold writerLw; split <;> first | exact old _ hZ.dLw | exact old _ (dom_store _ (hZ.dW i))
  · intro ix
    show Dom _ _ (writerB o s i ix)
    have key : ∀ (j : Nat) (c : VC), Dom (ow (wstep o s i)) (oh (wstep o s i)) c →
        Dom (ow (wstep o s i)) (oh (wstep o s i)) (updV1 s.lcB j c ix) := by
      intro j c hc
      by_cases he : ix = j
      · subst he; simpa using hc
      · rw [updV1_other _ _ _ _ he]; exact old _ (hZ.dB ix)
    cases hpc : (s.x.wr i).pc <;> simp only [writerB, hpc] <;> (try split) <;>
      first | exact old _ (hZ.dB ix) | exact key _ _ (dom_rmw _ hv' (old _ (hZ.dB _)))
  · intro a
    show Dom _ _ (updV1 s.vcW i (writerV o s i) a)
    by_cases he : a = i
    · subst he; simpa using hv'
    · rw [updV1_other _ _ _ _ he]; exact old _ (hZ.dW a)

theorem hcons_writer (s : HMSt) (i : Nat) (hC : HCons s.x.written s.x.s s.vcC s.lcH) :
    HCons (stepWriter s.x i).written (stepWriter s.x i).s s.vcC s.lcH := by
  obtain ⟨L, hL, _⟩ := stepWriter_written_app s.x i
  rw [hL, stepWriter_eq]; exact hcons_mono hC L

/-- what a writer's local step from `w` to `w'` does to the fields `WKnow` reads, told backwards: if a guard of `WKnow` holds
after the step, how the step got there -/
structure StepWBack (x : MSt) (w w' : Writer) : Prop where
  minG    : w'.minG = if w.pc = .capLoad ∧ ¬ w.idx < ngate x.s then w.acc.getD 0 else w.minG
  capLoad : w'.pc = .capLoad →
    (w.pc = .readHw ∧ w'.acc = none) ∨
    (w.pc = .capLoad ∧ w.idx < ngate x.s ∧ w'.acc = minOpt w.acc (gate x.s w.idx) ∧ w'.idx = w.idx + 1)
  setBit  : w'.pc = .setBit → w'.lo = w.lo ∧ w'.hi = w.hi ∧ ((w.pc = .write ∧ w.hi < w.w) ∨ w.pc = .setBit)
  good    : goodPc w'.pc →
    (goodPc w.pc ∧ w'.good = w.good) ∨ (w.pc = .readLw ∧ w'.good = x.lw) ∨
    (w.pc = .scan ∧ w.good < w.hi ∧ bmIsSet x.bm (w.good + 1) = true ∧ w'.good = w.good + 1)

theorem stepW_back (x : MSt) (w : Writer) : StepWBack x w (stepW x w) := by
  unfold stepW
  -- in most branches the new pc is not the guard's (`cases` on the impossible equation), the rest is arithmetic
  cases hpc : w.pc <;> simp only <;> (repeat' split) <;> refine ⟨?_, ?_, ?_, ?_⟩ <;>
    first | (intro h; cases h; done) | (simp [goodPc, *] <;> omega)

/-- the writer-local part: given the facts the non-trivial program points establish (`hcapA … hscan`), every clause of
`WKnow` holds for the writer's new record (the clock `v'` and the log `W'` are those *after* the step) -/
theorem wknow_own1 (x : MSt) (w : Writer) (W' : List (Nat × Nat)) (K : Nat) (h : Nat → Nat) (n : Nat) (v' : VC)
    (base : WKnow W' K h n v' w)
    (hcapA : w.pc = .capLoad → w.idx < ngate x.s → ∀ m, minOpt w.acc (gate x.s w.idx) = some m →
        ((∀ k j, k < K - 1 → j < h k → m ≤ v'.ha k j) ∧ KnowsUpTo W' v' m) ∧ (∀ d, d < w.idx + 1 → m ≤ v'.ha (K - 1) d))
    (hcapB : w.pc = .capLoad → ¬ w.idx < ngate x.s →
        (∀ k j, k < K → j < h k → w.acc.getD 0 ≤ v'.ha k j) ∧ KnowsUpTo W' v' (w.acc.getD 0))
    (hwr : w.pc = .write → w.w ≤ w.hi → KnowsW W' v' w.w)
    (hrl : w.pc = .readLw → CoversM W' K h n v' 0 x.lw)
    (hscan : w.pc = .scan → w.good < w.hi → bmIsSet x.bm (w.good + 1) = true → CoversM W' K h n v' 0 (w.good + 1)) :
    WKnow W' K h n v' (stepW x w) := by
  have hmin : (∀ k j, k < K → j < h k → (stepW x w).minG ≤ v'.ha k j) ∧ KnowsUpTo W' v' (stepW x w).minG := by
    rw [(stepW_back x w).minG]; split
    · rename_i hc; exact hcapB hc.1 hc.2
    · exact ⟨base.min, base.minW⟩
  refine ⟨hmin.1, hmin.2, fun hp m hm => ?_, fun hp q h1 h2 => ?_, fun hp q h1 h2 => ?_, fun hp => ?_⟩
  · rcases (stepW_back x w).capLoad hp with ⟨_, e⟩ | ⟨hpc, hlt, e1, e2⟩
    · rw [e] at hm; cases hm
    · rw [e1] at hm; rw [e2]
      have := hcapA hpc hlt m hm
      exact ⟨fun _ => this.1, this.2⟩
  · rcases stepW_pc_write x w hp with ⟨hpc, hle, e⟩ | ⟨_, _, e⟩ <;> rw [e] at h1 h2 <;> dsimp only at h1 h2
    · by_cases hq : q < w.w
      · exact base.claimW hpc q h1 hq
      · have : q = w.w := by omega
        subst this; exact hwr hpc hle
    · omega
  · obtain ⟨e1, e2, hc⟩ := (stepW_back x w).setBit hp
    rw [e1] at h1; rw [e2] at h2
    rcases hc with ⟨hpc, hlt⟩ | hpc
    · exact base.claimW hpc q h1 (by omega)
    · exact base.claimS hpc q h1 h2
  · rcases (stepW_back x w).good hp with ⟨hg, e⟩ | ⟨hpc, e⟩ | ⟨hpc, hlt, hb, e⟩ <;> rw [e]
    · exact base.good hg
    · exact hrl hpc
    · exact hscan hpc hlt hb

/-- the word index the three generated index functions compute is `slotOf` (and the three functions are the same) -/
theorem wordIx_eq {x : MSt} (h : BmOk x.s.n x.bm) (q : Nat) :
    wordIx x Gen.BitMap.is_set_index q = C19.slotOf x.s.n q ∧ wordIx x Gen.BitMap.set_index q = C19.slotOf x.s.n q ∧
    wordIx x Gen.BitMap.unset_index q = C19.slotOf x.s.n q := by
  obtain ⟨k, b, hist, hn, hb, hinv⟩ := h
  obtain ⟨h1, h2, h3⟩ := C19.index_nf hinv.shape q
  simp only [wordIx, bmIndex, hb, hn]
  exact ⟨h1, h2, h3⟩

/-- `has_capacity`, one acquire load of a last-stage cursor -/
theorem capA_fact (o : Ords) (hget : o.get.isAcquire = true) (s : HMSt) (i : Nat) (hi : i < s.x.P) (hc : MCap s.x)
    (hH : HMInv s) (L : List (Nat × Nat)) (hpc : (s.x.wr i).pc = .capLoad) (hlt : (s.x.wr i).idx < ngate s.x.s) :
    ∀ m, minOpt (s.x.wr i).acc (gate s.x.s (s.x.wr i).idx) = some m →
      ((∀ k j, k < s.x.s.K - 1 → j < s.x.s.h k → m ≤ (writerV o s i).ha k j) ∧
        KnowsUpTo (s.x.written ++ L) (writerV o s i) m) ∧
      (∀ d, d < (s.x.wr i).idx + 1 → m ≤ (writerV o s i).ha (s.x.s.K - 1) d) := by
  intro m hm
  have hK := hc.1.2.2
  have e : writerV o s i = (s.vcW i).join (s.lcH (s.x.s.K - 1) (s.x.wr i).idx) := by
    simp [writerV, hpc, hlt, loadClock, hget]
  have hle := minOpt_le _ _ _ hm
  obtain ⟨g1, g2⟩ := (hH.hc (s.x.s.K - 1) (s.x.wr i).idx (by omega) (by simpa [ngate] using hlt)).lH
  have hg : gate s.x.s (s.x.wr i).idx = (s.x.s.cons (s.x.s.K - 1) (s.x.wr i).idx).cur := rfl
  rw [← hg] at g1 g2
  rw [e]
  refine ⟨⟨fun k j hk hj => ?_, ?_⟩, fun d hd => ?_⟩
  · have := g1.prev k j hk (by omega) hj
    simp only [VC.join]; exact Nat.le_trans (Nat.le_trans hle.1 this) (Nat.le_max_right _ _)
  · exact KnowsUpTo.mono (fun q h1 h2 => g1.pw q h1 h2) (le_join_right _ _) hle.1 L
  · refine minOpt_step_le_of_le _ _ _ _ (fun m0 hacc d hdi => ?_) ((hc.2 i hi).accSome hpc) ?_ _ hm d hd
    · exact Nat.le_trans (((hH.hw.know i hi).ld hpc m0 hacc).2 d hdi) (Nat.le_max_left _ _)
    · exact Nat.le_trans g2 (Nat.le_max_right _ _)

/-- `has_capacity`, all last-stage cursors loaded: the minimum is known for every handler of every stage -/
theorem capB_fact (o : Ords) (s : HMSt) (i : Nat) (hi : i < s.x.P) (hc : MCap s.x)
    (hH : HMInv s) (L : List (Nat × Nat)) (hpc : (s.x.wr i).pc = .capLoad) (hge : ¬ (s.x.wr i).idx < ngate s.x.s) :
    (∀ k j, k < s.x.s.K → j < s.x.s.h k → (s.x.wr i).acc.getD 0 ≤ (writerV o s i).ha k j) ∧
    KnowsUpTo (s.x.written ++ L) (writerV o s i) ((s.x.wr i).acc.getD 0) := by
  have hK := hc.1.2.2
  have hgpos := ngate_pos s.x.s hc.1.2.1.1 hK
  have e : writerV o s i = s.vcW i := by simp [writerV, hpc, hge]
  have hidx : (s.x.wr i).idx = ngate s.x.s := by have := (hc.2 i hi).idxLe hpc; omega
  have hsome := (hc.2 i hi).accSome hpc (by omega)
  rw [e]
  cases hacc : (s.x.wr i).acc with
  | none => simp [hacc] at hsome
  | some m =>
    simp only [Option.getD_some]
    obtain ⟨b1, b2⟩ := (hH.hw.know i hi).ld hpc m hacc
    obtain ⟨b3, b4⟩ := b1 (by omega)
    refine ⟨fun k j hk hj => ?_, b4.mono (le_refl' _) (Nat.le_refl _) L⟩
    by_cases hkl : k < s.x.s.K - 1
    · exact b3 k j hkl hj
    · have : k = s.x.s.K - 1 := by omega
      subst this
      exact b2 j (by rw [hidx]; simpa [ngate] using hj)

/-- the slot write: the writer's new clock knows it -/
theorem write_fact (o : Ords) (s : HMSt) (i : Nat) (hi : i < s.x.P) (hH : HMInv s)
    (hpc : (s.x.wr i).pc = .write) (hle : (s.x.wr i).w ≤ (s.x.wr i).hi) :
    KnowsW (stepWriter s.x i).written (writerV o s i) (s.x.wr i).w := by
  have e : writerV o s i = (s.vcW i).incW i := by simp [writerV, hpc, hle]
  rw [stepWriter_written, writtenAfterW, if_pos ⟨hpc, hle⟩]
  refine ⟨i, (wlog s.x.written i).length, ?_, ?_⟩
  · rw [wlog_append, wlog_single, if_pos rfl]; simp
  · rw [e]; simp [VC.incW, hH.hw.own i hi]

/-- the acquire load of the low watermark -/
theorem readLw_fact (o : Ords) (hget : o.get.isAcquire = true) (s : HMSt) (i : Nat) (hH : HMInv s) (L : List (Nat × Nat))
    (hpc : (s.x.wr i).pc = .readLw) :
    CoversM (s.x.written ++ L) s.x.s.K s.x.s.h s.x.s.n (writerV o s i) 0 s.x.lw := by
  have e : writerV o s i = loadClock o.get (s.vcW i) s.lcLw := by simp [writerV, hpc]
  rw [e]
  exact hH.hl.lLw.mono (loc_le_loadClock _ hget _ _) (Nat.le_refl _) L

/-- the scan: an acquire load of the word of `good + 1` that finds the bit set teaches the publisher the slot write of
`good + 1` — the bit is the bit of a published sequence `q0` above the cursor with the same residue (release safety), whose
word clock knows `q0` and everything a lap below `q0`; either `q0 = good + 1`, or `good + 1` is at or below the cursor and `q0`
is at least a lap above it -/
theorem scan_fact (o : Ords) (hbl : o.bLoad.isAcquire = true) (s : HMSt) (i : Nat) (hi : i < s.x.P) (hS : MSafe s.x)
    (hH : HMInv s) (L : List (Nat × Nat)) (hpc : (s.x.wr i).pc = .scan) (hlt : (s.x.wr i).good < (s.x.wr i).hi)
    (hbit : bmIsSet s.x.bm ((s.x.wr i).good + 1) = true) :
    CoversM (s.x.written ++ L) s.x.s.K s.x.s.h s.x.s.n (writerV o s i) 0 ((s.x.wr i).good + 1) := by
  have hR := hS.2
  have hix := (wordIx_eq hR.bmOk ((s.x.wr i).good + 1)).1
  have e : writerV o s i = (s.vcW i).join (s.lcB (C19.slotOf s.x.s.n ((s.x.wr i).good + 1))) := by
    simp [writerV, hpc, hlt, loadClock, hbl, hix]
  have hgood := (hH.hw.know i hi).good (by simp [goodPc, hpc])
  obtain ⟨q0, hr, hp, hq0⟩ := hR.bits _ hbit
  have hb0 : bmIsSet s.x.bm q0 = true := by rw [bmIsSet_congr hR.bmOk q0 _ hr]; exact hbit
  have hk := hH.hl.lB q0 hp hq0 hb0
  rw [show C19.slotOf s.x.s.n q0 = C19.slotOf s.x.s.n ((s.x.wr i).good + 1) by unfold C19.slotOf; rw [hr]] at hk
  have hws := hR.ws i hi
  have hhi := hws.hiLe
  have hwin := hR.window
  have hq0hw := hp.2.1
  -- what the word's clock knows about `good + 1`
  have hself : KnowsW s.x.written (s.lcB (C19.slotOf s.x.s.n ((s.x.wr i).good + 1))) ((s.x.wr i).good + 1) ∧
      ∀ k j, k < s.x.s.K → j < s.x.s.h k →
        (s.x.wr i).good + 1 ≤ (s.lcB (C19.slotOf s.x.s.n ((s.x.wr i).good + 1))).ha k j + s.x.s.n := by
    by_cases heq : q0 = (s.x.wr i).good + 1
    · rw [heq] at hk; exact ⟨hk.self, hk.old⟩
    · have hlt0 : (s.x.wr i).good + 1 < q0 :=
        Nat.lt_of_not_le fun h => heq (eq_of_mod_eq_of_close hr (by omega) (by omega))
      have hlap := lap_of_mod_eq hr.symm hlt0
      exact ⟨hk.lap _ (by omega) hlap, fun k j hk' hj => by have := hk.old k j hk' hj; omega⟩
  rw [e]
  refine ⟨fun q h1 h2 => ?_, fun k' j' hk' => by omega, fun k' j' hK hj => ?_⟩
  · by_cases hq : q ≤ (s.x.wr i).good
    · exact knowsW_mono (hgood.pw q h1 hq) (le_join_left _ _) L
    · have : q = (s.x.wr i).good + 1 := by omega
      subst this
      exact knowsW_mono hself.1 (le_join_right _ _) L
  · have := hself.2 k' j' hK hj
    have := (le_join_right (s.vcW i) (s.lcB (C19.slotOf s.x.s.n ((s.x.wr i).good + 1)))).2 k' j'
    omega

theorem hwr_writer (o : Ords) (hget : o.get.isAcquire = true) (hbl : o.bLoad.isAcquire = true)
    (s : HMSt) (i : Nat) (hi : i < s.x.P) (hS : MSafe s.x) (hH : HMInv s) :
    HWr (stepWriter s.x i) (updV1 s.vcW i (writerV o s i)) := by
  obtain ⟨L, hL, hLo⟩ := stepWriter_written_app s.x i
  obtain ⟨_, eK, eh, en, _⟩ := stepWriter_frame s.x i
  have hv := writerV_le o s i hH.hz
  constructor
  · intro j hj
    rw [stepWriter_P] at hj
    by_cases he : j = i
    · subst he
      rw [updV1_same, writerV_own o s j hH.hz, stepWriter_written]; unfold writtenAfterW
      split
      · rw [wlog_append, wlog_single, if_pos rfl, hH.hw.own j hj]; simp
      · exact hH.hw.own j hj
    · rw [updV1_other _ _ _ _ he, hL, wlog_append, hLo j he, List.append_nil]; exact hH.hw.own j hj
  · intro j hj
    rw [stepWriter_P] at hj
    rw [eK, eh, en, hL]
    by_cases he : j = i
    · subst he
      rw [updV1_same, stepWriter_own]
      have base := (hH.hw.know j hj).mono hv L
      apply wknow_own1 s.x (s.x.wr j) _ _ _ _ _ base
      · intro hpc hlt; exact capA_fact o hget s j hj hS.1 hH L hpc hlt
      · intro hpc hge; exact capB_fact o s j hj hS.1 hH L hpc hge
      · intro hpc hle; rw [← hL]; exact write_fact o s j hj hH hpc hle
      · intro hpc; exact readLw_fact o hget s j hH L hpc
      · intro hpc hlt hbit; exact scan_fact o hbl s j hj hS hH L hpc hlt hbit
    · rw [updV1_other _ _ _ _ he, stepWriter_others s.x i j he]
      exact (hH.hw.know j hj).mono (le_refl' _) L

theorem wpend_lost (x : MSt) (w : Writer) (q : Nat) (h : wpend w q) (hn : ¬ wpend (stepW x w) q) :
    w.pc = .setBit ∧ w.nbit ≤ w.hi ∧ q = w.nbit := by
  unfold wpend at hn
  rcases h with ⟨hpc, h1, h2⟩ | ⟨hpc, h1, h2⟩
  · -- in `write` the claim stays pending, also when the writer moves on to `setBit` with `nbit = lo`
    exfalso; apply hn
    simp only [stepW, hpc]; split
    · exact Or.inl ⟨rfl, h1, h2⟩
    · exact Or.inr ⟨rfl, h1, h2⟩
  · have hle : w.nbit ≤ w.hi := Nat.le_trans h1 h2
    refine ⟨hpc, hle, Nat.le_antisymm (Nat.le_of_not_lt fun hlt => hn ?_) h1⟩
    simp only [stepW, hpc, hle, if_true]
    exact Or.inr ⟨trivial, hlt, h2⟩

theorem pub_back (x : MSt) (i q : Nat) (hi : i < x.P) (hR' : MRel (stepWriter x i)) (h : Pub (stepWriter x i) q) :
    Pub x q ∨ ((x.wr i).pc = .setBit ∧ (x.wr i).nbit ≤ (x.wr i).hi ∧ q = (x.wr i).nbit) := by
  obtain ⟨h1, h2, h3⟩ := h
  by_cases hq : q ≤ x.hw
  · by_cases hp : Pend x q
    · obtain ⟨j, hj, hw⟩ := hp
      by_cases he : j = i
      · subst he
        right
        apply wpend_lost x _ q hw
        intro hn
        exact h3 ⟨j, by rw [stepWriter_P]; exact hj, by rw [stepWriter_own]; exact hn⟩
      · exfalso
        exact h3 ⟨j, by rw [stepWriter_P]; exact hj, by rw [stepWriter_others x i j he]; exact hw⟩
    · left; exact ⟨h1, hq, hp⟩
  · exfalso
    rcases stepWriter_hw x i with e | ⟨hpc, he, _⟩
    · omega
    · have hi' : i < (stepWriter x i).P := by rw [stepWriter_P]; exact hi
      exact h3 ⟨i, hi', (fresh_claim x i q hpc he (by omega) h2).wpend hR' hi'⟩

/-- `fetch_or` of the bit of `nbit` by its claimant: the claimant's clock knows the slot write of `nbit`, of everything a lap
below, and every handler's access of `nbit - n` -/
theorem setBit_fact (s : HMSt) (i : Nat) (hi : i < s.x.P) (hS : MSafe s.x) (hH : HMInv s)
    (hpc : (s.x.wr i).pc = .setBit) (hle : (s.x.wr i).nbit ≤ (s.x.wr i).hi) :
    SeqK s.x.written s.x.s.K s.x.s.h s.x.s.n (s.vcW i) (s.x.wr i).nbit := by
  have hk := hH.hw.know i hi
  have hcap := (hS.1.2 i hi).hiLt (Or.inr hpc)
  have hnb := (hS.2.ws i hi).nbitGe hpc
  refine ⟨hk.claimS hpc _ hnb hle, fun q h1 h2 => hk.minW q h1 (by omega), fun k j hk' hj => ?_⟩
  have := hk.min k j hk' hj
  omega

theorem hloc_writer (o : Ords) (hset : o.set.isRelease = true) (hcas : o.casOk.isRelease = true)
    (hbor : o.bOr.isRelease = true) (s : HMSt) (i : Nat) (hi : i < s.x.P) (hS : MSafe s.x) (hH : HMInv s) :
    HLoc (stepWriter s.x i) (writerCur o s i) (writerLw o s i) (writerB o s i) := by
  obtain ⟨L, hL, _⟩ := stepWriter_written_app s.x i
  obtain ⟨_, eK, eh, en, _⟩ := stepWriter_frame s.x i
  have hv := writerV_le o s i hH.hz
  have hR := hS.2
  have hcm := stepWriter_cursor_mono s.x i hi hS.1.1.1
  constructor
  ·
    rw [eK, eh, en, hL]
    rcases stepWriter_cursor s.x i with e | ⟨hpc, hc, e⟩
    · rw [e]; exact hH.hl.lCur.mono (writerCur_le o s i) (Nat.le_refl _) L
    · rw [e]
      have e2 : writerCur o s i = rmwClock o.casOk (writerV o s i) s.lcCur := by simp [writerCur, hpc, hc]
      rw [e2]
      exact ((hH.hw.know i hi).good (by simp [goodPc, hpc])).mono
        (le_trans' hv (thread_le_rmwClock _ hcas _ _)) (Nat.le_refl _) L
  ·
    rw [eK, eh, en, hL]
    by_cases hpc : (s.x.wr i).pc = .setLw
    · have e1 : (stepWriter s.x i).lw = (s.x.wr i).good := by rw [stepWriter_eq]; simp [lwAfterW, hpc]
      have e2 : writerLw o s i = s.vcW i := by simp [writerLw, hpc, storeClock, hset]
      rw [e1, e2]
      exact ((hH.hw.know i hi).good (by simp [goodPc, hpc])).mono (le_refl' _) (Nat.le_refl _) L
    · have e1 : (stepWriter s.x i).lw = s.x.lw := by rw [stepWriter_eq]; simp [lwAfterW, hpc]
      have e2 : writerLw o s i = s.lcLw := by
        unfold writerLw; split
        · exact absurd ‹_› hpc
        · rfl
      rw [e1, e2]
      exact hH.hl.lLw.mono (le_refl' _) (Nat.le_refl _) L
  ·
    intro q0 hp hq0 hbit
    rw [eK, eh, en, hL]
    have hcur : s.x.s.cursor < q0 := by omega
    by_cases hnew : (s.x.wr i).pc = .setBit ∧ (s.x.wr i).nbit ≤ (s.x.wr i).hi ∧ q0 = (s.x.wr i).nbit
    · -- the bit being set: a release RMW of its word by the claimant
      obtain ⟨hpc, hle, rfl⟩ := hnew
      have hix := (wordIx_eq hR.bmOk (s.x.wr i).nbit).2.1
      have e : writerB o s i (C19.slotOf s.x.s.n (s.x.wr i).nbit) =
          rmwClock o.bOr (writerV o s i) (s.lcB (C19.slotOf s.x.s.n (s.x.wr i).nbit)) := by
        simp [writerB, hpc, hle, hix]
      rw [e]
      exact (setBit_fact s i hi hS hH hpc hle).mono (le_trans' hv (thread_le_rmwClock _ hbor _ _)) L
    · -- any other sequence was published, and its bit set, before the step; word clocks only grow
      have hpx : Pub s.x q0 := (pub_back s.x i q0 hi (mrel_stepWriter s.x i hi hS.1 hR) hp).resolve_right hnew
      have hb : bmIsSet s.x.bm q0 = true := by
        rcases stepWriter_bm s.x i with e | ⟨hpc, hle, e, _⟩ | ⟨hpc, hle, e⟩
        · rwa [e] at hbit
        · rw [e, (bm_set hR.bmOk _).2 q0] at hbit
          split at hbit
          · -- the bit set now has the residue of `q0`: both lie in the window above the cursor, so `q0` is `nbit`
            rename_i hr
            have hpend : wpend (s.x.wr i) (s.x.wr i).nbit := .inr ⟨hpc, Nat.le_refl _, hle⟩
            have := pend_above_cursor hR hi hpend; have := wpend_le_hw s.x hR i _ hi hpend
            have := hR.window; have := hpx.2.1
            exact absurd ⟨hpc, hle, (eq_of_mod_eq_of_close hr (by omega) (by omega)).symm⟩ hnew
          · exact hbit
        · rw [e, (bm_unset hR.bmOk _).2 q0] at hbit
          split at hbit
          · exact absurd hbit (by simp)
          · exact hbit
      exact (hH.hl.lB q0 hpx hcur hb).mono (writerB_le o s i _) L

structure OrdsOk (o : Ords) : Prop where
  get   : o.get.isAcquire = true
  set   : o.set.isRelease = true
  casOk : o.casOk.isRelease = true
  bOr   : o.bOr.isRelease = true
  bLoad : o.bLoad.isAcquire = true

theorem hminv_writer (o : Ords) (ho : OrdsOk o) (s : HMSt) (i : Nat) (hi : i < s.x.P) (hS : MSafe s.x) (hH : HMInv s) :
    HMInv (stepMH o s (.writer i)) := by
  rw [stepMH_writer o s i hi]
  exact ⟨hcons_writer s i hH.hc, hloc_writer o ho.set ho.casOk ho.bOr s i hi hS hH,
    hwr_writer o ho.get ho.bLoad s i hi hS hH, hdom_writer o s i hH.hz⟩

theorem stepMH_x (o : Ords) (s : HMSt) (t : MTid) : (stepMH o s t).x = stepM s.x t := by
  cases t with
  | writer i => simp only [stepMH, stepM]; split <;> rfl
  | drainer => rfl
  | cons k j => simp only [stepMH, stepM]; split <;> rfl

theorem runMH_x (o : Ords) (s : HMSt) (sched : List MTid) : (runMH o s sched).x = runM s.x sched := by
  unfold runMH runM
  induction sched generalizing s with
  | nil => rfl
  | cons t ts ih => simp only [List.foldl_cons]; rw [ih, stepMH_x]

def HMGood (s : HMSt) : Prop := MSafe s.x ∧ HMInv s

theorem hmgood_step (o : Ords) (ho : OrdsOk o) (s : HMSt) (t : MTid) (h : HMGood s) : HMGood (stepMH o s t) := by
  refine ⟨by rw [stepMH_x]; exact msafe_stepM s.x t h.1, ?_⟩
  cases t with
  | writer i =>
    by_cases hi : i < s.x.P
    · exact hminv_writer o ho s i hi h.1 h.2
    · simp only [stepMH, hi, if_false]; exact h.2
  | drainer => exact hminv_drainer o s h.2
  | cons k j =>
    by_cases hv : k < s.x.s.K ∧ j < s.x.s.h k
    · exact hminv_cons o ho.set ho.get s k j hv.1 hv.2 h.1.1.1.2.1 h.2
    · simp only [stepMH, hv, if_false]; exact h.2

theorem hmgood_run (o : Ords) (ho : OrdsOk o) (s : HMSt) (sched : List MTid) (h : HMGood s) :
    HMGood (runMH o s sched) := by
  unfold runMH
  induction sched generalizing s with
  | nil => exact h
  | cons t ts ih => exact ih _ (hmgood_step o ho s t h)

theorem hmgood_init (k K : Nat) (h : Nat → Nat) (blocking : Bool) (batches : List (List Nat))
    (hK : 0 < K) (hh : ∀ j, j < K → 0 < h j) (hb : ∀ l, l ∈ batches → ∀ b, b ∈ l → 1 ≤ b) :
    HMGood (mkMH (2 ^ k) K h blocking batches) := by
  refine ⟨msafe_init k K h blocking batches hK hh hb, ?_, ?_, ?_, ?_⟩
  · intro a b _ _
    exact ⟨⟨coversM_zero _ _ _ _ _ _, Nat.le_refl _⟩, rfl, coversM_zero _ _ _ _ _ _, fun _ => coversM_zero _ _ _ _ _ _,
      fun hp => by cases hp⟩
  · refine ⟨coversM_zero _ _ _ _ _ _, coversM_zero _ _ _ _ _ _, ?_⟩
    intro q0 hp; have h2 := hp.2.1; have h1 := hp.1; simp [mkMH, mkM] at h2; omega
  · refine ⟨fun i _ => rfl, fun i _ => ⟨fun _ _ _ _ => Nat.zero_le _, fun q h1 (h2 : q ≤ 0) => absurd h1 (by omega),
      fun hp => (nomatch hp), fun hp => (nomatch hp), fun hp => (nomatch hp), fun hp => ?_⟩⟩
    simp [goodPc, mkMH, mkM] at hp
  · have d := dom_empty (ow (mkMH (2 ^ k) K h blocking batches)) (oh (mkMH (2 ^ k) K h blocking batches))
    exact ⟨d, d, d, fun _ _ => d, fun _ => d, fun _ => d, fun _ _ => d, d⟩

theorem raceFreeM_of_inv (s : HMSt) (h : HMGood s) : RaceFreeM s := by
  obtain ⟨hS, hH⟩ := h
  refine ⟨?_, ?_, ?_⟩
  · intro k j hk hj hpc hi
    exact ((hH.hc k j hk hj).cAv (by simp [availPc, hpc])).le (le_refl' _) hi
  · intro a ha hpc hw k j hk hj
    have := (hH.hw.know a ha).min k j hk hj
    have := (hS.1.2 a ha).hiLt (Or.inl hpc)
    omega
  · intro a ha hpc hw q h1 h2
    have := (hS.1.2 a ha).hiLt (Or.inl hpc)
    exact (hH.hw.know a ha).minW q h1 (by omega)

theorem earlier_write_lap_below (x : MSt) (hS : MSafe x) (hL : MOnce x) (b : Nat) (hb : b < x.P)
    (hpc : (x.wr b).pc = .write) (hw : (x.wr b).w ≤ (x.wr b).hi) (q a : Nat) (hq : (q, a) ∈ x.written)
    (hr : q % x.s.n = (x.wr b).w % x.s.n) : 1 ≤ q ∧ q + x.s.n ≤ (x.wr b).w := by
  obtain ⟨h1, h2⟩ := writing_above_cursor x hS b hb hpc hw
  obtain ⟨h3, h4⟩ := hL.le q a hq
  have hwin := hS.2.window
  have hne : q ≠ (x.wr b).w := fun he => hL.gone q a hq b hb ⟨hpc, by omega, by omega⟩
  refine ⟨h3, ?_⟩
  rcases Nat.lt_or_ge q (x.wr b).w with hlt | hge
  · exact lap_of_mod_eq hr hlt
  · have := lap_of_mod_eq hr.symm (by omega : (x.wr b).w < q)
    omega

/-- every slot write already made to the slot a handler is about to access is of a sequence at or below the one it handles:
a logged write is of a claimed sequence, and nothing is claimed a ring or more above the handler's published cursor -/
theorem earlier_write_le_handled (x : MSt) (hS : MSafe x) (hL : MOnce x) (hP : MFit x) (k j : Nat) (hk : k < x.s.K)
    (hj : j < x.s.h k) (hpc : (x.s.cons k j).pc = .handle) (q a : Nat) (hq : (q, a) ∈ x.written)
    (hr : q % x.s.n = (x.s.cons k j).i % x.s.n) : 1 ≤ q ∧ q ≤ (x.s.cons k j).i := by
  have hci := hS.1.1.2.1.2 k j hk hj
  have h1 := hci.iGe hpc
  have h2 := hci.nextEq (by simp [hpc])
  have h3 := hP k j hk hj
  obtain ⟨h4, h5⟩ := hL.le q a hq
  refine ⟨h4, Nat.le_of_not_lt fun hlt => ?_⟩
  have := lap_of_mod_eq hr.symm hlt
  omega

theorem log_le_cursor (s : St) (hI : Inv s) (k j : Nat) (hk : k < s.K) (hj : j < s.h k) (q : Nat)
    (hq : q ∈ (s.cons k j).log) : 1 ≤ q ∧ q ≤ s.cursor := by
  have := RingPay.progress_le_cursor s hI k j hk hj
  rw [RingPay.log_eq_range_progress (hI.2 k j hk hj), List.mem_range'_1] at hq; omega

end RingMultiHB
