import DcVerif.Lemmas.RingMultiStep
import DcVerif.Lemmas.Ring
/-!
Invariants of the multi-producer sequencer that hold for **every** interleaving of any number of writer threads, the
draining thread and the consumers: the claims tile `[1, high_watermark]`, and the cursor never decreases.
(Of the other two clauses of C14, "the cursor is the published prefix" holds for ring sizes `2^e` —
`c14_multi_cursor_is_published_prefix`, from `Lemmas/RingMultiSafe.lean`; only "cursor = highest claimed" fails —
`Props/C14.lean` has the witnesses.)
-/
namespace RingMulti
open Ring

/-- writer-local facts: the batch being claimed has at least one element; the CAS loop on the cursor only ever proposes a
value at least as large as the one it expects to replace -/
structure WInv (w : Writer) : Prop where
  todoPos : ∀ b, b ∈ w.todo → 1 ≤ b
  cntPos  : (w.pc = .readHw ∨ w.pc = .capLoad ∨ w.pc = .capCheck ∨ w.pc = .casHw) → 1 ≤ w.count
  goodGe  : (w.pc = .scan ∨ w.pc = .relCheck) → w.lwSeen ≤ w.good
  goodGt  : (w.pc = .unsetBit) → w.lwSeen < w.good
  curLe   : (w.pc = .casCur ∨ w.pc = .reloadCur) → w.cur ≤ w.good

structure MInv (x : MSt) : Prop where
  writers : ∀ i, i < x.P → WInv (x.wr i)
  tiles   : Tiles 1 x.allClaims (x.hw + 1)

/-- every clause of `WInv` that speaks at `p'` speaks at `p` -/
def WInv.PcLe (p p' : WPc) : Prop :=
  ((p' = .readHw ∨ p' = .capLoad ∨ p' = .capCheck ∨ p' = .casHw) → (p = .readHw ∨ p = .capLoad ∨ p = .capCheck ∨ p = .casHw)) ∧
  ((p' = .scan ∨ p' = .relCheck) → (p = .scan ∨ p = .relCheck)) ∧ (p' = .unsetBit → p = .unsetBit) ∧
  ((p' = .casCur ∨ p' = .reloadCur) → (p = .casCur ∨ p = .reloadCur))

instance (p p' : WPc) : Decidable (WInv.PcLe p p') := by unfold WInv.PcLe; infer_instance

theorem WInv.move {w w' : Writer} {p : WPc} (h : WInv w) (hp : w.pc = p) (hle : WInv.PcLe p w'.pc := by dsimp only; decide)
    (e1 : w'.todo = w.todo := by rfl) (e2 : w'.count = w.count := by rfl) (e3 : w'.lwSeen = w.lwSeen := by rfl)
    (e4 : w'.good = w.good := by rfl) (e5 : w'.cur = w.cur := by rfl) : WInv w' := by
  subst hp
  obtain ⟨l1, l2, l3, l4⟩ := hle
  exact ⟨e1 ▸ h.todoPos, fun g => e2 ▸ h.cntPos (l1 g), fun g => e3 ▸ e4 ▸ h.goodGe (l2 g), fun g => e3 ▸ e4 ▸ h.goodGt (l3 g),
    fun g => e4 ▸ e5 ▸ h.curLe (l4 g)⟩

theorem winv_stepW (x : MSt) (w : Writer) (h : WInv w) : WInv (stepW x w) := by
  unfold stepW
  cases hpc : w.pc <;> simp only
  case start =>
    split
    · exact h.move hpc
    · rename_i b rest heq
      refine ⟨fun c hc => h.todoPos c (by simp [heq, hc]), fun _ => h.todoPos b (by simp [heq]), ?_, ?_, ?_⟩ <;> simp
  case readLw => refine ⟨h.todoPos, ?_, ?_, ?_, ?_⟩ <;> simp
  case scan =>
    have := h.goodGe (.inl hpc)
    repeat' split
    · refine ⟨h.todoPos, ?_, ?_, ?_, ?_⟩ <;> simp; omega
    · exact h.move hpc
    · exact h.move hpc
  case relCheck =>
    split
    · refine ⟨h.todoPos, ?_, ?_, ?_, ?_⟩ <;> simp <;> omega
    · exact h.move hpc
  case unsetBit =>
    have := h.goodGt hpc
    split
    · exact h.move hpc
    · refine ⟨h.todoPos, ?_, ?_, ?_, ?_⟩ <;> simp <;> omega
  case reloadCur => split <;> refine ⟨h.todoPos, ?_, ?_, ?_, ?_⟩ <;> simp <;> omega
  case sLock => split; exact h.move hpc; exact h
  case done | panicked => exact h
  -- the other steps move the pc as `WInv.move` allows and write fields `WInv` does not read
  all_goals (repeat' split) <;> exact h.move hpc

theorem tiles_stepW (x : MSt) (w : Writer) (hw : WInv w) (ht : Tiles 1 x.allClaims (x.hw + 1)) :
    Tiles 1 (claimsAfterW x w) (hwAfterW x w + 1) := by
  unfold claimsAfterW hwAfterW
  split
  ·
    rename_i hc
    have := Tiles.snoc ht (w.hwSeen + w.count) w.count (hw.cntPos (by simp [hc.1])) (by omega)
    rwa [hc.2] at this
  · exact ht

theorem minv_stepM (x : MSt) (t : MTid) (h : MInv x) : MInv (stepM x t) := by
  refine stepM_cases x t (fun i hi => ?_) ?_ (fun _ _ _ _ => ⟨h.writers, h.tiles⟩) h
  · have hw := h.writers i hi
    refine ⟨forall_writers_step (Q := fun _ w => WInv w) x i (fun _ => winv_stepW x _ hw) (fun j hj _ => h.writers j hj), ?_⟩
    rw [stepWriter_eq]; exact tiles_stepW x _ hw h.tiles
  · rw [stepDrainer_eq]; exact ⟨h.writers, h.tiles⟩

theorem minv_init (n K : Nat) (hh : Nat → Nat) (blocking : Bool) (batches : List (List Nat))
    (hb : ∀ l, l ∈ batches → ∀ b, b ∈ l → 1 ≤ b) : MInv (mkM n K hh blocking batches) := by
  refine ⟨?_, Tiles.nil 1⟩
  intro i hi
  have hi' : i < batches.length := hi
  constructor <;> simp only [mkM]
  · intro b hb'
    simp only [Array.getD_eq_getD_getElem?, List.getElem?_toArray, List.getElem?_eq_getElem hi', Option.getD_some] at hb'
    exact hb _ (List.getElem_mem hi') b hb'
  all_goals simp

theorem cursor_le_sAfterW (x : MSt) (w : Writer) (h : WInv w) : x.s.cursor ≤ (sAfterW x w).cursor := by
  show x.s.cursor ≤ if w.pc = .casCur ∧ x.s.cursor = w.cur then w.good else x.s.cursor
  split
  · rename_i hc; have := h.curLe (.inl hc.1); omega
  · exact Nat.le_refl _

theorem stepWriter_cursor_mono (x : MSt) (i : Nat) (hi : i < x.P) (h : MInv x) : x.s.cursor ≤ (stepWriter x i).s.cursor := by
  rw [(stepWriter_shared x i).1]; exact cursor_le_sAfterW x _ (h.writers i hi)

theorem cursor_mono_stepM (x : MSt) (t : MTid) (h : MInv x) : x.s.cursor ≤ (stepM x t).s.cursor := by
  refine stepM_cases (Q := fun y => x.s.cursor ≤ y.s.cursor) x t (fun i hi => ?_) ?_ (fun _ _ _ _ => Nat.le_refl _)
    (Nat.le_refl _)
  · rw [stepWriter_eq]; exact cursor_le_sAfterW x _ (h.writers i hi)
  · rw [stepDrainer_eq]; exact Nat.le_refl _

end RingMulti

/-! ## consumers under the multi-producer sequencer

The consumer-local invariants of `Lemmas/Ring.lean` mention the producer only through the cursor, and only as a lower bound
that must not shrink. Every step of a writer or of the draining thread leaves the handler records alone and never decreases
the cursor, so `Inv` holds along every schedule of the multi-producer pipeline as well. -/
namespace RingMulti
open Ring

/-- what every schedule of the multi-producer pipeline keeps: the sequencer's invariant `MInv`, the handlers' invariant
`Inv` of the single-producer development, and a non-empty topology -/
def MGood (x : MSt) : Prop := MInv x ∧ Inv x.s ∧ 0 < x.s.K

theorem mgood_stepM (x : MSt) (t : MTid) (h : MGood x) : MGood (stepM x t) := by
  obtain ⟨hM, hI, hK⟩ := h
  refine ⟨minv_stepM x t hM, ?_⟩
  refine stepM_cases (Q := fun y => Inv y.s ∧ 0 < y.s.K) x t (fun i hi => ?_) ?_
    (fun k j hk hj => ⟨inv_stepC x.s k j hk hj hI, hK⟩) ⟨hI, hK⟩
  · rw [stepWriter_eq]
    exact ⟨inv_of_same_cons x.s _ hI rfl rfl rfl (cursor_le_sAfterW x _ (hM.writers i hi)), hK⟩
  · rw [stepDrainer_eq]; exact ⟨inv_of_same_cons x.s _ hI rfl rfl rfl (Nat.le_refl _), hK⟩

theorem mgood_init (n K : Nat) (hh : Nat → Nat) (blocking : Bool) (batches : List (List Nat))
    (hK : 0 < K) (hpos : ∀ k, k < K → 0 < hh k) (hb : ∀ l, l ∈ batches → ∀ b, b ∈ l → 1 ≤ b) :
    MGood (mkM n K hh blocking batches) := by
  refine ⟨minv_init n K hh blocking batches hb, ⟨hpos, ?_⟩, hK⟩
  intro k j hk hj
  constructor <;> simp [mkM, dep]

/-- a state reachable in a well-formed multi-producer pipeline: any ring size, at least one stage and one handler per stage,
either wait strategy, any number of writer threads with batches of at least one event, **any schedule** -/
def MReachableWF (x : MSt) : Prop :=
  ∃ (n K : Nat) (h : Nat → Nat) (blocking : Bool) (batches : List (List Nat)) (sched : List MTid),
    0 < K ∧ (∀ k, k < K → 0 < h k) ∧ (∀ l, l ∈ batches → ∀ b, b ∈ l → 1 ≤ b) ∧
    x = runM (mkM n K h blocking batches) sched

theorem MReachableWF.step {x : MSt} (hr : MReachableWF x) (t : MTid) : MReachableWF (stepM x t) := by
  obtain ⟨n, K, h, bl, bs, sched, hK, hh, hb, rfl⟩ := hr
  exact ⟨n, K, h, bl, bs, sched ++ [t], hK, hh, hb, (runM_snoc _ sched t).symm⟩

theorem MReachableWF.induct {I : MSt → Prop}
    (hinit : ∀ n K h blocking batches, 0 < K → (∀ k, k < K → 0 < h k) → (∀ l, l ∈ batches → ∀ b, b ∈ l → 1 ≤ b) →
      I (mkM n K h blocking batches))
    (hstep : ∀ x t, MReachableWF x → I x → I (stepM x t)) {x : MSt} (hr : MReachableWF x) : I x := by
  obtain ⟨n, K, h, bl, bs, sched, hK, hh, hb, rfl⟩ := hr
  exact (runM_induct (I := fun y => MReachableWF y ∧ I y) (fun y t hy => ⟨hy.1.step t, hstep y t hy.1 hy.2⟩) _ sched
    ⟨⟨n, K, h, bl, bs, [], hK, hh, hb, rfl⟩, hinit n K h bl bs hK hh hb⟩).2

/-- the same over the reachable states whose ring size is `2 ^ k` (no step changes the ring size) -/
theorem MReachableWF.induct_pow2 {I : MSt → Prop} (k : Nat)
    (hinit : ∀ K h blocking batches, 0 < K → (∀ j, j < K → 0 < h j) → (∀ l, l ∈ batches → ∀ b, b ∈ l → 1 ≤ b) →
      I (mkM (2 ^ k) K h blocking batches))
    (hstep : ∀ x t, MReachableWF x → x.s.n = 2 ^ k → I x → I (stepM x t)) {x : MSt} (hr : MReachableWF x)
    (hn : x.s.n = 2 ^ k) : I x := by
  refine MReachableWF.induct (I := fun y => y.s.n = 2 ^ k → I y) ?_ ?_ hr hn
  · intro n K h bl bs hK hh hb e
    have : n = 2 ^ k := e
    subst this; exact hinit K h bl bs hK hh hb
  · intro y t hy ih e
    have e' : y.s.n = 2 ^ k := (stepM_cfg y t).n.symm.trans e
    exact hstep y t hy e' (ih e')

theorem mreachableWF_good {x : MSt} (hr : MReachableWF x) : MGood x :=
  hr.induct mgood_init (fun x t _ => mgood_stepM x t)

end RingMulti
