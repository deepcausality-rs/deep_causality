import DcVerif.Lemmas.Ring
import DcVerif.Model.RingPay
import DcVerif.Gen.Orderings
/-!
What a handler thread's step does to its vector clock and to the clock of its cursor, and the knowledge it preserves —
once, for the single-producer (`Model/RingHB.lean`) and the multi-producer pipeline (`Model/RingMultiHB.lean`). The handler
is the same pc machine `Ring.stepCons` in both; the two models differ in the clock type (one producer entry / one entry per
writer thread) and in what "covers" says about slot writes. The handler's step reads a clock only through its handler
entries and uses coverage only through monotonicity along `join` / `incH` and through `combine`, so both are parameters here.
-/
namespace RingHB
open Ring Gen.Orderings
open RingPay (progress)

/-- program points at which the handler's `avail` is a checked observation of its dependencies -/
def availPc (pc : CPc) : Prop := pc = .checkAvail ∨ pc = .bUnlockGo ∨ pc = .handle ∨ pc = .publish

structure Clocks (V : Type) where
  ha   : V → Nat → Nat → Nat
  bot  : V
  join : V → V → V
  incH : V → Nat → Nat → V
  ha_join : ∀ a b k j, ha (join a b) k j = max (ha a k j) (ha b k j)
  ha_incH : ∀ a k j k' j', ha (incH a k j) k' j' = if k' = k ∧ j' = j then ha a k' j' + 1 else ha a k' j'

/-- what a handler's step uses of "clock `v` covers counter value `b` as seen from stage `k`" (`h` = handlers per stage).
`Cov` is `RingHB.Covers K h n` for the single producer (`RingHB.coverage`) and `RingMultiHB.CoversM W K h n` for the
multi-producer pipeline (`RingMultiHB.coverage`). `join_right` lowers the value and `join_left` does not: the clock joined
in from the right is that of a dependency's cursor and covers that cursor's value, while the handler keeps the running
minimum of the values loaded, which may be smaller; the handler's own clock on the left is used at the value it covers. -/
structure Coverage {V : Type} (C : Clocks V) (h : Nat → Nat) (Cov : V → Nat → Nat → Prop) : Prop where
  join_left  : ∀ {a c : V} {k b : Nat}, Cov a k b → Cov (C.join a c) k b
  join_right : ∀ {a c : V} {k b b' : Nat}, Cov c k b → b' ≤ b → Cov (C.join a c) k b'
  incH       : ∀ {a : V} {k' j' k b : Nat}, Cov a k b → Cov (C.incH a k' j') k b
  combine    : ∀ {v : V} {k m : Nat}, Cov v (k - 1) m → (0 < k → ∀ d, d < h (k - 1) → m ≤ C.ha v (k - 1) d) → Cov v k m

variable {V : Type}

/-- new clock of handler `(k,j)` (local state `c`, clock `v`, cursor clock `l`, `dc d` = clock of its `d`-th dependency) after
its step: `readOwn` loads its own cursor, `waitLoad` loads dependency `idx` (both `AtomicSequenceOrdered::get`), `handle` is
the slot access; every other program point leaves the clock alone -/
def consClock (C : Clocks V) (get : Ord) (sx : St) (k j : Nat) (c : Cons) (v l : V) (dc : Nat → V) : V :=
  match c.pc with
  | .readOwn => if get.isAcquire then C.join v l else v
  | .waitLoad => if c.idx < ndeps sx k then (if get.isAcquire then C.join v (dc c.idx) else v) else v
  | .handle => if c.i ≤ c.avail then C.incH v k j else v
  | _ => v

/-- new clock of the handler's cursor: `publish` is `cursor.set(available)` -/
def cursorClock (C : Clocks V) (set : Ord) (c : Cons) (v l : V) : V :=
  match c.pc with
  | .publish => if set.isRelease then v else C.bot
  | _ => l

theorem consClock_cases (C : Clocks V) (get : Ord) (sx : St) (k j : Nat) (c : Cons) (v l : V) (dc : Nat → V)
    (P : V → Prop) (hv : P v) (hl : P (C.join v l)) (hd : ∀ d, P (C.join v (dc d)))
    (hi : c.pc = .handle → c.i ≤ c.avail → P (C.incH v k j)) : P (consClock C get sx k j c v l dc) := by
  unfold consClock
  split
  · split <;> assumption
  · split
    · split
      · exact hd _
      · exact hv
    · exact hv
  · rename_i hpc; split
    · rename_i hle; exact hi hpc hle
    · exact hv
  · exact hv

theorem cursorClock_cases (C : Clocks V) (set : Ord) (c : Cons) (v l : V) (P : V → Prop) (hv : P v) (hl : P l)
    (hb : P C.bot) : P (cursorClock C set c v l) := by
  unfold cursorClock; split
  · split <;> assumption
  · exact hl

/-- program points at which a handler neither loads or stores a cursor nor accesses a slot -/
def quietC : CPc → Bool
  | .readOwn | .waitLoad | .handle | .publish => false
  | _ => true

theorem stepCons_quiet (sx : St) (k j : Nat) (c : Cons) (hq : quietC c.pc = true)
    (hn : c.pc = .checkAvail ∨ c.pc = .bUnlockGo → c.next = c.cur + 1) :
    (stepCons sx k j c).cur = c.cur ∧ progress (stepCons sx k j c) = progress c ∧
    (availPc (stepCons sx k j c).pc → availPc c.pc ∧ (stepCons sx k j c).avail = c.avail) ∧
    ((stepCons sx k j c).pc = .waitLoad → (stepCons sx k j c).acc = none) := by
  cases hpc : c.pc <;> simp only [hpc, quietC, Bool.false_eq_true] at hq <;>
    simp only [hpc, reduceCtorEq, or_false, or_true, forall_const] at hn <;>
    simp only [stepCons, hpc] <;> (repeat' split) <;> simp [progress, availPc, hpc, hn]

theorem clocks_quiet (C : Clocks V) (get set : Ord) (sx : St) (k j : Nat) (c : Cons) (v l : V) (dc : Nat → V)
    (hq : quietC c.pc = true) : consClock C get sx k j c v l dc = v ∧ cursorClock C set c v l = l := by
  unfold consClock cursorClock
  cases hpc : c.pc <;> first | exact ⟨rfl, rfl⟩ | (rw [hpc] at hq; cases hq)

structure HKnow (C : Clocks V) (Cov : V → Nat → Nat → Prop) (k j : Nat) (c : Cons) (v l : V) : Prop where
  lH   : Cov l k c.cur ∧ c.cur ≤ C.ha l k j
  cOwn : C.ha v k j = progress c
  cCur : Cov v k c.cur
  cAv  : availPc c.pc → Cov v k c.avail
  /-- in the middle of `get_min_cursor_sequence`: the running minimum is covered for the dependencies already loaded -/
  cLd  : c.pc = .waitLoad → ∀ m, c.acc = some m →
           (0 < c.idx → Cov v (k - 1) m) ∧ (0 < k → ∀ d, d < c.idx → m ≤ C.ha v (k - 1) d)

theorem HKnow.imp {C : Clocks V} {Cov Cov' : V → Nat → Nat → Prop} {k j : Nat} {c : Cons} {v l : V}
    (h : HKnow C Cov k j c v l) (hi : ∀ v k b, Cov v k b → Cov' v k b) : HKnow C Cov' k j c v l :=
  ⟨⟨hi _ _ _ h.lH.1, h.lH.2⟩, h.cOwn, hi _ _ _ h.cCur, fun p => hi _ _ _ (h.cAv p),
   fun p m hm => ⟨fun h0 => hi _ _ _ ((h.cLd p m hm).1 h0), (h.cLd p m hm).2⟩⟩

theorem HKnow.quiet {C : Clocks V} {Cov : V → Nat → Nat → Prop} {k j : Nat} {c c' : Cons} {v l : V}
    (h : HKnow C Cov k j c v l) (hcur : c'.cur = c.cur) (hdone : progress c' = progress c)
    (hav : availPc c'.pc → availPc c.pc ∧ c'.avail = c.avail) (hld : c'.pc = .waitLoad → c'.acc = none) :
    HKnow C Cov k j c' v l :=
  ⟨hcur ▸ h.lH, hdone ▸ h.cOwn, hcur ▸ h.cCur, fun p => (hav p).2 ▸ h.cAv (hav p).1,
   fun p m hm => by rw [hld p] at hm; cases hm⟩

/-- the clock of the location the `d`-th dependency of a stage-`k` handler lives in (the producer cursor for stage 0, a
stage-`(k-1)` handler cursor otherwise) covers the dependency's value. Named after the fields of `RingHB.HSt`
(`Model/RingHB.lean`): `lcCur` is the clock of the producer cursor, `vcC a b` the clock of handler `(a,b)`, `lcH a b` the clock
of its cursor. -/
theorem dep_covered (C : Clocks V) {Cov : V → Nat → Nat → Prop} (sx : St) (k : Nat) (hk : k < sx.K) (lcCur : V)
    (vcC lcH : Nat → Nat → V) (hcur : Cov lcCur 0 sx.cursor)
    (hH : ∀ a b, a < sx.K → b < sx.h a → HKnow C Cov a b (sx.cons a b) (vcC a b) (lcH a b)) (d : Nat)
    (hd : d < ndeps sx k) :
    Cov (if k = 0 then lcCur else lcH (k - 1) d) (k - 1) (dep sx k d) ∧
    (0 < k → dep sx k d ≤ C.ha (if k = 0 then lcCur else lcH (k - 1) d) (k - 1) d) := by
  by_cases h0 : k = 0
  · subst h0; simp only [dep, if_true]; exact ⟨hcur, fun h => absurd h (Nat.lt_irrefl 0)⟩
  · have := (hH (k - 1) d (by omega) (by simpa [ndeps, h0] using hd)).lH
    simp only [dep, h0, if_false]; exact ⟨this.1, fun _ => this.2⟩

theorem HKnow.step (C : Clocks V) {Cov : V → Nat → Nat → Prop} (get set : Ord)
    (hset : set.isRelease = true) (hget : get.isAcquire = true) (sx : St) (k j : Nat) (hCov : Coverage C sx.h Cov)
    (c : Cons) (hc : CInv sx k c) (hpos : 0 < ndeps sx k) (v l : V) (dc : Nat → V)
    (hdep : ∀ d, d < ndeps sx k → Cov (dc d) (k - 1) (dep sx k d) ∧ (0 < k → dep sx k d ≤ C.ha (dc d) (k - 1) d))
    (hl : C.ha l k j ≤ C.ha v k j) (hd : ∀ d, C.ha (dc d) k j ≤ C.ha v k j) (h : HKnow C Cov k j c v l) :
    HKnow C Cov k j (stepCons sx k j c) (consClock C get sx k j c v l dc) (cursorClock C set c v l) := by
  by_cases hq : quietC c.pc = true
  ·
    obtain ⟨e1, e2, e3, e4⟩ :=
      stepCons_quiet sx k j c hq (fun hn => hc.nextEq (by rcases hn with hn | hn <;> simp [hn]))
    rw [(clocks_quiet C get set sx k j c v l dc hq).1, (clocks_quiet C get set sx k j c v l dc hq).2]
    exact h.quiet e1 e2 e3 e4
  cases hpc : c.pc <;> simp only [hpc, quietC, not_true_eq_false] at hq
  case readOwn =>
    have e2 : consClock C get sx k j c v l dc = C.join v l := by simp [consClock, hpc, hget]
    have e3 : cursorClock C set c v l = l := by simp [cursorClock, hpc]
    have own : C.ha (C.join v l) k j = progress c := by rw [C.ha_join, Nat.max_eq_left hl]; exact h.cOwn
    rw [e2, e3]; simp only [stepCons, hpc]
    split
    · exact ⟨h.lH, by simpa [progress, hpc] using own, hCov.join_left h.cCur, by simp [availPc], by simp⟩
    · exact ⟨h.lH, by simpa [progress, hpc] using own, hCov.join_left h.cCur, by simp [availPc], by simp⟩
  case waitLoad =>
    have e3 : cursorClock C set c v l = l := by simp [cursorClock, hpc]
    by_cases hlt : c.idx < ndeps sx k
    · have e2 : consClock C get sx k j c v l dc = C.join v (dc c.idx) := by simp [consClock, hpc, hlt, hget]
      have own : C.ha (C.join v (dc c.idx)) k j = progress c := by rw [C.ha_join, Nat.max_eq_left (hd _)]; exact h.cOwn
      obtain ⟨dc1, dc2⟩ := hdep _ hlt
      rw [e2, e3]; simp only [stepCons, hpc, hlt, if_true]
      refine ⟨h.lH, by simpa [progress, hpc] using own, hCov.join_left h.cCur, by simp [availPc], ?_⟩
      intro _ m hm
      refine ⟨fun _ => hCov.join_right dc1 (minOpt_le _ _ _ hm).1, fun hk0 => ?_⟩
      refine minOpt_step_le_of_le _ _ _ _ (fun m0 hacc d hdi => ?_) (hc.accSome hpc) ?_ m hm
      · rw [C.ha_join]; exact Nat.le_trans ((h.cLd hpc m0 hacc).2 hk0 d hdi) (Nat.le_max_left _ _)
      · rw [C.ha_join]; exact Nat.le_trans (dc2 hk0) (Nat.le_max_right _ _)
    · have e2 : consClock C get sx k j c v l dc = v := by simp [consClock, hpc, hlt]
      rw [e2, e3]; simp only [stepCons, hpc, hlt, if_false]
      refine ⟨h.lH, by simpa [progress, hpc] using h.cOwn, h.cCur, fun _ => ?_, by simp⟩
      have hidx : c.idx = ndeps sx k := by have := hc.idxLe hpc; omega
      have hsome := hc.accSome hpc (by omega)
      cases hacc : c.acc with
      | none => simp [hacc] at hsome
      | some m =>
        obtain ⟨b1, b2⟩ := h.cLd hpc m hacc
        exact hCov.combine (b1 (by omega)) fun hk0 d hd =>
          b2 hk0 d (by rw [hidx]; simpa [ndeps, Nat.pos_iff_ne_zero.mp hk0] using hd)
  case handle =>
    have e3 : cursorClock C set c v l = l := by simp [cursorClock, hpc]
    by_cases hle : c.i ≤ c.avail
    ·
      have e2 : consClock C get sx k j c v l dc = C.incH v k j := by simp [consClock, hpc, hle]
      rw [e2, e3]; simp only [stepCons, hpc, hle, if_true]
      refine ⟨h.lH, ?_, hCov.incH h.cCur, fun _ => hCov.incH (h.cAv (by simp [availPc, hpc])), by simp⟩
      · have h1 := hc.iGe hpc; have h2 := hc.nextEq (by simp [hpc]); have h3 := h.cOwn
        simp only [progress, hpc, C.ha_incH, and_self, if_true, reduceCtorEq, if_false] at h3 ⊢; omega
    · have e2 : consClock C get sx k j c v l dc = v := by simp [consClock, hpc, hle]
      rw [e2, e3]; simp only [stepCons, hpc, hle, if_false]
      refine h.quiet rfl ?_ (fun _ => ⟨by simp [availPc, hpc], rfl⟩) (by simp)
      have := hc.iLe hpc; simp only [progress, hpc, reduceCtorEq, if_true, if_false]; omega
  case publish =>
    have e2 : consClock C get sx k j c v l dc = v := by simp [consClock, hpc]
    have e3 : cursorClock C set c v l = v := by simp [cursorClock, hpc, hset]
    have hav := h.cAv (by simp [availPc, hpc])
    have hown : C.ha v k j = c.avail := by simpa [progress, hpc] using h.cOwn
    rw [e2, e3]; simp only [stepCons, hpc]
    cases sx.blocking
    · exact ⟨⟨hav, Nat.le_of_eq hown.symm⟩, by simpa [progress] using hown, hav, by simp [availPc], by simp⟩
    · exact ⟨⟨hav, Nat.le_of_eq hown.symm⟩, by simpa [progress] using hown, hav, by simp [availPc], by simp⟩

end RingHB
