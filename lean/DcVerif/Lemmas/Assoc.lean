/-! Association lists with `HashMap` behaviour: `insert` overwrites the pair with the key in place or appends a new
one, `get` finds the first pair with the key. `Model.Csm.upsert` / `lookup` and `Model.Collections.hinsert` / `hget`
are two copies of these two functions, so the lemmas are stated for any `ins` and `get` with the two defining
equations; the keys of `m` are `m.map (·.1)`. -/
namespace Lemmas.Assoc

theorem filterMap_congr {β γ : Type} {f g : β → Option γ} {l : List β} (h : ∀ x ∈ l, f x = g x) :
    l.filterMap f = l.filterMap g := by
  induction l with
  | nil => rfl
  | cons x r ih =>
    rw [List.filterMap_cons, List.filterMap_cons, h x List.mem_cons_self,
      ih fun y hy => h y (List.mem_cons_of_mem _ hy)]

variable {β : Type}

section insert
variable (ins : List (Nat × β) → Nat → β → List (Nat × β)) (hnil : ∀ k v, ins [] k v = [(k, v)])
  (hcons : ∀ j w r k v, ins ((j, w) :: r) k v = if j = k then (k, v) :: r else (j, w) :: ins r k v)
include hnil hcons

theorem keys_ins (m : List (Nat × β)) (k : Nat) (v : β) :
    (ins m k v).map (·.1) = if k ∈ m.map (·.1) then m.map (·.1) else m.map (·.1) ++ [k] := by
  induction m with
  | nil => rw [hnil]; rfl
  | cons e r ih =>
    obtain ⟨j, w⟩ := e
    rw [hcons]
    by_cases h : j = k
    · subst h; simp
    · rw [if_neg h, List.map_cons, ih, apply_ite (List.cons j)]
      simp only [List.map_cons, List.mem_cons, Ne.symm h, false_or, List.cons_append]

theorem mem_keys_ins (m : List (Nat × β)) (k j : Nat) (v : β) :
    j ∈ (ins m k v).map (·.1) ↔ j = k ∨ j ∈ m.map (·.1) := by
  rw [keys_ins ins hnil hcons]
  split
  · exact ⟨Or.inr, fun h => h.elim (fun e => e ▸ ‹_›) id⟩
  · rw [List.mem_append, List.mem_singleton]; exact or_comm

theorem nodup_ins (m : List (Nat × β)) (k : Nat) (v : β) (h : (m.map (·.1)).Nodup) :
    ((ins m k v).map (·.1)).Nodup := by
  rw [keys_ins ins hnil hcons]
  split
  · exact h
  · rename_i hk
    exact List.nodup_append.2 ⟨h, (List.pairwise_singleton ..), fun a ha b hb e =>
      hk (List.mem_singleton.1 hb ▸ e ▸ ha)⟩

theorem ins_fresh (m : List (Nat × β)) (k : Nat) (v : β) (h : k ∉ m.map (·.1)) : ins m k v = m ++ [(k, v)] := by
  induction m with
  | nil => exact hnil k v
  | cons e r ih =>
    obtain ⟨j, w⟩ := e
    rw [hcons, if_neg (fun (e : j = k) => h (e ▸ List.mem_cons_self)), ih fun hr => h (List.mem_cons_of_mem _ hr)]
    rfl

end insert

theorem filterMap_get (get : List (Nat × β) → Nat → Option β)
    (hcons : ∀ j v r k, get ((j, v) :: r) k = if j = k then some v else get r k)
    (m : List (Nat × β)) (hn : (m.map (·.1)).Nodup) : (m.map (·.1)).filterMap (get m) = m.map (·.2) := by
  induction m with
  | nil => rfl
  | cons e r ih =>
    obtain ⟨j, v⟩ := e
    rw [List.map_cons, List.nodup_cons] at hn
    rw [List.map_cons, List.filterMap_cons, hcons, if_pos rfl, List.map_cons, ← ih hn.2]
    exact congrArg _ (filterMap_congr fun k hk => by rw [hcons, if_neg fun (e : j = k) => hn.1 (e ▸ hk)])

end Lemmas.Assoc
