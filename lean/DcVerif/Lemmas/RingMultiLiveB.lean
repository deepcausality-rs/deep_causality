import DcVerif.Lemmas.RingMultiLive
/-!
# Liveness of the multi-producer pipeline, blocking wait strategy

Instantiation of `Fair.fair_termination_sf` (weak fairness + strong fairness) for `Model/RingMulti.lean` under the liveness
invariant `LJ` (one writer thread, or all writers done and nothing stranded): measure
`μ = (2·#handlers + 1)·remaining work + outstanding wake-ups`, readiness, ranks, "the owner of the mutex releases it after
`hrank` own steps", `BlkM.exists_ready` (no deadlock in the strong sense), `BlkM.terminates`;
`BlkM.strongFair_of_lockFair` reduces strong fairness of all steps to weak fairness + strong fairness of lock steps.
-/
namespace RingMulti
open Ring
namespace BlkM

structure LB (x : MSt) : Prop where
  lj  : LJ x
  blk : x.s.blocking = true

theorem lb_stepM (x : MSt) (t : MTid) (h : LB x) : LB (stepM x t) :=
  ⟨lj_stepM x t h.lj, by rw [(stepM_cfg x t).blocking]; exact h.blk⟩

/-- the global measure: remaining work, weighted so that one unit of work outweighs all outstanding wake-ups -/
noncomputable def μ (x : MSt) : Nat := (CS.bnd x.s + 1) * μmain x + CS.owedW x.s

theorem bnd_stepM (x : MSt) (t : MTid) : CS.bnd (stepM x t).s = CS.bnd x.s :=
  CS.bnd_congr _ _ (stepM_cfg x t).K (stepM_cfg x t).h

theorem μ_lt_of_main (x x' : MSt) (hb : CS.bnd x'.s = CS.bnd x.s) (hm : μmain x' < μmain x) : μ x' < μ x := by
  simp only [μ, hb]; exact CS.weighted_lt_of_main (hb ▸ CS.owedW_le_bnd x'.s) hm

theorem μ_lt_of_ow (x x' : MSt) (hb : CS.bnd x'.s = CS.bnd x.s) (hm : μmain x' ≤ μmain x)
    (ho : CS.owedW x'.s < CS.owedW x.s) : μ x' < μ x := by
  simp only [μ, hb]; exact CS.weighted_lt_of_ow hm ho

theorem owed_step (x : MSt) (u : MTid) (h : LJ x) :
    μmain (stepM x u) < μmain x ∨
    (CS.owedW (stepM x u).s ≤ CS.owedW x.s ∧
      ((CS.owedParked x.s → CS.owedParked (stepM x u).s) ∨ CS.owedW (stepM x u).s < CS.owedW x.s)) := by
  have hI := h.g.good.2.1
  -- a step of the producer side that moves neither the cursor nor `is_done`
  have hprod : ∀ y : MSt, y.s.cons = x.s.cons → y.s.cursor = x.s.cursor → y.s.isDone = x.s.isDone → y.s.K = x.s.K →
      y.s.h = x.s.h → y.s.blocking = x.s.blocking → (y.s.woken = x.s.woken ∨ y.s.woken = fun _ _ => true) →
      CS.owedW y.s ≤ CS.owedW x.s ∧ ((CS.owedParked x.s → CS.owedParked y.s) ∨ CS.owedW y.s < CS.owedW x.s) := by
    intro y ec ecur edn eK eh ebl q
    refine ⟨CS.owedW_frame_le x.s _ ec ecur edn eK eh ebl q, ?_⟩
    by_cases hop : CS.owedParked x.s
    · rcases CS.owedParked_frame x.s _ ec ecur edn eK eh ebl q hop with h1 | ⟨a, b, ha, hb', hlt⟩
      · exact Or.inl (fun _ => h1)
      · exact Or.inr (CS.owedW_frame_lt x.s _ ec ecur edn eK eh ebl q a b ha hb' hlt)
    · exact Or.inl (fun hh => absurd hh hop)
  refine stepM_cases (Q := fun y => μmain y < μmain x ∨ (CS.owedW y.s ≤ CS.owedW x.s ∧
      ((CS.owedParked x.s → CS.owedParked y.s) ∨ CS.owedW y.s < CS.owedW x.s))) x u (fun i hi => ?_) ?_
    (fun a b ha hb => ?_) (Or.inr ⟨Nat.le_refl _, Or.inl id⟩)
  · rcases writer_quiet x i with hlt | ⟨q1, _, q3⟩
    · exact Or.inl ((μmain_stepWriter x i hi h.g.good.1).2 hlt)
    · obtain ⟨ec, eK, eh, _, ebl, edn, _, _⟩ := stepWriter_frame x i
      exact Or.inr (hprod _ ec q1 edn eK eh ebl q3)
  · rcases drainer_quiet x with hlt | ⟨_, q1, q2⟩
    · exact Or.inl ((μmain_stepDrainer x).2 hlt)
    · obtain ⟨ec, eK, eh, _, ebl, ecur, _, _, _⟩ := stepDrainer_frame x
      exact Or.inr (hprod _ ec ecur q1 eK eh ebl q2)
  · by_cases hp : (x.s.cons a b).pc = .publish
    · exact Or.inl ((μmain_stepCons x a b ha hb hI (cursor_le_fin x h)).2 (CS.publish_progress x.s a b ha hb hI hp))
    · refine Or.inr ⟨CS.owedW_cons_le x.s hI a b ha hb hp, ?_⟩
      by_cases hop : CS.owedParked x.s
      · rcases CS.owedParked_cons_step x.s a b hp hop with h1 | ⟨a', b', ha', hb', hlt⟩
        · exact Or.inl (fun _ => h1)
        · exact Or.inr (CS.owedW_cons_lt x.s hI a b ha hb hp a' b' ha' hb' hlt)
      · exact Or.inl (fun hh => absurd hh hop)

theorem μ_mono (x : MSt) (t : MTid) (h : LB x) : μ (stepM x t) ≤ μ x := by
  have hb := bnd_stepM x t
  simp only [μ, hb]
  exact CS.weighted_le (hb ▸ CS.owedW_le_bnd (stepM x t).s) (μmain_stepM_le x t h.lj) ((owed_step x t h.lj).imp id (·.1))

def ready (x : MSt) : MTid → Prop
  | .writer i => i < x.P ∧ readyW x i
  | .drainer => readyD x
  | .cons k j => k < x.s.K ∧ j < x.s.h k ∧ CS.readyC x.s k j

noncomputable def rank : MTid → MSt → Nat
  | .writer i, x => rankW (ngate x.s) x.s.n (x.wr i)
  | .drainer, x => rankD x
  | .cons k j, x => CS.rankC x.s k j

theorem notifier_ready (x : MSt) (h : LB x) (hop : CS.owedParked x.s) : ∃ t, inTopoM x.P x.s.K x.s.h t ∧ ready x t := by
  obtain ⟨k, j, hk, hj, hpc, ho⟩ := hop
  have hop : CS.owedParked x.s := ⟨k, j, hk, hj, hpc, ho⟩
  rcases h.lj.g.nlw k j hk hj ho with hp | ⟨i, hi, hp⟩ | ⟨a, b, ha, hb, hc⟩
  -- at a pending pc readiness is `True` or follows from `hop`; at every other pc the pending flag is absurd
  · refine ⟨.drainer, trivial, ?_⟩
    show readyD x
    unfold readyD
    cases hpp : x.dr.pc <;> rw [hpp] at hp <;> first | exact Or.inr hop | trivial | cases hp
  · refine ⟨.writer i, hi, hi, ?_⟩
    unfold readyW
    cases hpp : (x.wr i).pc <;> rw [hpp] at hp <;> first | trivial | cases hp
  · refine ⟨.cons a b, ⟨ha, hb⟩, ha, hb, ?_⟩
    unfold CS.readyC
    cases hpp : (x.s.cons a b).pc <;> rw [hpp] at hc <;> first | exact Or.inr hop | cases hc

/-- **no deadlock, strong form** (blocking strategy): in every non-terminal state some thread of the configuration is ready -/
theorem exists_ready (x : MSt) (h : LB x) (hnt : ¬ terminalM x) : ∃ t, inTopoM x.P x.s.K x.s.h t ∧ ready x t := by
  rcases ready_or_cons_cond x h.lj hnt with ⟨i, hi, hr⟩ | hr | ⟨k, j, hk, hj, hnd, hc⟩
  · exact ⟨.writer i, hi, hi, hr⟩
  · exact ⟨.drainer, trivial, hr⟩
  · -- a handler whose wait is over is ready, unless it is parked un-notified, and then its notifier is
    rcases CS.cons_ready_of_cond x.s h.blk k j (h.lj.g.mtx.blkC h.blk k j hk hj).2 hnd hc with hr | ⟨hp, ho⟩
    · exact ⟨.cons k j, ⟨hk, hj⟩, hk, hj, hr⟩
    · exact notifier_ready x h ⟨k, j, hk, hj, hp, ho⟩

theorem stutter (x : MSt) (t : MTid) (he : enF x t = false) : stepM x t = x := by
  cases t with
  | writer i =>
    simp only [stepM]; split
    · unfold stepWriter
      cases hm : x.s.mtx <;> cases hpc : (x.wr i).pc <;> simp only [enF, enabledM, hpc, hm] at he <;> (try cases he) <;>
        simp [hpc, hm]
    · rfl
  | drainer =>
    show stepDrainer x = x
    unfold stepDrainer
    cases hm : x.s.mtx <;> cases hpc : x.dr.pc <;> simp only [enF, enabledM, hpc, hm] at he <;> (try cases he) <;>
      simp [hpc, hm]
  | cons k j =>
    simp only [stepM]; split
    · have : stepC x.s k j = x.s := CS.stutter_cons x.s k j he
      rw [this]
    · rfl

open Classical in
theorem hown (x : MSt) (t : MTid) (h : LB x) (hr : ready x t) (he : enF x t = true) :
    μ (stepM x t) < μ x ∨ (rank t (stepM x t) < rank t x ∧ ready (stepM x t) t) := by
  have hb := bnd_stepM x t
  have hI := h.lj.g.good.2.1
  cases t with
  | writer i =>
    obtain ⟨hi, hrw⟩ := hr
    rw [stepM_writer hi] at hb ⊢
    rcases hown_writer_lj x i h.lj hi hrw he with hlt | ⟨hrk, hrd⟩
    · exact Or.inl (μ_lt_of_main x _ hb hlt)
    · exact Or.inr ⟨hrk, by rw [stepWriter_P]; exact hi, hrd⟩
  | drainer =>
    have hrd : readyD x := hr
    rcases hown_drainer x h.lj.g hrd he with hlt | ⟨hpc, hnc, a, b, ha, hb', hpa, hoa⟩ | ⟨hrk, hrd'⟩
    · exact Or.inl (μ_lt_of_main x _ hb ((μmain_stepDrainer x).2 hlt))
    · -- the `notify_all` a parked handler was owed: afterwards that handler is owed nothing
      left
      apply μ_lt_of_ow x _ hb (μmain_stepDrainer x).1
      show CS.owedW (stepDrainer x).s < _
      rw [stepDrainer_eq]
      apply CS.owedW_frame_lt x.s (sAfterD x x.dr) rfl rfl (by simp [sAfterD, hpc]) rfl rfl rfl
        (Or.inr (by simp [sAfterD, hpc])) a b ha hb'
      have hno : ¬ owed (sAfterD x x.dr) a b := fun ⟨_, _, hp⟩ => by simp [parkish, sAfterD, hpc, hpa] at hp
      simp [CS.ow, hoa, hno, hpa]
    · exact Or.inr ⟨hrk, hrd'⟩
  | cons k j =>
    obtain ⟨hk, hj, hrc⟩ := hr
    have hstep : stepM x (.cons k j) = { x with s := stepC x.s k j } := by simp [stepM, hk, hj]
    rw [hstep] at hb ⊢
    obtain ⟨m1, m2⟩ := μmain_stepCons x k j hk hj hI (cursor_le_fin x h.lj)
    rcases CS.hown_cons x.s hI h.blk k j hk hj hrc he with (hp | ⟨hnp, a, b, ha, hb', hlt⟩) | ⟨hrk, hrd⟩
    · exact Or.inl (μ_lt_of_main x _ hb (m2 hp))
    · exact Or.inl (μ_lt_of_ow x _ hb m1 (CS.owedW_cons_lt x.s hI k j hk hj hnp a b ha hb' hlt))
    · exact Or.inr ⟨hrk, hk, hj, hrd⟩

open Classical in
theorem hoth (x : MSt) (t u : MTid) (h : LB x) (hr : ready x t) (hu : u ≠ t ∨ ¬ enF x t = true) :
    μ (stepM x u) < μ x ∨ (rank t (stepM x u) ≤ rank t x ∧ ready (stepM x u) t) := by
  by_cases hut : u = t
  · subst hut
    have hen : enF x u = false := by
      rcases hu with hu | hu
      · exact absurd rfl hu
      · simpa using hu
    rw [stutter x u hen]; exact Or.inr ⟨Nat.le_refl _, hr⟩
  have hb := bnd_stepM x u
  rcases step_progress_or_frame x u h.lj with hlt | f
  · exact Or.inl (μ_lt_of_main x _ hb hlt)
  rcases owed_step x u h.lj with hlt | ⟨_, hop | hlt⟩
  · exact Or.inl (μ_lt_of_main x _ hb hlt)
  · right
    cases t with
    | writer i => exact f.writer hut hr
    | drainer => exact f.drainer hut hop hr
    | cons k j =>
      obtain ⟨hk, hj, hrc⟩ := hr
      have := CS.cons_frame x.s (stepM x u).s h.blk k j (f.cons k j hut) f.cur f.cursor f.isDone f.cfg.h f.cfg.blocking
        (f.woken k j hut) hop hrc
      exact ⟨Nat.le_of_eq this.1, by rw [f.cfg.K]; exact hk, by rw [f.cfg.h]; exact hj, this.2⟩
  · exact Or.inl (μ_lt_of_ow x _ hb (μmain_stepM_le x u h.lj) hlt)

def hrW : WPc → Nat
  | .sNotify => 2
  | .sUnlock => 1
  | _ => 0

def hrD : DPc → Nat
  | .dNotify | .eNotify => 2
  | .dUnlock | .eUnlock => 1
  | _ => 0

def hold (x : MSt) : MTid → Prop
  | .writer i => i < x.P ∧ x.s.mtx = some .prod ∧ wHold (x.wr i).pc = true
  | .drainer => x.s.mtx = some .prod ∧ dHold x.dr.pc = true
  | .cons k j => x.s.mtx = some (.cons k j)

def hrank (x : MSt) : Nat :=
  match x.s.mtx with
  | some .prod => hrD x.dr.pc + sumTo x.P (fun i => hrW (x.wr i).pc)
  | some (.cons k j) => Blk.hrC (ndeps x.s k) (x.s.cons k j)
  | none => 0

theorem hrW_zero {pc : WPc} (h : wHold pc = false) : hrW pc = 0 := by
  cases pc <;> simp_all [wHold, hrW]

theorem hrD_zero {pc : DPc} (h : dHold pc = false) : hrD pc = 0 := by
  cases pc <;> simp_all [dHold, hrD]

theorem hold_writer_step (x : MSt) (i : Nat) (hm : x.s.mtx = some .prod) (hc : wHold (x.wr i).pc = true) :
    (stepWriter x i).s.mtx = none ∨
    ((stepWriter x i).s.mtx = some .prod ∧ wHold ((stepWriter x i).wr i).pc = true ∧
      hrW ((stepWriter x i).wr i).pc < hrW (x.wr i).pc) := by
  rw [stepWriter_own, stepWriter_eq]
  rcases stepW_signal x (x.wr i) with ⟨h, _⟩ | ⟨h, _⟩ | ⟨h, e⟩ | ⟨h, _⟩ | ⟨h, _, _⟩
  · rw [h] at hc; cases hc
  · rw [h] at hc; cases hc
  · right; simp [sAfterW, h, e, hm, wHold, hrW]
  · left; simp [sAfterW, h]
  · rw [wSpin_not_hold h] at hc; cases hc

theorem hold_drainer_step (x : MSt) (hm : x.s.mtx = some .prod) (hc : dHold x.dr.pc = true) :
    (stepDrainer x).s.mtx = none ∨
    ((stepDrainer x).s.mtx = some .prod ∧ dHold (stepDrainer x).dr.pc = true ∧
      hrD (stepDrainer x).dr.pc < hrD x.dr.pc) := by
  unfold stepDrainer
  cases hpc : x.dr.pc <;> simp only [hpc, dHold] at hc <;> (try cases hc) <;> simp [hpc, hm, hrD, dHold]

theorem holder_exists (x : MSt) (h : LB x) (hnf : ¬ x.s.mtx = none) : ∃ u, inTopoM x.P x.s.K x.s.h u ∧ hold x u := by
  have hM := h.lj.g.mtx
  cases hm : x.s.mtx with
  | none => exact absurd hm hnf
  | some u =>
    cases u with
    | prod =>
      rcases (hM.blkP h.blk).1 hm with hd | ⟨i, hi, hw⟩
      · exact ⟨.drainer, trivial, hm, hd⟩
      · exact ⟨.writer i, hi, hi, hm, hw⟩
    | cons k j => exact ⟨.cons k j, hM.owner k j hm, hm⟩

theorem hhown (x : MSt) (u : MTid) (h : LB x) (hh : hold x u) :
    (stepM x u).s.mtx = none ∨ (hrank (stepM x u) < hrank x ∧ hold (stepM x u) u) := by
  have hM := h.lj.g.mtx
  cases u with
  | writer i =>
    obtain ⟨hi, hm, hc⟩ := hh
    rw [stepM_writer hi]
    rcases hold_writer_step x i hm hc with h1 | ⟨h1, h2, h3⟩
    · exact Or.inl h1
    · right
      obtain ⟨_, _, _, _, _, _, edr, eP⟩ := stepWriter_frame x i
      refine ⟨?_, by rw [eP]; exact hi, h1, h2⟩
      simp only [hrank, h1, hm, edr, eP]
      apply Nat.add_lt_add_left
      apply sumTo_upd_lt x.P _ _ i hi
      · intro a _ hne; rw [stepWriter_others x i a hne]
      · exact h3
  | drainer =>
    obtain ⟨hm, hc⟩ := hh
    show (stepDrainer x).s.mtx = none ∨ _
    rcases hold_drainer_step x hm hc with h1 | ⟨h1, h2, h3⟩
    · exact Or.inl h1
    · right
      obtain ⟨_, _, _, _, _, _, ewr, eP, _⟩ := stepDrainer_frame x
      refine ⟨?_, h1, h2⟩
      show hrank (stepDrainer x) < hrank x
      simp only [hrank, h1, hm, ewr, eP]
      omega
  | cons k j =>
    have hm : x.s.mtx = some (.cons k j) := hh
    obtain ⟨hk, hj⟩ := hM.owner k j hm
    have hc := ((hM.blkC h.blk k j hk hj).1).2 hm
    rw [stepM_cons hk hj]
    rcases Blk.hold_cons_step x.s k j h.blk hm hc with h1 | ⟨h1, h2⟩
    · exact Or.inl h1
    · exact Or.inr ⟨by simp only [hrank, h1, hm]; exact h2, h1⟩

theorem hold_unique (x : MSt) (hM : XInv x) (u v : MTid) (hu : hold x u) (hv : hold x v) : u = v := by
  cases u with
  | writer i =>
    cases v with
    | writer i' => rw [hM.uniqW i i' hu.1 hv.1 hu.2.2 hv.2.2]
    | drainer => have := hM.uniqD i hu.1 hu.2.2; rw [hv.2] at this; cases this
    | cons k j => have := hu.2.1; rw [show x.s.mtx = _ from hv] at this; cases this
  | drainer =>
    cases v with
    | writer i' => have := hM.uniqD i' hv.1 hv.2.2; rw [hu.2] at this; cases this
    | drainer => rfl
    | cons k j => have := hu.1; rw [show x.s.mtx = _ from hv] at this; cases this
  | cons k j =>
    cases v with
    | writer i' => have := hv.2.1; rw [show x.s.mtx = _ from hu] at this; cases this
    | drainer => have := hv.1; rw [show x.s.mtx = _ from hu] at this; cases this
    | cons k' j' =>
      have := (show x.s.mtx = _ from hu).symm.trans hv
      injection this with this; injection this with e1 e2; rw [e1, e2]

theorem hhoth (x : MSt) (u v : MTid) (h : LB x) (hh : hold x u) (hne : v ≠ u) :
    hrank (stepM x v) = hrank x ∧ hold (stepM x v) u := by
  have hM := h.lj.g.mtx
  have hnv : ¬ hold x v := fun hv => hne (hold_unique x hM v u hv hh)
  obtain ⟨t0, hm0⟩ : ∃ t, x.s.mtx = some t := by
    cases u with
    | writer i => exact ⟨_, hh.2.1⟩
    | drainer => exact ⟨_, hh.1⟩
    | cons k j => exact ⟨_, hh⟩
  obtain ⟨fw, fd, fc⟩ := stepM_others x v
  have c := stepM_cfg x v
  -- `v` does not own the taken mutex: its step leaves the mutex alone, and its own summand of `hrank` is and stays zero
  suffices hs : (stepM x v).s.mtx = x.s.mtx ∧ hrD (stepM x v).dr.pc = hrD x.dr.pc ∧
      ∀ a, a < x.P → hrW ((stepM x v).wr a).pc = hrW (x.wr a).pc by
    obtain ⟨em, ed, ew⟩ := hs
    refine ⟨?_, ?_⟩
    · unfold hrank
      rw [em, c.P, ed, sumTo_congr x.P _ _ ew]
      cases hm : x.s.mtx with
      | none => rfl
      | some t =>
        cases t with
        | prod => rfl
        | cons k j => simp only [ndeps, c.h, fc k j (fun e => hnv (by rw [e]; exact hm))]
    · cases u with
      | writer i => exact ⟨by rw [c.P]; exact hh.1, by rw [em]; exact hh.2.1, by rw [fw i hne]; exact hh.2.2⟩
      | drainer => exact ⟨by rw [em]; exact hh.1, by rw [fd hne]; exact hh.2⟩
      | cons k j => show (stepM x v).s.mtx = some (.cons k j); rw [em]; exact hh
  cases v with
  | writer i =>
    by_cases hi : i < x.P
    · have hnh : wHold (x.wr i).pc = false :=
        eq_false_of_ne_true (fun hw => hnv ⟨hi, (hM.blkP h.blk).2 (Or.inr ⟨i, hi, hw⟩), hw⟩)
      rw [stepM_writer hi]
      have hmm : (stepWriter x i).s.mtx = x.s.mtx ∧ wHold ((stepWriter x i).wr i).pc = false := by
        rcases writer_mtx_step x i with ⟨h1, h2⟩ | ⟨h1, _⟩ | ⟨h1, _⟩
        · exact ⟨h1, by rw [h2]; exact hnh⟩
        · rw [hm0] at h1; cases h1
        · rw [hnh] at h1; cases h1
      refine ⟨hmm.1, by rw [stepWriter_eq], fun a _ => ?_⟩
      by_cases he : a = i
      · subst he; rw [hrW_zero hmm.2, hrW_zero hnh]
      · rw [stepWriter_others x i a he]
    · rw [stepM_writer_out hi]; exact ⟨rfl, rfl, fun _ _ => rfl⟩
  | drainer =>
    rw [stepM_drainer]
    have hnh : dHold x.dr.pc = false :=
      eq_false_of_ne_true (fun hd => hnv ⟨(hM.blkP h.blk).2 (Or.inl hd), hd⟩)
    have hmm : (stepDrainer x).s.mtx = x.s.mtx ∧ dHold (stepDrainer x).dr.pc = false := by
      rcases drainer_mtx_step x h.blk (fun hw => by rw [hnh] at hw; cases hw) with ⟨h1, h2⟩ | ⟨h1, _⟩ | ⟨h1, _⟩
      · exact ⟨h1, by rw [h2]; exact hnh⟩
      · rw [hm0] at h1; cases h1
      · rw [hnh] at h1; cases h1
    exact ⟨hmm.1, by rw [hrD_zero hmm.2, hrD_zero hnh], fun a _ => by rw [stepDrainer_eq]⟩
  | cons a b =>
    by_cases hv : a < x.s.K ∧ b < x.s.h a
    · rw [stepM_cons hv.1 hv.2]
      obtain ⟨c1, c2⟩ := hM.blkC h.blk a b hv.1 hv.2
      refine ⟨?_, rfl, fun _ _ => rfl⟩
      show mtxAfterC x.s a b = x.s.mtx
      rcases (cons_mtx_step x.s a b h.blk c1 c2).2.2 with h1 | ⟨h1, _⟩ | ⟨h1, _⟩
      · exact h1
      · rw [hm0] at h1; cases h1
      · exact absurd h1 hnv
    · rw [stepM_cons_out hv]; exact ⟨rfl, rfl, fun _ _ => rfl⟩

theorem hen (x : MSt) (t : MTid) (hr : ready x t) (hf : x.s.mtx = none) : enF x t = true := by
  cases t with
  | writer i => exact readyW_enabled hr.2 hf
  | drainer => exact readyD_enabled hr hf
  | cons k j =>
    obtain ⟨_, _, hr'⟩ := hr
    exact CS.hen_cons x.s k j hr' hf

/-- **C06 core (multi-producer sequencer, blocking wait)**: from every state satisfying the liveness invariant — one
writer thread whose batches are smaller than the ring, or all writers done with nothing stranded — every schedule that is
weakly fair and strongly fair (a thread whose step is enabled infinitely often takes an enabled step infinitely often —
only `lock` / `relock` steps can be disabled) reaches the state where every writer has returned from all `write` calls,
`drain` has returned and every handler thread has terminated. -/
theorem terminates (x0 : MSt) (h0 : LB x0) (σ : Nat → MTid)
    (hwf : Fair.WeakFair (inTopoM x0.P x0.s.K x0.s.h) σ)
    (hsf : Fair.StrongFair stepM (fun x t => enF x t = true) (inTopoM x0.P x0.s.K x0.s.h) σ x0) :
    ∃ n, terminalM (Fair.run stepM σ x0 n) := by
  apply Fair.fair_termination_sf stepM (inTopoM x0.P x0.s.K x0.s.h)
    (fun x => LB x ∧ SameCfg x0 x) terminalM (fun x t => enF x t = true) ready μ rank
    (fun x => x.s.mtx = none) hold hrank
  · exact fun s t ⟨hs, c⟩ => ⟨lb_stepM s t hs, c.trans (stepM_cfg s t)⟩
  · exact fun s t hs => μ_mono s t hs.1
  · intro s ⟨hs, c⟩ hnt
    rw [← c.inTopoM_eq]; exact exists_ready s hs hnt
  · exact fun s t hs hr he => hown s t hs.1 hr he
  · exact fun s t u hs hr hu => hoth s t u hs.1 hr hu
  · exact fun s t _ hr hf => hen s t hr hf
  · intro s ⟨hs, c⟩ hnf
    rw [← c.inTopoM_eq]; exact holder_exists s hs hnf
  · intro s u hs hh
    rcases hhown s u hs.1 hh with h1 | ⟨h1, h2⟩
    · exact Or.inr (Or.inl h1)
    · exact Or.inr (Or.inr ⟨h1, h2⟩)
  · intro s u v hs hh hne
    obtain ⟨h1, h2⟩ := hhoth s u v hs.1 hh hne
    exact Or.inr (Or.inr ⟨Nat.le_of_eq h1, h2⟩)
  · exact ⟨h0, SameCfg.refl x0⟩
  · exact hwf
  · exact hsf

/-- the thread's next step is a mutex acquisition (`lock`, or the re-acquisition after `cvar.wait`) -/
def atLock (x : MSt) : MTid → Bool
  | .writer i => match (x.wr i).pc with
    | .sLock => true
    | _ => false
  | .drainer => match x.dr.pc with
    | .dLock | .eLock => true
    | _ => false
  | .cons k j => match (x.s.cons k j).pc with
    | .bLock | .sLock | .bRelock => true
    | _ => false

def finished (x : MSt) : MTid → Bool
  | .writer i => decide ((x.wr i).pc = .done) || decide ((x.wr i).pc = .panicked)
  | .drainer => decide (x.dr.pc = .done)
  | .cons k j => decide ((x.s.cons k j).pc = .done)

theorem enabled_of_plain (x : MSt) (t : MTid) (h1 : ¬ atLock x t = true) (h2 : ¬ finished x t = true) :
    enF x t = true := by
  cases t with
  | writer i => cases hpc : (x.wr i).pc <;> simp_all [atLock, finished, enF, enabledM]
  | drainer => cases hpc : x.dr.pc <;> simp_all [atLock, finished, enF, enabledM]
  | cons k j =>
    show CS.cEn x.s k j = true
    unfold CS.cEn
    cases hpc : (x.s.cons k j).pc <;> simp_all [atLock, finished, enabled]

theorem not_finished_of_enabled (x : MSt) (t : MTid) (h : enF x t = true) : ¬ finished x t = true := by
  cases t with
  | writer i => cases hpc : (x.wr i).pc <;> simp_all [finished, enF, enabledM]
  | drainer => cases hpc : x.dr.pc <;> simp_all [finished, enF, enabledM]
  | cons k j =>
    have h' : CS.cEn x.s k j = true := h
    unfold CS.cEn at h'
    cases hpc : (x.s.cons k j).pc <;> simp_all [finished, enabled]

theorem enF_of_atLock (x : MSt) (t : MTid) (h : atLock x t = true) : enF x t = enabledM x t := by
  cases t with
  | writer i => rfl
  | drainer => cases hpc : x.dr.pc <;> simp_all [atLock, enF]
  | cons k j => rfl

theorem plain_other (x : MSt) (t u : MTid) (hne : u ≠ t) :
    atLock (stepM x u) t = atLock x t ∧ finished (stepM x u) t = finished x t := by
  obtain ⟨hw, hd, hc⟩ := stepM_others x u
  cases t with
  | writer i => simp only [atLock, finished, hw i hne, and_self]
  | drainer => simp only [atLock, finished, hd hne, and_self]
  | cons k j => simp only [atLock, finished, hc k j hne, and_self]

theorem strongFair_of_lockFair (P : MTid → Prop) (σ : Nat → MTid) (x0 : MSt)
    (hwf : Fair.WeakFair P σ)
    (hlf : Fair.LockFair stepM P (fun x t => enabledM x t = true) (fun x t => atLock x t = true) σ x0) :
    Fair.StrongFair stepM (fun x t => enF x t = true) P σ x0 := by
  refine Fair.strongFair_of_lockFair stepM P (fun x t => enF x t = true) (fun x t => atLock x t = true)
    (fun x t => finished x t = true) enabled_of_plain not_finished_of_enabled
    (fun x t u hne h1 h2 => by rw [(plain_other x t u hne).1, (plain_other x t u hne).2]; exact ⟨h1, h2⟩)
    σ x0 hwf ?_
  -- at a lock step `enF` is `enabledM`
  intro t hPt hinf n
  obtain ⟨m, hm, h1, h2, h3⟩ := hlf t hPt
    (fun n => let ⟨m, hm, h1, h2⟩ := hinf n; ⟨m, hm, h1, (enF_of_atLock _ t h1).symm.trans h2⟩) n
  exact ⟨m, hm, h1, h2, (enF_of_atLock _ t h2).trans h3⟩

theorem terminal_not_enabled (x : MSt) (ht : terminalM x) (t : MTid) (hP : inTopoM x.P x.s.K x.s.h t) :
    enF x t = false ∧ enabledM x t = false := by
  cases t with
  | writer i => simp [enF, enabledM, ht.1 i hP]
  | drainer => simp [enF, enabledM, ht.2.1]
  | cons k j =>
    show CS.cEn x.s k j = false ∧ CS.cEn x.s k j = false
    simp [CS.cEn, enabled, ht.2.2 k j hP.1 hP.2]

theorem terminal_fixed (x : MSt) (ht : terminalM x) (t : MTid) : stepM x t = x := by
  by_cases hP : inTopoM x.P x.s.K x.s.h t
  · exact stutter x t (terminal_not_enabled x ht t hP).1
  · cases t with
    | writer i => exact if_neg hP
    | drainer => exact absurd trivial hP
    | cons k j => exact if_neg hP

theorem frun_eq_runM (σ : Nat → MTid) (x : MSt) (i : Nat) :
    Fair.run stepM σ x i = runM x ((List.range i).map σ) := by
  induction i with
  | zero => rfl
  | succ i ih =>
    simp only [Fair.run, ih, runM, List.range_succ, List.map_append, List.foldl_append, List.map, List.foldl]

theorem topo_frun (σ : Nat → MTid) (x : MSt) (i : Nat) :
    (Fair.run stepM σ x i).s.K = x.s.K ∧ (Fair.run stepM σ x i).s.h = x.s.h ∧ (Fair.run stepM σ x i).s.n = x.s.n ∧
    (Fair.run stepM σ x i).P = x.P := by
  rw [frun_eq_runM]
  exact let c := runM_cfg x ((List.range i).map σ); ⟨c.K, c.h, c.n, c.P⟩

theorem lockFair_of_terminates (σ : Nat → MTid) (x0 : MSt) (T : Nat) (ht : terminalM (Fair.run stepM σ x0 T)) :
    Fair.LockFair stepM (inTopoM x0.P x0.s.K x0.s.h) (fun x t => enabledM x t = true) (fun x t => atLock x t = true)
      σ x0 := by
  obtain ⟨eK, eh, _, eP⟩ := topo_frun σ x0 T
  exact Fair.lockFair_of_terminates stepM (inTopoM x0.P x0.s.K x0.s.h) (fun x t => enabledM x t = true)
    (fun x t => atLock x t = true) σ x0 T (terminal_fixed _ ht)
    (fun t hPt => by rw [(terminal_not_enabled _ ht t (by rw [eK, eh, eP]; exact hPt)).2]; simp)

end BlkM
end RingMulti
