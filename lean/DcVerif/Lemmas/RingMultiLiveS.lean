import DcVerif.Lemmas.RingMultiLive
/-!
# Liveness of the multi-producer pipeline, spin wait strategy

Instantiation of `Fair.fair_termination` (weak fairness) for `Model/RingMulti.lean` under the liveness invariant `LJ`
(one writer thread, or all writers done and nothing stranded): `SpinM.exists_ready` (no deadlock in the strong sense),
`SpinM.terminates`.
-/
namespace RingMulti
open Ring
namespace SpinM

structure LS (x : MSt) : Prop where
  lj   : LJ x
  spin : x.s.blocking = false

theorem ls_stepM (x : MSt) (t : MTid) (h : LS x) : LS (stepM x t) :=
  ⟨lj_stepM x t h.lj, by rw [(stepM_cfg x t).blocking]; exact h.spin⟩

def ready (x : MSt) : MTid → Prop
  | .writer i => i < x.P ∧ readyW x i
  | .drainer => readyD x
  | .cons k j => k < x.s.K ∧ j < x.s.h k ∧ Spin.readyC x.s k (x.s.cons k j)

noncomputable def rank : MTid → MSt → Nat
  | .writer i, x => rankW (ngate x.s) x.s.n (x.wr i)
  | .drainer, x => rankD x
  | .cons k j, x => CS.rankS x.s k j

/-- **no deadlock, strong form** (spin): in every non-terminal state some thread of the configuration is ready -/
theorem exists_ready (x : MSt) (h : LS x) (hnt : ¬ terminalM x) : ∃ t, inTopoM x.P x.s.K x.s.h t ∧ ready x t := by
  rcases ready_or_cons_cond x h.lj hnt with ⟨i, hi, hr⟩ | hr | ⟨k, j, hk, hj, hnd, hc⟩
  · exact ⟨.writer i, hi, hi, hr⟩
  · exact ⟨.drainer, trivial, hr⟩
  · -- in its spin loop a handler is ready as soon as its wait is over
    refine ⟨.cons k j, ⟨hk, hj⟩, hk, hj, ?_⟩
    have hsp := h.lj.g.mtx.spinC h.spin k j hk hj
    cases hpc : (x.s.cons k j).pc <;> simp [Spin.readyC, hpc, Spin.cSpin] at hsp hnd ⊢ <;> exact hc

theorem hown (x : MSt) (t : MTid) (h : LS x) (hr : ready x t) :
    μmain (stepM x t) < μmain x ∨ (rank t (stepM x t) < rank t x ∧ ready (stepM x t) t) := by
  have hM := h.lj.g.mtx
  cases t with
  | writer i =>
    obtain ⟨hi, hrw⟩ := hr
    rw [stepM_writer hi]
    exact (hown_writer_lj x i h.lj hi hrw (readyW_enabled hrw (hM.spinM h.spin))).imp id (fun ⟨hrk, hrd⟩ => ⟨hrk, by rw [stepWriter_P]; exact hi, hrd⟩)
  | drainer =>
    have hrd : readyD x := hr
    rcases hown_drainer x h.lj.g hrd (readyD_enabled hrd (hM.spinM h.spin)) with hlt | ⟨hpc, _, _⟩ | ⟨hrk, hrd'⟩
    · exact Or.inl ((μmain_stepDrainer x).2 hlt)
    · have := hM.spinD h.spin; simp [hpc, dSpin] at this
    · exact Or.inr ⟨hrk, hrd'⟩
  | cons k j =>
    obtain ⟨hk, hj, hrc⟩ := hr
    rw [stepM_cons hk hj]
    rcases CS.spin_hown x.s h.lj.g.good.2.1 h.spin k j hk hj hrc with hp | ⟨hrk, hrd⟩
    · exact Or.inl ((μmain_stepCons x k j hk hj h.lj.g.good.2.1 (cursor_le_fin x h.lj)).2 hp)
    · exact Or.inr ⟨hrk, hk, hj, hrd⟩

theorem not_owedParked_spin (s : St) (hs : s.blocking = false) : ¬ CS.owedParked s := by
  rintro ⟨_, _, _, _, _, hb, _⟩
  rw [hs] at hb; cases hb

theorem hoth (x : MSt) (t u : MTid) (h : LS x) (hne : u ≠ t) (hr : ready x t) :
    μmain (stepM x u) < μmain x ∨ (rank t (stepM x u) ≤ rank t x ∧ ready (stepM x u) t) := by
  refine (step_progress_or_frame x u h.lj).imp id (fun f => ?_)
  cases t with
  | writer i => exact f.writer hne hr
  | drainer => exact f.drainer hne (fun hop => absurd hop (not_owedParked_spin x.s h.spin)) hr
  | cons k j =>
    obtain ⟨hk, hj, hrc⟩ := hr
    have := CS.spin_frame x.s (stepM x u).s k j (f.cons k j hne) f.cur f.cursor f.isDone f.cfg.h hrc
    exact ⟨Nat.le_of_eq this.1, by rw [f.cfg.K]; exact hk, by rw [f.cfg.h]; exact hj, this.2⟩

/-- **C06 core (multi-producer sequencer, spin wait)**: from every state satisfying the liveness invariant — one writer
thread whose batches are smaller than the ring, or all writers done with nothing stranded — every schedule in which every
thread of the configuration occurs infinitely often reaches the state where every writer has returned from all `write`
calls, `drain` has returned and every handler thread has terminated. -/
theorem terminates (x0 : MSt) (h0 : LS x0) (σ : Nat → MTid)
    (hf : Fair.WeakFair (inTopoM x0.P x0.s.K x0.s.h) σ) :
    ∃ n, terminalM (Fair.run stepM σ x0 n) := by
  apply Fair.fair_termination stepM (inTopoM x0.P x0.s.K x0.s.h)
    (fun x => LS x ∧ SameCfg x0 x) terminalM ready μmain rank
  · exact fun s t ⟨hs, c⟩ => ⟨ls_stepM s t hs, c.trans (stepM_cfg s t)⟩
  · exact fun s t hs => μmain_stepM_le s t hs.1.lj
  · intro s ⟨hs, c⟩ hnt
    rw [← c.inTopoM_eq]; exact exists_ready s hs hnt
  · exact fun s t hs hr => hown s t hs.1 hr
  · exact fun s t u hs hne hr => hoth s t u hs.1 hne hr
  · exact ⟨h0, SameCfg.refl x0⟩
  · exact hf

end SpinM
end RingMulti
