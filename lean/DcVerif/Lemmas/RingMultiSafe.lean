import DcVerif.Lemmas.RingMulti
import DcVerif.Lemmas.RingPay
import DcVerif.Props.C19
/-!
Safety of the multi-producer sequencer (`Model/RingMulti.lean`) for **every** schedule, every ring size `n = 2^k`, every
topology, any number of writer threads:

* capacity (`WCap`, `MCap`): a writer that holds a claim `[lo, hi]` has `hi < minG + n` for a value `minG` that is below every
  last-stage cursor — hence (with `below_all`) below every handler cursor: no slot is overwritten before it was consumed;
* release safety (`MSafe`): the cursor, the low watermark and every `good_to_release` value of every writer is a *published
  prefix* — every sequence `1 … c` has been claimed, completely written and its bit has been set by its claimant
  (`Pub`); a bit that is set in the bitmap belongs to a published sequence above the cursor (`BitOk`), and all claimed
  sequences lie in a window of fewer than `n` consecutive numbers above the cursor, so residues identify sequences.

The real races of the code are all covered: two publishers may read the same low watermark, unset overlapping ranges and CAS
the cursor in either order; the low watermark may move backwards; a stale publisher may clear the bit of a sequence one lap
ahead. None of them moves the cursor past an unpublished sequence (they do strand published ones: `Props/C14.lean`).
-/
namespace RingMulti
open Ring

def BmOk (n : Nat) (bm : Option Gen.BitMap.BitMap) : Prop :=
  ∃ k b hist, n = 2 ^ k ∧ bm = some b ∧ C19.Inv (2 ^ k) b hist

theorem bmIsSet_eq {k : Nat} {b : Gen.BitMap.BitMap} {hist : List Spec.BitMap.Op} (h : C19.Inv (2 ^ k) b hist) (q : Nat) :
    bmIsSet (some b) q = Spec.BitMap.isSet (2 ^ k) hist q := by
  obtain ⟨w, hw, hb⟩ := h.cells q
  unfold bmIsSet
  simp only [Option.bind_some]
  rw [C19.is_set_nf h.shape, hw]
  simpa using hb

theorem isSet_congr (c : Nat) (hist : List Spec.BitMap.Op) (s s' : Nat) (h : s % c = s' % c) :
    Spec.BitMap.isSet c hist s = Spec.BitMap.isSet c hist s' := by
  induction hist with
  | nil => rfl
  | cons op rest ih => simp only [Spec.BitMap.isSet, h, ih]

theorem bmIsSet_congr {n : Nat} {bm : Option Gen.BitMap.BitMap} (h : BmOk n bm) (q q' : Nat) (hq : q % n = q' % n) :
    bmIsSet bm q = bmIsSet bm q' := by
  obtain ⟨k, b, hist, rfl, rfl, hinv⟩ := h
  rw [bmIsSet_eq hinv, bmIsSet_eq hinv]
  exact isSet_congr _ _ _ _ hq

theorem bm_set {n : Nat} {bm : Option Gen.BitMap.BitMap} (h : BmOk n bm) (b : Nat) :
    BmOk n (bmApply bm (fun m => Gen.BitMap.set m b)) ∧
    ∀ q, bmIsSet (bmApply bm (fun m => Gen.BitMap.set m b)) q = (if b % n = q % n then true else bmIsSet bm q) := by
  obtain ⟨k, m, hist, rfl, rfl, hinv⟩ := h
  obtain ⟨m', hm', hinv'⟩ := C19.inv_step hinv (.set b)
  have e : bmApply (some m) (fun m => Gen.BitMap.set m b) = some m' := by
    simpa [bmApply, Model.BitMap.apply] using hm'
  refine ⟨⟨k, m', _, rfl, e, hinv'⟩, fun q => ?_⟩
  rw [e, bmIsSet_eq hinv', bmIsSet_eq hinv, C19.isSet_cons_set]

theorem bm_unset {n : Nat} {bm : Option Gen.BitMap.BitMap} (h : BmOk n bm) (b : Nat) :
    BmOk n (bmApply bm (fun m => Gen.BitMap.unset m b)) ∧
    ∀ q, bmIsSet (bmApply bm (fun m => Gen.BitMap.unset m b)) q = (if b % n = q % n then false else bmIsSet bm q) := by
  obtain ⟨k, m, hist, rfl, rfl, hinv⟩ := h
  obtain ⟨m', hm', hinv'⟩ := C19.inv_step hinv (.unset b)
  have e : bmApply (some m) (fun m => Gen.BitMap.unset m b) = some m' := by
    simpa [bmApply, Model.BitMap.apply] using hm'
  refine ⟨⟨k, m', _, rfl, e, hinv'⟩, fun q => ?_⟩
  rw [e, bmIsSet_eq hinv', bmIsSet_eq hinv, C19.isSet_cons_unset]

theorem eq_of_mod_eq_window {a b n : Nat} (h : a % n = b % n) (hab : a ≤ b) (hw : b < a + n) : a = b :=
  Decidable.byContradiction fun hne => RingPay.mod_ne_of_close (Nat.lt_of_le_of_ne hab hne) hw h

theorem eq_of_mod_eq_of_close {a b n : Nat} (h : a % n = b % n) (h1 : a < b + n) (h2 : b < a + n) : a = b := by
  rcases Nat.le_total a b with hle | hle
  · exact eq_of_mod_eq_window h hle h2
  · exact (eq_of_mod_eq_window h.symm hle h1).symm

theorem lap_of_mod_eq {a b n : Nat} (h : a % n = b % n) (hab : a < b) : a + n ≤ b :=
  Nat.le_of_not_lt fun hlt => Nat.ne_of_lt hab (eq_of_mod_eq_window h (Nat.le_of_lt hab) hlt)

/-- writer-local facts about the gating loads of `has_capacity` (as `PInv.minLe/accLe/accSome/idxLe` for the single
producer) and the consequence of a successful check: the claimed range ends less than a ring above `minG` -/
structure WCap (s : St) (w : Writer) : Prop where
  minLe   : ∀ d, d < ngate s → w.minG ≤ gate s d
  accLe   : w.pc = .capLoad → ∀ m, w.acc = some m → ∀ d, d < w.idx → m ≤ gate s d
  accSome : w.pc = .capLoad → 0 < w.idx → w.acc.isSome
  idxLe   : w.pc = .capLoad → w.idx ≤ ngate s
  capOk   : w.pc = .casHw → w.hwSeen + w.count < w.minG + s.n
  hiLt    : (w.pc = .write ∨ w.pc = .setBit) → w.hi < w.minG + s.n

theorem wcap_stable (s s' : St) (w : Writer) (h : WCap s w) (hn : ngate s' = ngate s) (hm : ∀ d, gate s d ≤ gate s' d)
    (hnn : s'.n = s.n) : WCap s' w := by
  obtain ⟨h1, h2, h3, h4, h5, h6⟩ := h
  constructor
  · intro d hd; exact Nat.le_trans (h1 d (by omega)) (hm d)
  · intro hp m hmm d hd; exact Nat.le_trans (h2 hp m hmm d hd) (hm d)
  · exact h3
  · rw [hn]; exact h4
  · rw [hnn]; exact h5
  · rw [hnn]; exact h6

/-- every clause of `WCap` that speaks at `p'` speaks at `p` -/
def WCap.PcLe (p p' : WPc) : Prop :=
  (p' = .capLoad → p = .capLoad) ∧ (p' = .casHw → p = .casHw) ∧ ((p' = .write ∨ p' = .setBit) → (p = .write ∨ p = .setBit))

instance (p p' : WPc) : Decidable (WCap.PcLe p p') := by unfold WCap.PcLe; infer_instance

theorem WCap.move {s : St} {w w' : Writer} {p : WPc} (h : WCap s w) (hp : w.pc = p)
    (hle : WCap.PcLe p w'.pc := by dsimp only; decide) (e1 : w'.minG = w.minG := by rfl) (e2 : w'.acc = w.acc := by rfl)
    (e3 : w'.idx = w.idx := by rfl) (e4 : w'.hwSeen = w.hwSeen := by rfl) (e5 : w'.count = w.count := by rfl)
    (e6 : w'.hi = w.hi := by rfl) : WCap s w' := by
  subst hp
  obtain ⟨l1, l2, l3⟩ := hle
  exact ⟨e1 ▸ h.minLe, fun g => e2 ▸ e3 ▸ h.accLe (l1 g), fun g => e2 ▸ e3 ▸ h.accSome (l1 g), fun g => e3 ▸ h.idxLe (l1 g),
    fun g => e1 ▸ e4 ▸ e5 ▸ h.capOk (l2 g), fun g => e1 ▸ e6 ▸ h.hiLt (l3 g)⟩

theorem wcap_stepW (x : MSt) (w : Writer) (hpos : 0 < ngate x.s) (h : WCap x.s w) : WCap x.s (stepW x w) := by
  unfold stepW
  cases hpc : w.pc <;> simp only
  case start =>
    split
    · exact h.move hpc
    · refine ⟨h.minLe, ?_, ?_, ?_, ?_, ?_⟩ <;> simp
  case readHw => refine ⟨h.minLe, ?_, ?_, ?_, ?_, ?_⟩ <;> simp
  case capLoad =>
    split
    · rename_i hlt
      exact ⟨h.minLe, fun _ => minOpt_step_le (gate x.s) w.acc w.idx (h.accLe hpc) (h.accSome hpc), fun _ _ => minOpt_isSome _ _,
        fun _ => hlt, nofun, by simp⟩
    · rename_i hge
      refine ⟨minOpt_done_le (gate x.s) w.acc w.idx _ (h.accLe hpc) (h.accSome hpc) (Nat.le_of_not_lt hge) hpos,
        ?_, ?_, ?_, ?_, ?_⟩ <;> simp
  case capCheck =>
    split
    · refine ⟨h.minLe, ?_, ?_, ?_, ?_, ?_⟩ <;> simp; omega
    · exact h.move hpc
  case casHw =>
    have := h.capOk hpc
    split
    · refine ⟨h.minLe, ?_, ?_, ?_, ?_, ?_⟩ <;> simp; omega
    · exact h.move hpc
  case sLock => split; exact h.move hpc; exact h
  case done | panicked => exact h
  -- the other steps move the pc as `WCap.move` allows and write fields `WCap` does not read
  all_goals (repeat' split) <;> exact h.move hpc

def MCap (x : MSt) : Prop := MGood x ∧ ∀ i, i < x.P → WCap x.s (x.wr i)

theorem mcap_stepM (x : MSt) (t : MTid) (h : MCap x) : MCap (stepM x t) := by
  obtain ⟨hG, hW⟩ := h
  refine ⟨mgood_stepM x t hG, ?_⟩
  have hpos := ngate_pos x.s hG.2.1.1 hG.2.2
  refine stepM_cases (Q := fun y => ∀ i, i < y.P → WCap y.s (y.wr i)) x t (fun i hi j hj => ?_) ?_
    (fun k j hk hj i' hi' => wcap_stable x.s _ _ (hW i' hi') rfl (gate_mono_stepC x.s k j hk hj hG.2.1) rfl) hW
  · have hw := forall_writers_step (Q := fun _ w => WCap x.s w) x i (fun _ => wcap_stepW x _ hpos (hW i hi))
      (fun j hj _ => hW j hj) j hj
    rw [stepWriter_eq] at hw ⊢
    exact wcap_stable x.s _ _ hw rfl (fun _ => Nat.le_refl _) rfl
  · rw [stepDrainer_eq]
    exact fun j hj => wcap_stable x.s _ _ (hW j hj) rfl (fun _ => Nat.le_refl _) rfl

theorem mcap_init (n K : Nat) (hh : Nat → Nat) (blocking : Bool) (batches : List (List Nat))
    (hK : 0 < K) (hpos : ∀ k, k < K → 0 < hh k) (hb : ∀ l, l ∈ batches → ∀ b, b ∈ l → 1 ≤ b) :
    MCap (mkM n K hh blocking batches) := by
  refine ⟨mgood_init n K hh blocking batches hK hpos hb, ?_⟩
  intro i _
  constructor <;> simp [mkM, gate]

theorem mreachableWF_cap {x : MSt} (hr : MReachableWF x) : MCap x :=
  hr.induct mcap_init (fun x t _ => mcap_stepM x t)

theorem minG_le_all (x : MSt) (h : MCap x) (i : Nat) (hi : i < x.P) (k j : Nat) (hk : k < x.s.K) (hj : j < x.s.h k) :
    (x.wr i).minG ≤ (x.s.cons k j).cur :=
  below_all x.s h.1.2.1 h.1.2.2 _ (h.2 i hi).minLe k j (by omega) hj

/-- Closes one clause `(w.pc = p₁ ∨ …) → A` of a structure of pc-guarded clauses, given `hpc : w.pc = p`: where the guard
holds `A` is among the hypotheses, where it does not the clause is void. -/
macro "guarded_clause " hpc:ident : tactic =>
  `(tactic| (rw [$hpc:ident] <;>
      first | exact fun _ => ‹_› | simp only [reduceCtorEq, or_self, false_implies, ne_eq, not_false_eq_true]))

/-- sequence `q` is still pending with writer `w`: claimed by it, and the writer has not yet executed `ready_sequences.set(q)`
(it is still writing its batch, or its `set` loop has not reached `q`) -/
def wpend (w : Writer) (q : Nat) : Prop :=
  (w.pc = .write ∧ w.lo ≤ q ∧ q ≤ w.hi) ∨ (w.pc = .setBit ∧ w.nbit ≤ q ∧ q ≤ w.hi)

def Pend (x : MSt) (q : Nat) : Prop := ∃ i, i < x.P ∧ wpend (x.wr i) q

/-- `q` has been claimed and its claimant has written the whole batch and set the bit of `q` -/
def Pub (x : MSt) (q : Nat) : Prop := 1 ≤ q ∧ q ≤ x.hw ∧ ¬ Pend x q

/-- `c` is a published prefix: every sequence `1 … c` has been published by its claimant -/
def PP (x : MSt) (c : Nat) : Prop := ∀ q, 1 ≤ q → q ≤ c → Pub x q

/-- some published sequence above `g` has the residue of `q` -/
def Wit (x : MSt) (g q : Nat) : Prop := ∃ q0, q0 % x.s.n = q % x.s.n ∧ Pub x q0 ∧ g < q0

/-- if the bit of `q`'s residue is set, it is the bit of a published sequence above `c` -/
def BitOk (x : MSt) (c q : Nat) : Prop := bmIsSet x.bm q = true → Wit x c q

/-- writer-local facts of the release protocol, relative to the global high watermark `hw`, the cursor `cur`, the predicate
"is a published prefix" and the meaning of set bits -/
structure WSafeG (hw cur : Nat) (pp : Nat → Prop) (bok : Nat → Nat → Prop) (w : Writer) : Prop where
  hiLe    : w.hi ≤ hw
  loPos   : (w.pc = .write ∨ w.pc = .setBit) → 1 ≤ w.lo
  nbitGe  : w.pc = .setBit → w.lo ≤ w.nbit
  wGe     : w.pc = .write → w.lo ≤ w.w
  goodPP  : (w.pc = .scan ∨ w.pc = .relCheck ∨ w.pc = .unsetBit ∨ w.pc = .casCur ∨ w.pc = .reloadCur ∨ w.pc = .setLw) →
              pp w.good
  lwSeenLe: (w.pc = .scan ∨ w.pc = .relCheck ∨ w.pc = .unsetBit ∨ w.pc = .casCur ∨ w.pc = .reloadCur ∨ w.pc = .setLw) →
              w.lwSeen ≤ cur
  goodCur : w.pc = .setLw → w.good ≤ cur
  unsetOk : ∀ q, w.lwSeen ≤ q →
              ((w.pc = .unsetBit ∧ q < w.u) ∨ ((w.pc = .casCur ∨ w.pc = .reloadCur) ∧ q ≤ w.good)) → bok w.good q

def WSafe (x : MSt) (w : Writer) : Prop := WSafeG x.hw x.s.cursor (PP x) (BitOk x) w

theorem wsafeG_mono {hw cur hw' cur' : Nat} {pp pp' : Nat → Prop} {bok bok' : Nat → Nat → Prop} {w : Writer}
    (h : WSafeG hw cur pp bok w) (h1 : hw ≤ hw') (h2 : cur ≤ cur') (h3 : ∀ g, pp g → pp' g)
    (h4 : ∀ g q, pp g → bok g q → bok' g q) : WSafeG hw' cur' pp' bok' w := by
  obtain ⟨a1, a2, a3, a4, a5, a6, a7, a8⟩ := h
  refine ⟨by omega, a2, a3, a4, fun hp => h3 _ (a5 hp), fun hp => by have := a6 hp; omega,
    fun hp => by have := a7 hp; omega, ?_⟩
  intro q hq hc
  refine h4 _ _ (a5 ?_) (a8 q hq hc)
  rcases hc with ⟨hc, _⟩ | ⟨hc | hc, _⟩ <;> simp [hc]

/-- every clause of `WSafeG` that speaks at `p'` speaks at `p` -/
def WSafeG.PcLe (p p' : WPc) : Prop :=
  ((p' = .write ∨ p' = .setBit) → (p = .write ∨ p = .setBit)) ∧ (p' = .setBit → p = .setBit) ∧ (p' = .write → p = .write) ∧
  ((p' = .scan ∨ p' = .relCheck ∨ p' = .unsetBit ∨ p' = .casCur ∨ p' = .reloadCur ∨ p' = .setLw) →
    (p = .scan ∨ p = .relCheck ∨ p = .unsetBit ∨ p = .casCur ∨ p = .reloadCur ∨ p = .setLw)) ∧
  (p' = .setLw → p = .setLw) ∧ (p' = .unsetBit → p = .unsetBit) ∧
  ((p' = .casCur ∨ p' = .reloadCur) → (p = .casCur ∨ p = .reloadCur))

instance (p p' : WPc) : Decidable (WSafeG.PcLe p p') := by unfold WSafeG.PcLe; infer_instance

theorem WSafeG.move {hw cur : Nat} {pp : Nat → Prop} {bok : Nat → Nat → Prop} {w w' : Writer} {p : WPc}
    (h : WSafeG hw cur pp bok w) (hp : w.pc = p) (hle : WSafeG.PcLe p w'.pc := by dsimp only; decide)
    (e1 : w'.hi = w.hi := by rfl) (e2 : w'.lo = w.lo := by rfl) (e3 : w'.nbit = w.nbit := by rfl) (e4 : w'.w = w.w := by rfl)
    (e5 : w'.good = w.good := by rfl) (e6 : w'.lwSeen = w.lwSeen := by rfl) (e7 : w'.u = w.u := by rfl) :
    WSafeG hw cur pp bok w' := by
  subst hp
  obtain ⟨l1, l2, l3, l4, l5, l6, l7⟩ := hle
  constructor <;> simp only [e1, e2, e3, e4, e5, e6, e7]
  · exact h.hiLe
  · exact fun g => h.loPos (l1 g)
  · exact fun g => h.nbitGe (l2 g)
  · exact fun g => h.wGe (l3 g)
  · exact fun g => h.goodPP (l4 g)
  · exact fun g => h.lwSeenLe (l4 g)
  · exact fun g => h.goodCur (l5 g)
  · exact fun q hq hc => h.unsetOk q hq (hc.imp (And.imp_left l6) (And.imp_left l7))

theorem wpend_stepW_inv (x : MSt) (w : Writer) (q : Nat) (h : wpend (stepW x w) q) : wpend w q ∨ x.hw < q := by
  revert h
  unfold wpend
  cases hpc : w.pc <;> simp only [stepW, hpc] <;> (repeat' split) <;> grind

theorem wpend_inv (x : MSt) (i j q : Nat) (hp : wpend ((stepWriter x i).wr j) q) :
    wpend (x.wr j) q ∨ (j = i ∧ x.hw < q) := by
  by_cases he : j = i
  · subst he; rw [stepWriter_own] at hp; exact (wpend_stepW_inv x _ q hp).imp id (⟨rfl, ·⟩)
  · rw [stepWriter_others x i j he] at hp; exact .inl hp

theorem pub_mono (x : MSt) (i q : Nat) (h : Pub x q) : Pub (stepWriter x i) q := by
  obtain ⟨h1, h2, h3⟩ := h
  refine ⟨h1, Nat.le_trans h2 (stepWriter_hw_mono x i), ?_⟩
  rintro ⟨j, hj, hp⟩
  rw [stepWriter_P] at hj
  rcases wpend_inv x i j q hp with h | ⟨_, h⟩
  · exact h3 ⟨j, hj, h⟩
  · omega

theorem pp_mono (x : MSt) (i c : Nat) (h : PP x c) : PP (stepWriter x i) c :=
  fun q h1 h2 => pub_mono x i q (h q h1 h2)

theorem wit_mono (x : MSt) (i g q : Nat) (h : Wit x g q) : Wit (stepWriter x i) g q := by
  obtain ⟨q0, h1, h2, h3⟩ := h
  exact ⟨q0, by rw [(stepWriter_frame x i).2.2.2.1]; exact h1, pub_mono x i q0 h2, h3⟩

/-- sequence `q` is claimed by writer `w` and not yet written to its slot -/
def unwr (w : Writer) (q : Nat) : Prop := w.pc = .write ∧ w.w ≤ q ∧ q ≤ w.hi

/-- the release part of the invariant; mentions the state only through `P, wr, hw, lw, bm, written, s.cursor, s.n` -/
structure MRel (x : MSt) : Prop where
  ws     : ∀ i, i < x.P → WSafe x (x.wr i)
  window : x.hw < x.s.cursor + x.s.n
  lwLe   : x.lw ≤ x.s.cursor
  pref   : PP x x.s.cursor
  bits   : ∀ q, BitOk x x.s.cursor q
  bmOk   : BmOk x.s.n x.bm
  disj   : ∀ i j q, i < x.P → j < x.P → wpend (x.wr i) q → wpend (x.wr j) q → i = j
  wrote  : ∀ q, 1 ≤ q → q ≤ x.hw → (∃ i, (q, i) ∈ x.written) ∨ (∃ i, i < x.P ∧ unwr (x.wr i) q)

theorem WSafeG.pend_pos {hw cur : Nat} {pp : Nat → Prop} {bok : Nat → Nat → Prop} {w : Writer} (h : WSafeG hw cur pp bok w)
    {q : Nat} (hp : wpend w q) : 1 ≤ q := by
  rcases hp with ⟨hpc, h1, _⟩ | ⟨hpc, h1, _⟩
  · have := h.loPos (.inl hpc); omega
  · have := h.loPos (.inr hpc); have := h.nbitGe hpc; omega

theorem pend_above_prefix {x : MSt} {c i q : Nat} (hc : PP x c) (hi : i < x.P) (hp : wpend (x.wr i) q) (h1 : 1 ≤ q) : c < q :=
  Nat.lt_of_not_le fun hle => (hc q h1 hle).2.2 ⟨i, hi, hp⟩

theorem pend_above_cursor {x : MSt} (h : MRel x) {i q : Nat} (hi : i < x.P) (hp : wpend (x.wr i) q) : x.s.cursor < q :=
  pend_above_prefix h.pref hi hp ((h.ws i hi).pend_pos hp)

theorem unwr.wpend {x : MSt} (h : MRel x) {i q : Nat} (hi : i < x.P) (hu : unwr (x.wr i) q) : wpend (x.wr i) q :=
  .inl ⟨hu.1, Nat.le_trans ((h.ws i hi).wGe hu.1) hu.2.1, hu.2.2⟩

theorem bitok_step (x : MSt) (i : Nat) (hi : i < x.P) (h : MRel x) (c q : Nat) (hc : PP x c) (hb : BitOk x c q) :
    BitOk (stepWriter x i) c q := by
  have hn := (stepWriter_frame x i).2.2.2.1
  rcases stepWriter_bm x i with e | ⟨hpc, hle, e, ew⟩ | ⟨hpc, hle, e⟩
  · intro hbit; rw [e] at hbit; exact wit_mono _ _ _ _ (hb hbit)
  · obtain ⟨_, hset⟩ := bm_set h.bmOk (x.wr i).nbit
    intro hbit
    rw [e, hset q] at hbit
    by_cases hr : (x.wr i).nbit % x.s.n = q % x.s.n
    · -- the bit just set: its sequence is published by this very step
      have hpend : wpend (x.wr i) (x.wr i).nbit := .inr ⟨hpc, Nat.le_refl _, hle⟩
      have h1 := (h.ws i hi).pend_pos hpend
      have hhi := (h.ws i hi).hiLe
      refine ⟨(x.wr i).nbit, by rw [hn]; exact hr, ⟨h1, ?_, ?_⟩, pend_above_prefix hc hi hpend h1⟩
      · have := stepWriter_hw_mono x i; omega
      · rintro ⟨j, hj, hp⟩
        refine forall_writers_step (Q := fun _ w => wpend w (x.wr i).nbit → False) x i (fun _ hp => ?_)
          (fun j hj he hp => he (h.disj i j _ hi hj hpend hp).symm) j hj hp
        rw [← stepWriter_own, ew] at hp
        rcases hp with ⟨h1, _⟩ | ⟨_, h2, _⟩
        · simp [hpc] at h1
        · simp only at h2; omega
    · rw [if_neg hr] at hbit
      exact wit_mono _ _ _ _ (hb hbit)
  · obtain ⟨_, hun⟩ := bm_unset h.bmOk (x.wr i).u
    intro hbit
    rw [e, hun q] at hbit
    split at hbit
    · exact absurd hbit (by simp)
    · exact wit_mono _ _ _ _ (hb hbit)

theorem wsafe_other (x : MSt) (i j : Nat) (hi : i < x.P) (hj : j < x.P) (hM : MInv x) (h : MRel x) :
    WSafe (stepWriter x i) (x.wr j) :=
  wsafeG_mono (h.ws j hj) (stepWriter_hw_mono x i) (stepWriter_cursor_mono x i hi hM) (fun g hg => pp_mono x i g hg)
    (fun g q hg hb => bitok_step x i hi h g q hg hb)

/-- the scan loop only passes a sequence that is published -/
theorem scan_ok (x : MSt) (i : Nat) (hi : i < x.P) (h : MRel x) (hlt : (x.wr i).good < (x.wr i).hi)
    (hpc : (x.wr i).pc = .scan) (hbit : bmIsSet x.bm ((x.wr i).good + 1) = true) : PP x ((x.wr i).good + 1) := by
  have hws := h.ws i hi
  have hg := hws.goodPP (by simp [hpc])
  intro q h1 h2
  by_cases hq : q ≤ (x.wr i).good
  · exact hg q h1 hq
  · have hqe : q = (x.wr i).good + 1 := by omega
    subst hqe
    by_cases hcur : (x.wr i).good + 1 ≤ x.s.cursor
    · exact h.pref _ h1 hcur
    · -- the set bit belongs to a published `q0` in the window above the cursor, as does `good + 1`: they coincide
      obtain ⟨q0, hr, hp, hlt0⟩ := h.bits _ hbit
      have := hp.2.1
      have := hws.hiLe
      have := h.window
      rw [← eq_of_mod_eq_of_close hr (by omega) (by omega)]; exact hp

/-! `WSafeG` at the program points a computing step leads to: only the clauses whose guard holds there remain to be shown. -/
section
variable {hw cur : Nat} {pp : Nat → Prop} {bok : Nat → Nat → Prop} {w : Writer} (h1 : w.hi ≤ hw)
include h1

theorem WSafeG.at_write (hpc : w.pc = .write) (h2 : 1 ≤ w.lo) (h4 : w.lo ≤ w.w) : WSafeG hw cur pp bok w := by
  refine ⟨h1, ?_, ?_, ?_, ?_, ?_, ?_, fun q _ hc => absurd hc (by simp [hpc])⟩ <;> guarded_clause hpc

theorem WSafeG.at_setBit (hpc : w.pc = .setBit) (h2 : 1 ≤ w.lo) (h3 : w.lo ≤ w.nbit) : WSafeG hw cur pp bok w := by
  refine ⟨h1, ?_, ?_, ?_, ?_, ?_, ?_, fun q _ hc => absurd hc (by simp [hpc])⟩ <;> guarded_clause hpc

theorem WSafeG.at_scan (hpc : w.pc = .scan) (h5 : pp w.good) (h6 : w.lwSeen ≤ cur) : WSafeG hw cur pp bok w := by
  refine ⟨h1, ?_, ?_, ?_, ?_, ?_, ?_, fun q _ hc => absurd hc (by simp [hpc])⟩ <;> guarded_clause hpc

theorem WSafeG.at_unsetBit (hpc : w.pc = .unsetBit) (h5 : pp w.good) (h6 : w.lwSeen ≤ cur)
    (h8 : ∀ q, w.lwSeen ≤ q → q < w.u → bok w.good q) : WSafeG hw cur pp bok w := by
  refine ⟨h1, ?_, ?_, ?_, ?_, ?_, ?_, fun q hq hc => h8 q hq (by simpa [hpc] using hc)⟩ <;> guarded_clause hpc

theorem WSafeG.at_casCur (hpc : w.pc = .casCur) (h5 : pp w.good) (h6 : w.lwSeen ≤ cur)
    (h8 : ∀ q, w.lwSeen ≤ q → q ≤ w.good → bok w.good q) : WSafeG hw cur pp bok w := by
  refine ⟨h1, ?_, ?_, ?_, ?_, ?_, ?_, fun q hq hc => h8 q hq (by simpa [hpc] using hc)⟩ <;> guarded_clause hpc

theorem WSafeG.at_setLw (hpc : w.pc = .setLw) (h5 : pp w.good) (h6 : w.lwSeen ≤ cur) (h7 : w.good ≤ cur) :
    WSafeG hw cur pp bok w := by
  refine ⟨h1, ?_, ?_, ?_, ?_, ?_, ?_, fun q _ hc => absurd hc (by simp [hpc])⟩ <;> guarded_clause hpc
end

theorem wsafe_stepW (x : MSt) (w : Writer) (h : WSafe x w) (hlw : PP x x.lw) (hlwc : x.lw ≤ x.s.cursor)
    (hscan : w.pc = .scan → w.good < w.hi → bmIsSet x.bm (w.good + 1) = true → PP x (w.good + 1))
    (hun1 : bmIsSet (bmApply x.bm (fun b => Gen.BitMap.unset b w.u)) w.u = false)
    (hun2 : ∀ q, bmIsSet (bmApply x.bm (fun b => Gen.BitMap.unset b w.u)) q = true → bmIsSet x.bm q = true)
    (hM : WInv w) :
    WSafeG (hwAfterW x w) (sAfterW x w).cursor (PP x) (fun g q => bmIsSet (bmAfterW x w) q = true → Wit x g q)
      (stepW x w) := by
  have a1 := h.hiLe
  unfold stepW hwAfterW sAfterW bmAfterW
  cases hpc : w.pc <;> simp only [reduceCtorEq, false_and, true_and, if_false]
  case casHw =>
    split
    · exact .at_write (Nat.le_refl _) rfl (Nat.le_add_left 1 _) (Nat.le_refl _)
    · exact h.move hpc
  case write =>
    have a2 := h.loPos (.inl hpc)
    split
    · exact .at_write a1 rfl a2 (Nat.le_succ_of_le (h.wGe hpc))
    · exact .at_setBit a1 rfl a2 (Nat.le_refl _)
  case setBit =>
    split
    · exact .at_setBit a1 rfl (h.loPos (.inr hpc)) (Nat.le_succ_of_le (h.nbitGe hpc))
    · exact h.move hpc
  case readLw => exact .at_scan a1 rfl hlw hlwc
  case scan =>
    (repeat' split)
    · exact .at_scan a1 rfl (hscan hpc ‹_› ‹_›) (h.lwSeenLe (by simp [hpc]))
    · exact h.move hpc
    · exact h.move hpc
  case relCheck =>
    split
    · exact .at_unsetBit a1 rfl (h.goodPP (by simp [hpc])) (h.lwSeenLe (by simp [hpc]))
        fun q h1 h2 => absurd h1 (Nat.not_le_of_lt h2)
    · exact h.move hpc
  case unsetBit =>
    have a5 := h.goodPP (by simp [hpc])
    have a6 := h.lwSeenLe (by simp [hpc])
    split
    · -- a bit that is set after `unset(u)` is not the bit of `u` and was set before
      refine .at_unsetBit a1 rfl a5 a6 fun q h1 h2 hb => h.unsetOk q h1 (.inl ⟨hpc, ?_⟩) (hun2 q hb)
      exact Nat.lt_of_le_of_ne (Nat.le_of_lt_succ h2) fun e => by rw [e, hun1] at hb; cases hb
    · exact .at_casCur a1 rfl a5 a6 fun q h1 h2 => h.unsetOk q h1 (.inl ⟨hpc, Nat.lt_of_le_of_lt h2 (Nat.lt_of_not_le ‹_›)⟩)
  case casCur =>
    split
    · have := h.lwSeenLe (by simp [hpc])
      have := hM.curLe (.inl hpc)
      exact .at_setLw a1 rfl (h.goodPP (by simp [hpc])) (by dsimp only; omega) (Nat.le_refl _)
    · exact h.move hpc
  case reloadCur =>
    split
    · exact .at_setLw a1 rfl (h.goodPP (by simp [hpc])) (h.lwSeenLe (by simp [hpc])) (Nat.le_of_lt ‹_›)
    · exact h.move hpc
  case sLock => split; exact h.move hpc; exact h
  case done | panicked => exact h
  -- the other steps move the pc as `WSafeG.move` allows and write neither a field `WSafeG` reads nor `hw`, the cursor, the bitmap
  all_goals (repeat' split) <;> exact h.move hpc

theorem wsafe_own (x : MSt) (i : Nat) (hi : i < x.P) (hM : MInv x) (h : MRel x) :
    WSafe (stepWriter x i) (stepW x (x.wr i)) := by
  obtain ⟨_, hun⟩ := bm_unset h.bmOk (x.wr i).u
  have s1 := wsafe_stepW x (x.wr i) (h.ws i hi) (fun q h1 h2 => h.pref q h1 (Nat.le_trans h2 h.lwLe)) h.lwLe
    (fun hpc hlt hbit => scan_ok x i hi h hlt hpc hbit)
    (by rw [hun]; simp) (fun q hq => by rw [hun] at hq; split at hq <;> simp_all) (hM.writers i hi)
  obtain ⟨es, ehw, _, ebm, _, _⟩ := stepWriter_shared x i
  unfold WSafe; rw [ehw, es]
  exact wsafeG_mono s1 (Nat.le_refl _) (Nat.le_refl _) (fun g hg => pp_mono x i g hg)
    (fun g q _ hb hbit => wit_mono x i g q (hb (ebm ▸ hbit)))

theorem gate0_le_cursor (x : MSt) (h : MGood x) : gate x.s 0 ≤ x.s.cursor :=
  chain_up x.s h.2.1 (x.s.K - 1) 0 (by have := h.2.2; omega) (h.2.1.1 _ (by have := h.2.2; omega))

theorem window_step (x : MSt) (i : Nat) (hi : i < x.P) (hc : MCap x) (h : MRel x) :
    (stepWriter x i).hw < (stepWriter x i).s.cursor + (stepWriter x i).s.n := by
  have hcur := stepWriter_cursor_mono x i hi hc.1.1
  have hn := (stepWriter_frame x i).2.2.2.1
  have hw := h.window
  rw [hn]
  rcases stepWriter_hw x i with e | ⟨hpc, _, e⟩
  · omega
  · have h1 := (hc.2 i hi).capOk hpc
    have h2 := (hc.2 i hi).minLe 0 (ngate_pos x.s hc.1.2.1.1 hc.1.2.2)
    have h3 := gate0_le_cursor x hc.1
    omega

theorem lwLe_step (x : MSt) (i : Nat) (hi : i < x.P) (hc : MCap x) (h : MRel x) :
    (stepWriter x i).lw ≤ (stepWriter x i).s.cursor := by
  have hcur := stepWriter_cursor_mono x i hi hc.1.1
  have := h.lwLe
  rw [(stepWriter_shared x i).2.2.1, lwAfterW]
  split
  · have := (h.ws i hi).goodCur ‹_›; omega
  · omega

theorem pref_step (x : MSt) (i : Nat) (hi : i < x.P) (h : MRel x) : PP (stepWriter x i) (stepWriter x i).s.cursor := by
  rcases stepWriter_cursor x i with e | ⟨hpc, _, e⟩
  · rw [e]; exact pp_mono x i _ h.pref
  · rw [e]; exact pp_mono x i _ ((h.ws i hi).goodPP (by simp [hpc]))

theorem bits_step (x : MSt) (i : Nat) (hi : i < x.P) (h : MRel x) (q : Nat) :
    BitOk (stepWriter x i) (stepWriter x i).s.cursor q := by
  rcases stepWriter_cursor x i with e | ⟨hpc, hcas, e⟩
  · rw [e]; exact bitok_step x i hi h _ q h.pref (h.bits q)
  · rw [e]
    have hws := h.ws i hi
    have hpp := hws.goodPP (by simp [hpc])
    apply bitok_step x i hi h _ q hpp
    intro hbit
    obtain ⟨q0, hr, hp, hlt⟩ := h.bits q hbit
    by_cases hg : (x.wr i).good < q0
    · exact ⟨q0, hr, hp, hg⟩
    · have hl := hws.lwSeenLe (by simp [hpc])
      have hb0 : bmIsSet x.bm q0 = true := by rw [bmIsSet_congr h.bmOk q0 q hr]; exact hbit
      obtain ⟨q1, hr1, hp1, hlt1⟩ := hws.unsetOk q0 (by omega) (Or.inr ⟨Or.inl hpc, by omega⟩) hb0
      exact ⟨q1, hr1.trans hr, hp1, hlt1⟩

theorem bmOk_step (x : MSt) (i : Nat) (h : MRel x) : BmOk (stepWriter x i).s.n (stepWriter x i).bm := by
  rw [(stepWriter_frame x i).2.2.2.1]
  rcases stepWriter_bm x i with e | ⟨_, _, e, _⟩ | ⟨_, _, e⟩ <;> rw [e]
  · exact h.bmOk
  · exact (bm_set h.bmOk _).1
  · exact (bm_unset h.bmOk _).1

theorem wpend_le_hw (x : MSt) (h : MRel x) (j q : Nat) (hj : j < x.P) (hp : wpend (x.wr j) q) : q ≤ x.hw := by
  have := (h.ws j hj).hiLe
  rcases hp with ⟨_, _, h2⟩ | ⟨_, _, h2⟩ <;> omega

theorem disj_step (x : MSt) (i : Nat) (h : MRel x) (a b q : Nat) (ha : a < x.P) (hb : b < x.P)
    (hpa : wpend ((stepWriter x i).wr a) q) (hpb : wpend ((stepWriter x i).wr b) q) : a = b := by
  rcases wpend_inv x i a q hpa with h1 | ⟨ea, h1⟩ <;> rcases wpend_inv x i b q hpb with h2 | ⟨eb, h2⟩
  · exact h.disj a b q ha hb h1 h2
  · have := wpend_le_hw x h a q ha h1; omega
  · have := wpend_le_hw x h b q hb h2; omega
  · omega

theorem written_inv (x : MSt) (i : Nat) (e : Nat × Nat) (h : e ∈ (stepWriter x i).written) :
    e ∈ x.written ∨ (e.2 = i ∧ (x.wr i).pc = .write ∧ (x.wr i).w ≤ (x.wr i).hi ∧ e.1 = (x.wr i).w) := by
  rw [stepWriter_written, writtenAfterW] at h
  split at h
  · rename_i hc
    rcases List.mem_append.1 h with h | h
    · exact .inl h
    · rw [List.mem_singleton.1 h]; exact .inr ⟨rfl, hc.1, hc.2, rfl⟩
  · exact .inl h

theorem unwr_or_written (x : MSt) (i q : Nat) (h : unwr (x.wr i) q) :
    unwr ((stepWriter x i).wr i) q ∨ (q, i) ∈ (stepWriter x i).written := by
  obtain ⟨h1, h2, h3⟩ := h
  have hle : (x.wr i).w ≤ (x.wr i).hi := Nat.le_trans h2 h3
  rw [stepWriter_own, stepWriter_written]
  by_cases hq : (x.wr i).w = q
  · right; simp [writtenAfterW, h1, hq, h3]
  · left; simp only [unwr, stepW, h1, hle, if_true, true_and]; omega

theorem fresh_claim (x : MSt) (i q : Nat) (hpc : (x.wr i).pc = .casHw) (he : x.hw = (x.wr i).hwSeen)
    (h1 : x.hw < q) (h2 : q ≤ (stepWriter x i).hw) : unwr ((stepWriter x i).wr i) q := by
  revert h2
  rw [stepWriter_own, (stepWriter_shared x i).2.1]
  simp only [hwAfterW, stepW, unwr, hpc, he, and_self, if_true, true_and]
  omega

theorem wrote_step (x : MSt) (i : Nat) (hi : i < x.P) (h : MRel x) (q : Nat) (h1 : 1 ≤ q) (h2 : q ≤ (stepWriter x i).hw) :
    (∃ j, (q, j) ∈ (stepWriter x i).written) ∨ (∃ j, j < (stepWriter x i).P ∧ unwr ((stepWriter x i).wr j) q) := by
  rw [stepWriter_P]
  by_cases hq : q ≤ x.hw
  · rcases h.wrote q h1 hq with ⟨j, hj⟩ | ⟨j, hj, hu⟩
    · exact Or.inl ⟨j, stepWriter_written_mono x i _ hj⟩
    · by_cases he : j = i
      · subst he
        rcases unwr_or_written x j q hu with h3 | h3
        · exact Or.inr ⟨j, hj, h3⟩
        · exact Or.inl ⟨j, h3⟩
      · exact Or.inr ⟨j, hj, by rw [stepWriter_others x i j he]; exact hu⟩
  · rcases stepWriter_hw x i with e | ⟨hpc, he, _⟩
    · omega
    · exact Or.inr ⟨i, hi, fresh_claim x i q hpc he (by omega) h2⟩

theorem mrel_stepWriter (x : MSt) (i : Nat) (hi : i < x.P) (hc : MCap x) (h : MRel x) : MRel (stepWriter x i) := by
  refine ⟨?_, window_step x i hi hc h, lwLe_step x i hi hc h, pref_step x i hi h, bits_step x i hi h, bmOk_step x i h,
    ?_, wrote_step x i hi h⟩
  · exact forall_writers_step (Q := fun _ w => WSafe (stepWriter x i) w) x i (fun _ => wsafe_own x i hi hc.1.1 h)
      (fun j hj _ => wsafe_other x i j hi hj hc.1.1 h)
  · intro a b q ha hb
    rw [stepWriter_P] at ha hb
    exact disj_step x i h a b q ha hb

def MSafe (x : MSt) : Prop := MCap x ∧ MRel x

theorem msafe_stepM (x : MSt) (t : MTid) (h : MSafe x) : MSafe (stepM x t) := by
  obtain ⟨hc, hr⟩ := h
  refine ⟨mcap_stepM x t hc, ?_⟩
  -- `MRel` reads the state only through `P, wr, hw, lw, bm, written, s.cursor, s.n`: the other threads leave these alone
  refine stepM_cases x t (fun i hi => mrel_stepWriter x i hi hc hr) ?_
    (fun _ _ _ _ => ⟨hr.1, hr.2, hr.3, hr.4, hr.5, hr.6, hr.7, hr.8⟩) hr
  rw [stepDrainer_eq]; exact ⟨hr.1, hr.2, hr.3, hr.4, hr.5, hr.6, hr.7, hr.8⟩

theorem msafe_init (k K : Nat) (hh : Nat → Nat) (blocking : Bool) (batches : List (List Nat))
    (hK : 0 < K) (hpos : ∀ j, j < K → 0 < hh j) (hb : ∀ l, l ∈ batches → ∀ b, b ∈ l → 1 ≤ b) :
    MSafe (mkM (2 ^ k) K hh blocking batches) := by
  refine ⟨mcap_init _ K hh blocking batches hK hpos hb, ?_⟩
  have hnp : ∀ q, ¬ Pend (mkM (2 ^ k) K hh blocking batches) q := by
    rintro q ⟨i, _, hp⟩
    rcases hp with ⟨h1, _⟩ | ⟨h1, _⟩ <;> simp [mkM] at h1
  refine ⟨?_, ?_, ?_, ?_, ?_, ?_, ?_, ?_⟩
  · intro i _
    constructor <;> simp [mkM]
  · simp only [mkM]; have := Nat.two_pow_pos k; omega
  · simp [mkM]
  · intro q h1 h2; simp [mkM] at h2; omega
  · intro q hbit
    have : bmIsSet (some (Gen.BitMap.build (2 ^ k))) q = false := by
      rw [bmIsSet_eq (C19.inv_build k)]; rfl
    simp [mkM, this] at hbit
  · exact ⟨k, _, [], rfl, rfl, C19.inv_build k⟩
  · intro i j q _ _ hp; exact absurd ⟨i, ‹_›, hp⟩ (hnp q)
  · intro q h1 h2; simp [mkM] at h2; omega

/-- every state reachable in a well-formed multi-producer pipeline whose ring size is a power of two satisfies the safety
invariant — every topology, wait strategy, number of writers, batch list, **every schedule** -/
theorem mreachableWF_safe {x : MSt} (hr : MReachableWF x) (k : Nat) (hn : x.s.n = 2 ^ k) : MSafe x :=
  hr.induct_pow2 k (msafe_init k) (fun x t _ _ => msafe_stepM x t) hn

/-- nothing is released that has not been claimed -/
theorem MRel.cursor_le_hw {x : MSt} (h : MRel x) : x.s.cursor ≤ x.hw := by
  rcases Nat.eq_zero_or_pos x.s.cursor with h0 | hp
  · omega
  · exact (h.pref _ hp (Nat.le_refl _)).2.1

theorem published_below_cursor (x : MSt) (h : MSafe x) (q : Nat) (h1 : 1 ≤ q) (h2 : q ≤ x.s.cursor) :
    q ≤ x.hw ∧ (∃ i, (q, i) ∈ x.written) ∧ ¬ Pend x q := by
  obtain ⟨p1, p2, p3⟩ := h.2.pref q h1 h2
  refine ⟨p2, ?_, p3⟩
  rcases h.2.wrote q h1 p2 with hw | ⟨i, hi, hu⟩
  · exact hw
  · exact absurd ⟨i, hi, hu.wpend h.2 hi⟩ p3

theorem writing_above_cursor (x : MSt) (h : MSafe x) (i : Nat) (hi : i < x.P) (hpc : (x.wr i).pc = .write)
    (hw : (x.wr i).w ≤ (x.wr i).hi) : x.s.cursor < (x.wr i).w ∧ (x.wr i).w < x.s.cursor + x.s.n := by
  have hp : wpend (x.wr i) (x.wr i).w := .inl ⟨hpc, (h.2.ws i hi).wGe hpc, hw⟩
  have := wpend_le_hw x h.2 i _ hi hp
  have := h.2.window
  exact ⟨pend_above_cursor h.2 hi hp, by omega⟩

theorem unwr_stepW_inv (x : MSt) (w : Writer) (q : Nat) (h : unwr (stepW x w) q) : (unwr w q ∧ q ≠ w.w) ∨ x.hw < q := by
  obtain ⟨h0, h1, h2⟩ := h
  rcases stepW_pc_write x w h0 with ⟨hpc, _, e⟩ | ⟨_, he, e⟩ <;> rw [e] at h1 h2 <;> dsimp only at h1 h2
  · exact .inl ⟨⟨hpc, by omega, h2⟩, by omega⟩
  · exact .inr (by omega)

/-- the written sequences are pairwise different, all claimed, and none of them is still to be written by anybody -/
structure MOnce (x : MSt) : Prop where
  nodup : (x.written.map (·.1)).Nodup
  le    : ∀ q i, (q, i) ∈ x.written → 1 ≤ q ∧ q ≤ x.hw
  gone  : ∀ q i, (q, i) ∈ x.written → ∀ j, j < x.P → ¬ unwr (x.wr j) q

theorem monce_stepWriter (x : MSt) (i : Nat) (hi : i < x.P) (hr : MRel x) (h : MOnce x) : MOnce (stepWriter x i) := by
  have hws := hr.ws i hi
  have hmono := stepWriter_hw_mono x i
  refine ⟨?_, fun q a hq => ?_, fun q a hq => ?_⟩
  · rw [stepWriter_written, writtenAfterW]
    split
    · -- the sequence written now was still to be written, so it is not in the log
      rename_i hwr
      rw [List.map_append, List.nodup_append]
      refine ⟨h.nodup, by simp, fun q hq q' hq' he => ?_⟩
      obtain ⟨⟨q0, a⟩, hm, rfl⟩ := List.mem_map.1 hq
      rw [List.mem_singleton.1 hq'] at he
      have he' : q0 = (x.wr i).w := he
      exact h.gone _ a (he' ▸ hm) i hi ⟨hwr.1, Nat.le_refl _, hwr.2⟩
    · exact h.nodup
  · rcases written_inv x i (q, a) hq with h1 | ⟨_, hpc, hle, h4⟩
    · have := h.le q a h1; omega
    · have := hws.wGe hpc; have := hws.loPos (.inl hpc); have := hws.hiLe
      simp only at h4; omega
  · refine forall_writers_step (Q := fun _ w => ¬ unwr w q) x i (fun _ hu => ?_) (fun j hj he hu => ?_) <;>
      rcases written_inv x i (q, a) hq with h1 | ⟨_, hpc, hle, h4⟩
    · rcases unwr_stepW_inv x _ q hu with h2 | h2
      · exact h.gone q a h1 i hi h2.1
      · have := h.le q a h1; omega
    · have := hws.hiLe
      rcases unwr_stepW_inv x _ q hu with h2 | h2
      · exact h2.2 h4
      · simp only at h4; omega
    · exact h.gone q a h1 j hj hu
    · -- what this step writes is pending with the stepping writer only
      simp only at h4; subst h4
      exact he (hr.disj i j _ hi hj (.inl ⟨hpc, hws.wGe hpc, hle⟩) (hu.wpend hr hj)).symm

theorem monce_stepM (x : MSt) (t : MTid) (hr : MRel x) (h : MOnce x) : MOnce (stepM x t) := by
  refine stepM_cases x t (fun i hi => monce_stepWriter x i hi hr h) ?_ (fun k j _ _ => ⟨h.1, h.2, h.3⟩) h
  rw [stepDrainer_eq]; exact ⟨h.1, h.2, h.3⟩

theorem mreachableWF_once {x : MSt} (hr : MReachableWF x) (e : Nat) (hn : x.s.n = 2 ^ e) : MOnce x :=
  hr.induct_pow2 (I := MOnce) e (fun _ _ _ _ _ _ _ => ⟨List.nodup_nil, nofun, nofun⟩)
    (fun x t hr hn h => monce_stepM x t (mreachableWF_safe hr e hn).2 h) hn

/-- `has_capacity` against *every* handler: nothing has been claimed a ring or more above any published handler cursor -/
def MFit (x : MSt) : Prop := ∀ k j, k < x.s.K → j < x.s.h k → x.hw < (x.s.cons k j).cur + x.s.n

theorem mfit_stepM (x : MSt) (t : MTid) (hc : MCap x) (h : MFit x) : MFit (stepM x t) := by
  refine stepM_cases x t (fun i hi => ?_) ?_ (fun k j hk hj k' j' hk' hj' => ?_) h
  · -- a fresh claim was checked against the slowest gating cursor
    rw [stepWriter_eq]
    intro k j hk hj
    show hwAfterW x (x.wr i) < (x.s.cons k j).cur + x.s.n
    unfold hwAfterW
    split
    · rename_i hcas
      have := (hc.2 i hi).capOk hcas.1
      have := minG_le_all x hc i hi k j hk hj
      omega
    · exact h k j hk hj
  · rw [stepDrainer_eq]; exact h
  · show x.hw < ((stepC x.s k j).cons k' j').cur + x.s.n
    have := h k' j' hk' hj'; have := RingPay.cur_le_stepC x.s hc.1.2.1 k j hk hj k' j'; omega

theorem mreachableWF_fit {x : MSt} (hr : MReachableWF x) (e : Nat) (hn : x.s.n = 2 ^ e) : MFit x :=
  hr.induct_pow2 (I := MFit) e (fun _ _ _ _ _ _ _ _ _ _ _ => Nat.lt_add_of_pos_right (Nat.two_pow_pos e))
    (fun x t hr _ h => mfit_stepM x t (mreachableWF_cap hr) h) hn

/-- the writer holds the claim `[lo, hi]` it is working on in its own list of claims, every claim of a writer is in the global
list of successful claims, and every logged slot write `(q, i)` lies inside a claim of writer `i` -/
structure MOwn (x : MSt) : Prop where
  holds : ∀ i, i < x.P → (x.wr i).pc = .write → ∃ c, ((x.wr i).lo, (x.wr i).hi, c) ∈ (x.wr i).claims
  globl : ∀ i, i < x.P → ∀ c, c ∈ (x.wr i).claims → c ∈ x.allClaims
  wrote : ∀ q i, (q, i) ∈ x.written → i < x.P ∧ ∃ c, c ∈ (x.wr i).claims ∧ c.1 ≤ q ∧ q ≤ c.2.1

theorem holds_stepW (x : MSt) (w : Writer) (h : w.pc = .write → ∃ c, (w.lo, w.hi, c) ∈ w.claims)
    (hp : (stepW x w).pc = .write) : ∃ c, ((stepW x w).lo, (stepW x w).hi, c) ∈ (stepW x w).claims := by
  rcases stepW_pc_write x w hp with ⟨hpc, _, e⟩ | ⟨_, _, e⟩ <;> rw [e]
  · exact h hpc
  · exact ⟨_, List.mem_append_right _ (List.mem_singleton.2 rfl)⟩

theorem mown_stepWriter (x : MSt) (i : Nat) (hi : i < x.P) (hr : MRel x) (h : MOwn x) : MOwn (stepWriter x i) := by
  refine ⟨?_, ?_, ?_⟩
  · exact forall_writers_step (Q := fun _ w => w.pc = .write → ∃ c, (w.lo, w.hi, c) ∈ w.claims) x i
      (fun _ => holds_stepW x _ (h.holds i hi)) (fun j hj _ => h.holds j hj)
  · refine forall_writers_step (Q := fun _ w => ∀ c, c ∈ w.claims → c ∈ (stepWriter x i).allClaims) x i (fun _ c hc => ?_)
      (fun j hj _ c hc => stepWriter_allClaims_mono x i c (h.globl j hj c hc))
    rw [stepW_claims] at hc
    rw [(stepWriter_shared x i).2.2.2.2.2, claimsAfterW]
    by_cases hcas : (x.wr i).pc = .casHw ∧ x.hw = (x.wr i).hwSeen
    · rw [if_pos hcas] at hc ⊢
      exact (List.mem_append.1 hc).elim (fun hc => List.mem_append_left _ (h.globl i hi c hc)) (List.mem_append_right _)
    · rw [if_neg hcas] at hc ⊢; exact h.globl i hi c hc
  · intro q j hq
    rw [stepWriter_P]
    rcases written_inv x i (q, j) hq with h1 | ⟨h1, h2, h3, h4⟩
    · obtain ⟨hj, c, hc, hb⟩ := h.wrote q j h1
      refine ⟨hj, c, ?_, hb⟩
      by_cases he : j = i
      · subst he; rw [stepWriter_own]; exact stepW_claims_mono x _ c hc
      · rw [stepWriter_others x i j he]; exact hc
    · simp only at h1 h4
      subst h1
      obtain ⟨c, hc⟩ := h.holds j hi h2
      have := (hr.ws j hi).wGe h2
      rw [stepWriter_own]
      exact ⟨hi, _, stepW_claims_mono x _ _ hc, by simp only; omega, by simp only; omega⟩

def MSafeOwn (x : MSt) : Prop := MSafe x ∧ MOwn x

theorem msafeOwn_stepM (x : MSt) (t : MTid) (h : MSafeOwn x) : MSafeOwn (stepM x t) := by
  refine ⟨msafe_stepM x t h.1, ?_⟩
  refine stepM_cases x t (fun i hi => mown_stepWriter x i hi h.1.2 h.2) ?_ (fun _ _ _ _ => ⟨h.2.1, h.2.2, h.2.3⟩) h.2
  rw [stepDrainer_eq]; exact ⟨h.2.1, h.2.2, h.2.3⟩

theorem mreachableWF_safeOwn {x : MSt} (hr : MReachableWF x) (k : Nat) (hn : x.s.n = 2 ^ k) : MSafeOwn x := by
  refine hr.induct_pow2 k (fun K h bl bs hK hh hb => ⟨msafe_init k K h bl bs hK hh hb, ?_, ?_, ?_⟩)
    (fun x t _ _ => msafeOwn_stepM x t) hn
  · intro i _ hp; simp [mkM] at hp
  · intro i _ c hc; simp [mkM] at hc
  · intro q i hq; simp [mkM] at hq

end RingMulti
