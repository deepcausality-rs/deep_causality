import DcVerif.Lemmas.RingMultiLiveInv
import DcVerif.Lemmas.RingMultiPay
/-!
# Complete delivery after `drain` — pipelines fed by the multi-producer sequencer, any number of writers, every schedule

`MultiProducerSequencer::drain` reads the cursor **once** (`readCur`) and waits until every gating sequence (the cursors of
the last stage) has reached that value. It runs after the join of the writer threads, so nothing moves the cursor any more:
the value it read *is* the final cursor. `DDel` is the inductive invariant that says so, together with the bookkeeping of the
`get_min_cursor_sequence` loop of `drain` as a *lower bound* of the gating cursors (the liveness files only keep its
termination measure). Consequence (`drained_all_caught_up`): from the moment the wait loop of `drain` has exited, every
handler's published cursor equals the producer cursor, no handler is inside a batch, and every handler's log is `1 … cursor`.

Nothing here needs the ring size to be a power of two: the release protocol (bitmap) only decides *how far* the cursor gets,
not what happens below it.
-/
namespace RingMulti
open Ring

/-- pcs of the draining thread after the exit of `drain`'s wait loop -/
def dDrained : DPc → Bool
  | .setDone | .eLock | .eNotify | .eUnlock | .done => true
  | _ => false

/-- the draining thread, safety side: the value it waits for is the (final) cursor; its running minimum is a lower bound of
the gating cursors it has loaded; once the wait loop has exited every gating cursor has reached the cursor -/
structure DDel (x : MSt) : Prop where
  curEq   : x.dr.pc ≠ .waitJoin → x.dr.pc ≠ .readCur → x.dr.current = x.s.cursor
  accLe   : x.dr.pc = .drainLoad → ∀ m, x.dr.acc = some m → ∀ d, d < x.dr.idx → m ≤ gate x.s d
  minLe   : x.dr.pc = .drainCheck → ∀ d, d < ngate x.s → x.dr.min ≤ gate x.s d
  drained : dDrained x.dr.pc = true → ∀ d, d < ngate x.s → x.dr.current ≤ gate x.s d

/-- before the join of the writer threads `DDel` says nothing -/
theorem ddel_waitJoin {x : MSt} (hw : x.dr.pc = .waitJoin) : DDel x :=
  ⟨fun hp => absurd hw hp, (fun hp => nomatch hw.symm.trans hp), (fun hp => nomatch hw.symm.trans hp),
    fun hp => by rw [hw] at hp; cases hp⟩

/-- the draining thread's own step: it touches neither the cursor nor the gating cursors; `readCur` reads the cursor, the load
loop is the running minimum of `Lemmas/Ring.lean`, the wait loop exits when that minimum has reached the value read, and all
other steps only move the pc (into the load loop with an empty accumulator, never to `drainCheck`) -/
theorem ddel_stepDrainer (x : MSt) (hpos : 0 < ngate x.s) (hD : DInv x) (h : DDel x) : DDel (stepDrainer x) := by
  rw [stepDrainer_eq]
  have hcur := h.curEq
  cases hpc : x.dr.pc <;>
    simp only [hpc, ne_eq, reduceCtorEq, not_false_eq_true, not_true_eq_false, false_implies, forall_const] at hcur <;>
    simp only [stepD, hpc]
  case waitJoin =>
    split
    · exact ⟨fun _ hp => absurd rfl hp, nofun, nofun, nofun⟩
    · exact ⟨h.curEq, h.accLe, h.minLe, h.drained⟩
  case readCur => exact ⟨fun _ _ => rfl, (fun _ _ hm => nomatch hm), nofun, nofun⟩
  case drainLoad =>
    split
    · exact ⟨fun _ _ => hcur, fun _ => minOpt_step_le (gate x.s) x.dr.acc x.dr.idx (h.accLe hpc) (hD.accSome hpc), nofun, nofun⟩
    · exact ⟨fun _ _ => hcur, nofun,
        fun _ => minOpt_done_le (gate x.s) x.dr.acc x.dr.idx (ngate x.s) (h.accLe hpc) (hD.accSome hpc) (by omega) hpos,
        nofun⟩
  case drainCheck =>
    split
    · split
      · exact ⟨fun _ _ => hcur, nofun, nofun, nofun⟩
      · exact ⟨fun _ _ => hcur, (fun _ _ hm => nomatch hm), nofun, nofun⟩
    · exact ⟨fun _ _ => hcur, nofun, nofun, fun _ d hd => Nat.le_trans (Nat.le_of_not_lt ‹_›) (h.minLe hpc d hd)⟩
  case dLock =>
    split
    · exact ⟨fun _ _ => hcur, nofun, nofun, nofun⟩
    · exact ⟨h.curEq, h.accLe, h.minLe, h.drained⟩
  case dNotify => exact ⟨fun _ _ => hcur, nofun, nofun, nofun⟩
  case dUnlock => exact ⟨fun _ _ => hcur, (fun _ _ hm => nomatch hm), nofun, nofun⟩
  case setDone =>
    refine ⟨fun _ _ => hcur, ?_, ?_, fun _ => h.drained (by rw [hpc]; rfl)⟩ <;> (intro hp; split at hp <;> cases hp)
  case eLock =>
    split
    · exact ⟨fun _ _ => hcur, nofun, nofun, fun _ => h.drained (by rw [hpc]; rfl)⟩
    · exact ⟨h.curEq, h.accLe, h.minLe, h.drained⟩
  case eNotify => exact ⟨fun _ _ => hcur, nofun, nofun, fun _ => h.drained (by rw [hpc]; rfl)⟩
  case eUnlock => exact ⟨fun _ _ => hcur, nofun, nofun, fun _ => h.drained (by rw [hpc]; rfl)⟩
  case done => exact ⟨h.curEq, h.accLe, h.minLe, h.drained⟩

theorem ddel_stepM (x : MSt) (t : MTid) (hG : GInv x) (h : DDel x) : DDel (stepM x t) := by
  refine stepM_cases x t (fun i hi => ?_) (ddel_stepDrainer x (ngate_pos x.s hG.good.2.1.1 hG.good.2.2) hG.dr h)
    (fun k j hk hj => ?_) h
  · -- writer threads only move before the join
    by_cases hw : x.dr.pc = .waitJoin
    · exact ddel_waitJoin (by rw [stepWriter_eq]; exact hw)
    · rw [← stepM_writer hi, stepM_writer_done x i (hG.dr.joined hw)]; exact h
  · -- a handler step only raises gating cursors
    have hm := gate_mono_stepC x.s k j hk hj hG.good.2.1
    exact ⟨h.curEq, fun hp m hm' d hd => Nat.le_trans (h.accLe hp m hm' d hd) (hm d),
      fun hp d hd => Nat.le_trans (h.minLe hp d hd) (hm d), fun hp d hd => Nat.le_trans (h.drained hp d hd) (hm d)⟩

theorem mreachableWF_ddel {x : MSt} (hr : MReachableWF x) : DDel x :=
  MReachableWF.induct (I := DDel) (fun _ _ _ _ _ _ _ _ => ddel_waitJoin rfl)
    (fun x t hr h => ddel_stepM x t (mreachableWF_ginv hr) h) hr

/-- once the wait loop of `drain` has exited, every handler has caught up with the producer cursor: its published cursor
equals the cursor, it is not inside a batch, and it has been handed exactly `1 … cursor` -/
theorem drained_all_caught_up (x : MSt) (hG : MGood x) (hD : DDel x) (hd : dDrained x.dr.pc = true)
    (k j : Nat) (hk : k < x.s.K) (hj : j < x.s.h k) :
    (x.s.cons k j).cur = x.s.cursor ∧ (x.s.cons k j).pc ≠ .handle ∧ (x.s.cons k j).pc ≠ .publish ∧
    (x.s.cons k j).log = List.range' 1 x.s.cursor := by
  obtain ⟨_, hI, hK⟩ := hG
  have hne1 : x.dr.pc ≠ .waitJoin := by intro e; rw [e] at hd; cases hd
  have hne2 : x.dr.pc ≠ .readCur := by intro e; rw [e] at hd; cases hd
  have hcur := hD.curEq hne1 hne2
  have hlow := below_all x.s hI hK x.dr.current (hD.drained hd) k j (by omega) hj
  have hup := chain_up x.s hI k j hk hj
  have hci := hI.2 k j hk hj
  have heq : (x.s.cons k j).cur = x.s.cursor := by omega
  -- inside a batch `cur < avail ≤ cursor`
  have hin : ¬ ((x.s.cons k j).pc = .handle ∨ (x.s.cons k j).pc = .publish) := fun hp => by
    have := hci.curAvail (Or.inr hp)
    have := avail_le_cursor x.s hI k j hk hj (Or.inr (Or.inr hp))
    omega
  exact ⟨heq, fun e => hin (Or.inl e), fun e => hin (Or.inr e),
    by rw [hci.logO (fun e => hin (Or.inl e)) (fun e => hin (Or.inr e)), heq]⟩

/-- a handler thread only terminates after `drain` has left its wait loop (it exits on `is_done`, which `drain` sets after
the loop) -/
theorem drained_of_cons_done (x : MSt) (hX : XInv x) (k j : Nat) (hk : k < x.s.K) (hj : j < x.s.h k)
    (hc : (x.s.cons k j).pc = .done) : dDrained x.dr.pc = true := by
  have := hX.doneIff.1 (hX.consDone k j hk hj (Or.inl hc))
  cases hp : x.dr.pc <;> simp_all [dAfterSet, dDrained]

end RingMulti
