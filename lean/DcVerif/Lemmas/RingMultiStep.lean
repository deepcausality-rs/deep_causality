import DcVerif.Model.RingMulti
import DcVerif.Lemmas.Ring
/-!
The step functions of `Model/RingMulti.lean` in normal form. A writer's step is a step of its own record (`stepW`, which only
reads the shared state) together with an update of the shared words that step may write (`hwAfterW`, `lwAfterW`, `bmAfterW`,
`sAfterW`, the two ghost lists); likewise for the draining thread. Facts about one step are read off `stepWriter_eq` /
`stepDrainer_eq`: what the step leaves alone (`stepWriter_frame`, `stepWriter_others`, `stepDrainer_frame`), what the shared
words become (`stepWriter_shared`) and when they move (`stepWriter_hw`, `stepWriter_cursor`, `stepWriter_bm`, `stepW_claims`).
Facts about all steps go through `stepM_cases`, facts about all runs through `runM_induct`.
-/
namespace RingMulti
open Ring

theorem updW_same (f : Nat → Writer) (i : Nat) (w : Writer) : updW f i w i = w := by simp [updW]
theorem updW_other (f : Nat → Writer) (i i' : Nat) (w : Writer) (h : i' ≠ i) : updW f i w i' = f i' := by simp [updW, h]
theorem updW_self (f : Nat → Writer) (i : Nat) : updW f i (f i) = f := by
  funext j; unfold updW; split
  · rename_i h; rw [h]
  · rfl

/-- the step of a writer on its own record; of `x` it reads `hw`, `lw`, `bm` and `s` -/
def stepW (x : MSt) (w : Writer) : Writer :=
  match w.pc with
  | .start =>
      match w.todo with
      | [] => { w with pc := .done }
      | b :: rest => { w with todo := rest, count := b, pc := .readHw }
  | .readHw => { w with hwSeen := x.hw, pc := .capLoad, acc := none, idx := 0 }
  | .capLoad =>
      if w.idx < ngate x.s then { w with acc := minOpt w.acc (gate x.s w.idx), idx := w.idx + 1 }
      else { w with minG := w.acc.getD 0, pc := .capCheck }
  | .capCheck => if x.s.n > (w.hwSeen - w.minG) + w.count then { w with pc := .casHw } else { w with pc := .readHw }
  | .casHw =>
      if x.hw = w.hwSeen then
        { w with lo := w.hwSeen + 1, hi := w.hwSeen + w.count, w := w.hwSeen + 1, pc := .write,
                 claims := w.claims ++ [(w.hwSeen + 1, w.hwSeen + w.count, w.count)] }
      else { w with pc := .readHw }
  | .write => if w.w ≤ w.hi then { w with w := w.w + 1 } else { w with pc := .setBit, nbit := w.lo }
  | .setBit => if w.nbit ≤ w.hi then { w with nbit := w.nbit + 1 } else { w with pc := .readLw }
  | .readLw => { w with lwSeen := x.lw, good := x.lw, pc := .scan }
  | .scan =>
      if w.good < w.hi then (if bmIsSet x.bm (w.good + 1) then { w with good := w.good + 1 } else { w with pc := .relCheck })
      else { w with pc := .relCheck }
  | .relCheck => if w.good > w.lwSeen then { w with pc := .unsetBit, u := w.lwSeen } else { w with pc := .start }
  | .unsetBit => if w.u ≤ w.good then { w with u := w.u + 1 } else { w with pc := .casCur, cur := w.lwSeen }
  | .casCur => if x.s.cursor = w.cur then { w with pc := .setLw } else { w with pc := .reloadCur }
  | .reloadCur =>
      if x.s.cursor > w.good then { w with cur := x.s.cursor, pc := .setLw } else { w with cur := x.s.cursor, pc := .casCur }
  | .setLw => { w with pc := if x.s.blocking then .sLock else .start }
  | .sLock => if x.s.mtx = none then { w with pc := .sNotify } else w
  | .sNotify => { w with pc := .sUnlock }
  | .sUnlock => { w with pc := .start }
  | .done => w
  | .panicked => w

/-- the high watermark after a step of `w`: only a successful CAS in `casHw` moves it -/
def hwAfterW (x : MSt) (w : Writer) : Nat := if w.pc = .casHw ∧ x.hw = w.hwSeen then w.hwSeen + w.count else x.hw

/-- the low watermark after a step of `w`: only `setLw` stores to it -/
def lwAfterW (x : MSt) (w : Writer) : Nat := if w.pc = .setLw then w.good else x.lw

/-- the bitmap after a step of `w`: one `set` per round of the `setBit` loop, one `unset` per round of the `unsetBit` loop -/
def bmAfterW (x : MSt) (w : Writer) : Option Gen.BitMap.BitMap :=
  if w.pc = .setBit ∧ w.nbit ≤ w.hi then bmApply x.bm (fun b => Gen.BitMap.set b w.nbit)
  else if w.pc = .unsetBit ∧ w.u ≤ w.good then bmApply x.bm (fun b => Gen.BitMap.unset b w.u)
  else x.bm

/-- the consumers' side of the state after a step of `w`: a successful CAS in `casCur` moves the cursor, the blocking
`signal()` takes and releases the mutex and wakes everybody; all other fields stay -/
def sAfterW (x : MSt) (w : Writer) : St :=
  { x.s with
    cursor := if w.pc = .casCur ∧ x.s.cursor = w.cur then w.good else x.s.cursor
    mtx := if w.pc = .sLock ∧ x.s.mtx = none then some .prod else if w.pc = .sUnlock then none else x.s.mtx
    woken := if w.pc = .sNotify then fun _ _ => true else x.s.woken }

def writtenAfterW (x : MSt) (i : Nat) (w : Writer) : List (Nat × Nat) :=
  if w.pc = .write ∧ w.w ≤ w.hi then x.written ++ [(w.w, i)] else x.written

def claimsAfterW (x : MSt) (w : Writer) : List (Nat × Nat × Nat) :=
  if w.pc = .casHw ∧ x.hw = w.hwSeen then x.allClaims ++ [(w.hwSeen + 1, w.hwSeen + w.count, w.count)] else x.allClaims

theorem stepWriter_eq (x : MSt) (i : Nat) :
    stepWriter x i =
      { x with s := sAfterW x (x.wr i), hw := hwAfterW x (x.wr i), lw := lwAfterW x (x.wr i), bm := bmAfterW x (x.wr i),
               wr := updW x.wr i (stepW x (x.wr i)), written := writtenAfterW x i (x.wr i),
               allClaims := claimsAfterW x (x.wr i) } := by
  unfold stepWriter stepW hwAfterW lwAfterW bmAfterW sAfterW writtenAfterW claimsAfterW
  cases hpc : (x.wr i).pc <;> simp only [hpc, reduceCtorEq, false_and, true_and, if_false, if_true] <;>
    (repeat' split) <;> first | rfl | simp_all [updW_self]

theorem stepWriter_frame (x : MSt) (i : Nat) :
    (stepWriter x i).s.cons = x.s.cons ∧ (stepWriter x i).s.K = x.s.K ∧ (stepWriter x i).s.h = x.s.h ∧
    (stepWriter x i).s.n = x.s.n ∧ (stepWriter x i).s.blocking = x.s.blocking ∧
    (stepWriter x i).s.isDone = x.s.isDone ∧ (stepWriter x i).dr = x.dr ∧ (stepWriter x i).P = x.P := by
  rw [stepWriter_eq]; exact ⟨rfl, rfl, rfl, rfl, rfl, rfl, rfl, rfl⟩

theorem stepWriter_P (x : MSt) (i : Nat) : (stepWriter x i).P = x.P := by rw [stepWriter_eq]

theorem stepWriter_own (x : MSt) (i : Nat) : (stepWriter x i).wr i = stepW x (x.wr i) := by
  rw [stepWriter_eq]; exact updW_same _ _ _

theorem stepWriter_others (x : MSt) (i i' : Nat) (h : i' ≠ i) : (stepWriter x i).wr i' = x.wr i' := by
  rw [stepWriter_eq]; exact updW_other _ _ _ _ h

theorem stepWriter_shared (x : MSt) (i : Nat) :
    (stepWriter x i).s = sAfterW x (x.wr i) ∧ (stepWriter x i).hw = hwAfterW x (x.wr i) ∧
    (stepWriter x i).lw = lwAfterW x (x.wr i) ∧ (stepWriter x i).bm = bmAfterW x (x.wr i) ∧
    (stepWriter x i).written = writtenAfterW x i (x.wr i) ∧ (stepWriter x i).allClaims = claimsAfterW x (x.wr i) := by
  rw [stepWriter_eq]; exact ⟨rfl, rfl, rfl, rfl, rfl, rfl⟩

theorem stepWriter_written (x : MSt) (i : Nat) : (stepWriter x i).written = writtenAfterW x i (x.wr i) :=
  (stepWriter_shared x i).2.2.2.2.1

theorem stepWriter_hw (x : MSt) (i : Nat) :
    (stepWriter x i).hw = x.hw ∨
    ((x.wr i).pc = .casHw ∧ x.hw = (x.wr i).hwSeen ∧ (stepWriter x i).hw = (x.wr i).hwSeen + (x.wr i).count) := by
  rw [(stepWriter_shared x i).2.1, hwAfterW]
  split
  · rename_i h; exact .inr ⟨h.1, h.2, rfl⟩
  · exact .inl rfl

theorem stepWriter_cursor (x : MSt) (i : Nat) :
    (stepWriter x i).s.cursor = x.s.cursor ∨
    ((x.wr i).pc = .casCur ∧ x.s.cursor = (x.wr i).cur ∧ (stepWriter x i).s.cursor = (x.wr i).good) := by
  rw [(stepWriter_shared x i).1]
  show (if _ then _ else _) = _ ∨ _ ∧ _ ∧ (if _ then _ else _) = _
  split
  · rename_i h; exact .inr ⟨h.1, h.2, rfl⟩
  · exact .inl rfl

theorem stepWriter_bm (x : MSt) (i : Nat) :
    (stepWriter x i).bm = x.bm ∨
    ((x.wr i).pc = .setBit ∧ (x.wr i).nbit ≤ (x.wr i).hi ∧
      (stepWriter x i).bm = bmApply x.bm (fun b => Gen.BitMap.set b (x.wr i).nbit) ∧
      (stepWriter x i).wr i = { x.wr i with nbit := (x.wr i).nbit + 1 }) ∨
    ((x.wr i).pc = .unsetBit ∧ (x.wr i).u ≤ (x.wr i).good ∧
      (stepWriter x i).bm = bmApply x.bm (fun b => Gen.BitMap.unset b (x.wr i).u)) := by
  rw [(stepWriter_shared x i).2.2.2.1, stepWriter_own, bmAfterW]
  split
  · rename_i h; exact .inr (.inl ⟨h.1, h.2, rfl, by simp only [stepW, h.1, h.2, if_true]⟩)
  · split
    · rename_i h; exact .inr (.inr ⟨h.1, h.2, rfl⟩)
    · exact .inl rfl

theorem stepWriter_hw_mono (x : MSt) (i : Nat) : x.hw ≤ (stepWriter x i).hw := by
  rcases stepWriter_hw x i with h | ⟨_, h1, h2⟩ <;> omega

theorem stepW_pc_write (x : MSt) (w : Writer) (h : (stepW x w).pc = .write) :
    (w.pc = .write ∧ w.w ≤ w.hi ∧ stepW x w = { w with w := w.w + 1 }) ∨
    (w.pc = .casHw ∧ x.hw = w.hwSeen ∧
      stepW x w = { w with lo := w.hwSeen + 1, hi := w.hwSeen + w.count, w := w.hwSeen + 1, pc := .write,
                           claims := w.claims ++ [(w.hwSeen + 1, w.hwSeen + w.count, w.count)] }) := by
  revert h
  unfold stepW
  cases hpc : w.pc <;> simp only <;> (repeat' split) <;> intro h <;>
    first | exact .inl ⟨trivial, ‹_›, rfl⟩ | exact .inr ⟨trivial, ‹_›, rfl⟩ | cases h | cases hpc.symm.trans h

theorem stepW_claims (x : MSt) (w : Writer) :
    (stepW x w).claims =
      if w.pc = .casHw ∧ x.hw = w.hwSeen then w.claims ++ [(w.hwSeen + 1, w.hwSeen + w.count, w.count)] else w.claims := by
  cases hpc : w.pc <;> simp only [stepW, hpc, reduceCtorEq, false_and, true_and, if_false] <;> (repeat' split) <;>
    first | rfl | simp_all

theorem stepWriter_written_mono (x : MSt) (i : Nat) (e : Nat × Nat) (h : e ∈ x.written) : e ∈ (stepWriter x i).written := by
  rw [stepWriter_written, writtenAfterW]
  split
  · exact List.mem_append_left _ h
  · exact h

theorem stepW_claims_mono (x : MSt) (w : Writer) (c : Nat × Nat × Nat) (h : c ∈ w.claims) : c ∈ (stepW x w).claims := by
  rw [stepW_claims]; split
  · exact List.mem_append_left _ h
  · exact h

theorem stepWriter_allClaims_mono (x : MSt) (i : Nat) (c : Nat × Nat × Nat) (h : c ∈ x.allClaims) : c ∈ (stepWriter x i).allClaims := by
  rw [(stepWriter_shared x i).2.2.2.2.2, claimsAfterW]; split
  · exact List.mem_append_left _ h
  · exact h

theorem forall_writers_step {Q : Nat → Writer → Prop} (x : MSt) (i : Nat) (hown : i < x.P → Q i (stepW x (x.wr i)))
    (hoth : ∀ j, j < x.P → j ≠ i → Q j (x.wr j)) : ∀ j, j < (stepWriter x i).P → Q j ((stepWriter x i).wr j) := by
  intro j hj
  rw [stepWriter_P] at hj
  by_cases he : j = i
  · subst he; rw [stepWriter_own]; exact hown hj
  · rw [stepWriter_others x i j he]; exact hoth j hj he

/-- the step of the draining thread on its own record; of `x` it reads `s` and whether the writers are done -/
def stepD (x : MSt) (d : Drainer) : Drainer :=
  match d.pc with
  | .waitJoin => if writersDone x then { d with pc := .readCur } else d
  | .readCur => { d with current := x.s.cursor, pc := .drainLoad, acc := none, idx := 0 }
  | .drainLoad =>
      if d.idx < ngate x.s then { d with acc := minOpt d.acc (gate x.s d.idx), idx := d.idx + 1 }
      else { d with min := d.acc.getD 0, pc := .drainCheck }
  | .drainCheck =>
      if d.min < d.current then
        (if x.s.blocking then { d with pc := .dLock } else { d with pc := .drainLoad, acc := none, idx := 0 })
      else { d with pc := .setDone }
  | .dLock => if x.s.mtx = none then { d with pc := .dNotify } else d
  | .dNotify => { d with pc := .dUnlock }
  | .dUnlock => { d with pc := .drainLoad, acc := none, idx := 0 }
  | .setDone => { d with pc := if x.s.blocking then .eLock else .done }
  | .eLock => if x.s.mtx = none then { d with pc := .eNotify } else d
  | .eNotify => { d with pc := .eUnlock }
  | .eUnlock => { d with pc := .done }
  | .done => d

/-- the consumers' side of the state after a step of the draining thread: it sets `isDone`, and its two blocking
notifications take and release the mutex and wake everybody; the cursor and all other fields stay -/
def sAfterD (x : MSt) (d : Drainer) : St :=
  { x.s with
    isDone := if d.pc = .setDone then true else x.s.isDone
    mtx := if (d.pc = .dLock ∨ d.pc = .eLock) ∧ x.s.mtx = none then some .prod
           else if d.pc = .dUnlock ∨ d.pc = .eUnlock then none else x.s.mtx
    woken := if d.pc = .dNotify ∨ d.pc = .eNotify then fun _ _ => true else x.s.woken }

theorem stepDrainer_eq (x : MSt) : stepDrainer x = { x with s := sAfterD x x.dr, dr := stepD x x.dr } := by
  unfold stepDrainer stepD sAfterD
  cases hpc : x.dr.pc <;> simp only [hpc, reduceCtorEq, false_and, true_and, or_false, or_true, if_false, if_true] <;>
    (repeat' split) <;> first | rfl | simp_all

theorem stepDrainer_frame (x : MSt) :
    (stepDrainer x).s.cons = x.s.cons ∧ (stepDrainer x).s.K = x.s.K ∧ (stepDrainer x).s.h = x.s.h ∧
    (stepDrainer x).s.n = x.s.n ∧ (stepDrainer x).s.blocking = x.s.blocking ∧
    (stepDrainer x).s.cursor = x.s.cursor ∧ (stepDrainer x).wr = x.wr ∧ (stepDrainer x).P = x.P ∧
    (stepDrainer x).hw = x.hw := by
  rw [stepDrainer_eq]; exact ⟨rfl, rfl, rfl, rfl, rfl, rfl, rfl, rfl, rfl⟩

theorem stepM_writer {x : MSt} {i : Nat} (h : i < x.P) : stepM x (.writer i) = stepWriter x i := if_pos h
theorem stepM_writer_out {x : MSt} {i : Nat} (h : ¬ i < x.P) : stepM x (.writer i) = x := if_neg h
theorem stepM_drainer (x : MSt) : stepM x .drainer = stepDrainer x := rfl
theorem stepM_cons {x : MSt} {k j : Nat} (hk : k < x.s.K) (hj : j < x.s.h k) :
    stepM x (.cons k j) = { x with s := stepC x.s k j } := if_pos ⟨hk, hj⟩

theorem stepM_cons_out {x : MSt} {k j : Nat} (h : ¬ (k < x.s.K ∧ j < x.s.h k)) : stepM x (.cons k j) = x := if_neg h

theorem stepM_cases {Q : MSt → Prop} (x : MSt) (t : MTid) (hw : ∀ i, i < x.P → Q (stepWriter x i))
    (hd : Q (stepDrainer x)) (hc : ∀ k j, k < x.s.K → j < x.s.h k → Q { x with s := stepC x.s k j }) (h0 : Q x) :
    Q (stepM x t) := by
  cases t with
  | writer i =>
    show Q (if i < x.P then stepWriter x i else x)
    split
    · exact hw i ‹_›
    · exact h0
  | drainer => exact hd
  | cons k j =>
    show Q (if k < x.s.K ∧ j < x.s.h k then { x with s := stepC x.s k j } else x)
    split
    · rename_i h; exact hc k j h.1 h.2
    · exact h0

structure SameCfg (x y : MSt) : Prop where
  P : y.P = x.P
  K : y.s.K = x.s.K
  h : y.s.h = x.s.h
  n : y.s.n = x.s.n
  blocking : y.s.blocking = x.s.blocking

theorem SameCfg.refl (x : MSt) : SameCfg x x := ⟨rfl, rfl, rfl, rfl, rfl⟩

theorem SameCfg.trans {x y z : MSt} (a : SameCfg x y) (b : SameCfg y z) : SameCfg x z :=
  ⟨b.P.trans a.P, b.K.trans a.K, b.h.trans a.h, b.n.trans a.n, b.blocking.trans a.blocking⟩

theorem SameCfg.ngate_eq {x y : MSt} (c : SameCfg x y) : ngate y.s = ngate x.s := by simp only [ngate, c.K, c.h]

theorem stepM_cfg (x : MSt) (t : MTid) : SameCfg x (stepM x t) := by
  refine stepM_cases x t (fun i _ => ?_) ?_ (fun k j _ _ => ⟨rfl, rfl, rfl, rfl, rfl⟩) ⟨rfl, rfl, rfl, rfl, rfl⟩
  · rw [stepWriter_eq]; exact ⟨rfl, rfl, rfl, rfl, rfl⟩
  · rw [stepDrainer_eq]; exact ⟨rfl, rfl, rfl, rfl, rfl⟩

theorem stepM_others (x : MSt) (u : MTid) :
    (∀ i, u ≠ .writer i → (stepM x u).wr i = x.wr i) ∧ (u ≠ .drainer → (stepM x u).dr = x.dr) ∧
    ∀ k j, u ≠ .cons k j → (stepM x u).s.cons k j = x.s.cons k j := by
  cases u with
  | writer i =>
    by_cases hi : i < x.P
    · rw [stepM_writer hi, stepWriter_eq]
      exact ⟨fun j hne => updW_other _ _ _ _ (fun e => hne (by rw [e])), fun _ => rfl, fun _ _ _ => rfl⟩
    · rw [stepM_writer_out hi]; exact ⟨fun _ _ => rfl, fun _ => rfl, fun _ _ _ => rfl⟩
  | drainer => rw [stepM_drainer, stepDrainer_eq]; exact ⟨fun _ _ => rfl, fun h => absurd rfl h, fun _ _ _ => rfl⟩
  | cons a b =>
    by_cases hv : a < x.s.K ∧ b < x.s.h a
    · rw [stepM_cons hv.1 hv.2]
      exact ⟨fun _ _ => rfl, fun _ => rfl, fun k j hne => stepC_other _ _ _ _ _ (fun he => hne (by rw [he.1, he.2]))⟩
    · rw [stepM_cons_out hv]; exact ⟨fun _ _ => rfl, fun _ => rfl, fun _ _ _ => rfl⟩

theorem runM_snoc (x : MSt) (sched : List MTid) (t : MTid) : runM x (sched ++ [t]) = stepM (runM x sched) t := by
  simp [runM, List.foldl_append]

theorem runM_induct {I : MSt → Prop} (hstep : ∀ x t, I x → I (stepM x t)) (x : MSt) (sched : List MTid) (h : I x) :
    I (runM x sched) := by
  unfold runM
  induction sched generalizing x with
  | nil => exact h
  | cons t ts ih => exact ih _ (hstep x t h)

theorem runM_cfg (x : MSt) (sched : List MTid) : SameCfg x (runM x sched) :=
  runM_induct (I := SameCfg x) (fun y t h => h.trans (stepM_cfg y t)) x sched (.refl x)

end RingMulti
