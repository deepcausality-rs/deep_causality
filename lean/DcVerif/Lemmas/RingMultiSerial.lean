import DcVerif.Lemmas.RingMultiSafe
/-!
The multi-producer sequencer under a *serialised, in-claim-order* publication discipline: a writer thread enters `publish`
(leaves its slot-write loop) only when no other `publish` call is in progress and it holds the lowest unpublished claim.
Under that discipline — and only the `publish` calls are constrained: claims, slot writes, consumers and the draining thread
interleave freely — every `publish` call releases exactly its own range, and once all writers are done the cursor equals the
highest claimed sequence. Both conditions are necessary: F7 (out of claim order) and F13 (in claim order but overlapping)
are the counterexamples (`Props/C14.lean`).
-/
namespace RingMulti
open Ring

/-- program counters inside `publish` -/
def WPc.pub : WPc → Bool
  | .setBit | .readLw | .scan | .relCheck | .unsetBit | .casCur | .reloadCur | .setLw | .sLock | .sNotify | .sUnlock => true
  | _ => false

/-- the discipline, as a condition on one scheduling decision: if the step lets writer `i` leave its slot-write loop (i.e.
call `publish`), then no writer is inside `publish` and `i` holds the lowest claim among the writers that still hold one -/
def SerialStep (x : MSt) (t : MTid) : Prop :=
  ∀ i, t = .writer i → i < x.P → (x.wr i).pc = .write → (x.wr i).hi < (x.wr i).w →
    (∀ j, j < x.P → (x.wr j).pc.pub = false) ∧
    (∀ j, j < x.P → j ≠ i → (x.wr j).pc = .write → (x.wr i).lo < (x.wr j).lo)

def SerialSched (x : MSt) : List MTid → Prop
  | [] => True
  | t :: ts => SerialStep x t ∧ SerialSched (stepM x t) ts

/-- every set bit is the bit of a sequence in `[a, b)` -/
def BitsSub (n : Nat) (bm : Option Gen.BitMap.BitMap) (a b : Nat) : Prop :=
  ∀ q, bmIsSet bm q = true → ∃ q0, a ≤ q0 ∧ q0 < b ∧ q0 % n = q % n
/-- the bit of every sequence in `[a, b)` is set -/
def BitsSup (bm : Option Gen.BitMap.BitMap) (a b : Nat) : Prop := ∀ q0, a ≤ q0 → q0 < b → bmIsSet bm q0 = true
def Clear (bm : Option Gen.BitMap.BitMap) : Prop := ∀ q, bmIsSet bm q = false

/-- every claimed sequence above `c` is held by a writer that is still in its slot-write loop -/
def Cover (x : MSt) (c : Nat) : Prop :=
  ∀ q, c < q → q ≤ x.hw → ∃ j, j < x.P ∧ (x.wr j).pc = .write ∧ (x.wr j).lo ≤ q ∧ q ≤ (x.wr j).hi

theorem bits_set {n : Nat} {bm : Option Gen.BitMap.BitMap} (h : BmOk n bm) (a b : Nat) (hab : a ≤ b)
    (h1 : BitsSub n bm a b) (h2 : BitsSup bm a b) :
    BitsSub n (bmApply bm (fun m => Gen.BitMap.set m b)) a (b + 1) ∧ BitsSup (bmApply bm (fun m => Gen.BitMap.set m b)) a (b + 1) := by
  obtain ⟨_, hs⟩ := bm_set h b
  constructor
  · intro q hq
    rw [hs q] at hq
    by_cases hr : b % n = q % n
    · exact ⟨b, hab, by omega, hr⟩
    · rw [if_neg hr] at hq
      obtain ⟨q0, p1, p2, p3⟩ := h1 q hq
      exact ⟨q0, p1, by omega, p3⟩
  · intro q0 p1 p2
    rw [hs q0]
    by_cases hr : b % n = q0 % n
    · rw [if_pos hr]
    · rw [if_neg hr]
      exact h2 q0 p1 (by
        rcases Nat.lt_or_ge q0 b with h' | h'
        · exact h'
        · have : q0 = b := by omega
          subst this; exact absurd rfl hr)

theorem bits_unset {n : Nat} {bm : Option Gen.BitMap.BitMap} (h : BmOk n bm) (u lo b : Nat)
    (h1 : BitsSub n bm (max u lo) b) : BitsSub n (bmApply bm (fun m => Gen.BitMap.unset m u)) (max (u + 1) lo) b := by
  obtain ⟨_, hs⟩ := bm_unset h u
  intro q hq
  rw [hs q] at hq
  by_cases hr : u % n = q % n
  · rw [if_pos hr] at hq; exact absurd hq (by simp)
  · rw [if_neg hr] at hq
    obtain ⟨q0, p1, p2, p3⟩ := h1 q hq
    refine ⟨q0, ?_, p2, p3⟩
    have : q0 ≠ u := by intro e; subst e; exact hr p3
    omega

theorem bits_empty {n : Nat} {bm : Option Gen.BitMap.BitMap} (a b : Nat) (hab : b ≤ a) (h1 : BitsSub n bm a b) : Clear bm := by
  intro q
  cases hq : bmIsSet bm q with
  | false => rfl
  | true => obtain ⟨q0, p1, p2, _⟩ := h1 q hq; omega

theorem clear_sub {n : Nat} {bm : Option Gen.BitMap.BitMap} (a b : Nat) (h : Clear bm) : BitsSub n bm a b := by
  intro q hq; rw [h q] at hq; exact absurd hq (by simp)

/-- what holds while a writer is inside `publish` under the discipline -/
structure ActG (n cursor lw : Nat) (bm : Option Gen.BitMap.BitMap) (cov : Nat → Prop) (w : Writer) : Prop where
  lohi  : 1 ≤ w.lo ∧ w.lo ≤ w.hi
  cover : cov w.hi
  pre   : (w.pc = .setBit ∨ w.pc = .readLw ∨ w.pc = .scan ∨ w.pc = .relCheck ∨ w.pc = .unsetBit ∨ w.pc = .casCur) →
            cursor + 1 = w.lo ∧ lw = cursor
  lws   : (w.pc = .scan ∨ w.pc = .relCheck ∨ w.pc = .unsetBit ∨ w.pc = .casCur ∨ w.pc = .setLw) → w.lwSeen + 1 = w.lo
  setb  : w.pc = .setBit → w.lo ≤ w.nbit ∧ w.nbit ≤ w.hi + 1 ∧ BitsSub n bm w.lo w.nbit ∧ BitsSup bm w.lo w.nbit
  full  : (w.pc = .readLw ∨ w.pc = .scan ∨ w.pc = .relCheck) → BitsSub n bm w.lo (w.hi + 1) ∧ BitsSup bm w.lo (w.hi + 1)
  scn   : w.pc = .scan → w.lwSeen ≤ w.good ∧ w.good ≤ w.hi
  gd    : (w.pc = .relCheck ∨ w.pc = .unsetBit ∨ w.pc = .casCur ∨ w.pc = .setLw) → w.good = w.hi
  uns   : w.pc = .unsetBit → w.lwSeen ≤ w.u ∧ BitsSub n bm (max w.u w.lo) (w.hi + 1)
  cas   : w.pc = .casCur → w.cur = w.lwSeen ∧ Clear bm
  nore  : w.pc ≠ .reloadCur
  post  : (w.pc = .setLw ∨ w.pc = .sLock ∨ w.pc = .sNotify ∨ w.pc = .sUnlock) → cursor = w.hi ∧ Clear bm
  postLw: (w.pc = .sLock ∨ w.pc = .sNotify ∨ w.pc = .sUnlock) → lw = w.hi

def Act (x : MSt) (w : Writer) : Prop := ActG x.s.n x.s.cursor x.lw x.bm (Cover x) w

structure Ser (x : MSt) : Prop where
  one  : ∀ i j, i < x.P → j < x.P → (x.wr i).pc.pub = true → (x.wr j).pc.pub = true → i = j
  idle : (∀ j, j < x.P → (x.wr j).pc.pub = false) → x.lw = x.s.cursor ∧ Clear x.bm ∧ Cover x x.s.cursor
  act  : ∀ i, i < x.P → (x.wr i).pc.pub = true → Act x (x.wr i)
  wlo  : ∀ i, i < x.P → (x.wr i).pc = .write → (x.wr i).lo ≤ (x.wr i).hi

/-! `ActG` at each program point of `publish`: only the clauses whose guard holds there remain to be shown. -/
section
variable {n c l : Nat} {bm : Option Gen.BitMap.BitMap} {cov : Nat → Prop} {w : Writer}
  (h1 : 1 ≤ w.lo ∧ w.lo ≤ w.hi) (h2 : cov w.hi)
include h1 h2

theorem ActG.at_setBit (hpc : w.pc = .setBit) (h3 : c + 1 = w.lo ∧ l = c)
    (h5 : w.lo ≤ w.nbit ∧ w.nbit ≤ w.hi + 1 ∧ BitsSub n bm w.lo w.nbit ∧ BitsSup bm w.lo w.nbit) : ActG n c l bm cov w := by
  refine ⟨h1, h2, ?_, ?_, ?_, ?_, ?_, ?_, ?_, ?_, ?_, ?_, ?_⟩ <;> guarded_clause hpc

theorem ActG.at_readLw (hpc : w.pc = .readLw) (h3 : c + 1 = w.lo ∧ l = c)
    (h6 : BitsSub n bm w.lo (w.hi + 1) ∧ BitsSup bm w.lo (w.hi + 1)) : ActG n c l bm cov w := by
  refine ⟨h1, h2, ?_, ?_, ?_, ?_, ?_, ?_, ?_, ?_, ?_, ?_, ?_⟩ <;> guarded_clause hpc

theorem ActG.at_scan (hpc : w.pc = .scan) (h3 : c + 1 = w.lo ∧ l = c) (h4 : w.lwSeen + 1 = w.lo)
    (h6 : BitsSub n bm w.lo (w.hi + 1) ∧ BitsSup bm w.lo (w.hi + 1)) (h7 : w.lwSeen ≤ w.good ∧ w.good ≤ w.hi) :
    ActG n c l bm cov w := by
  refine ⟨h1, h2, ?_, ?_, ?_, ?_, ?_, ?_, ?_, ?_, ?_, ?_, ?_⟩ <;> guarded_clause hpc

theorem ActG.at_relCheck (hpc : w.pc = .relCheck) (h3 : c + 1 = w.lo ∧ l = c) (h4 : w.lwSeen + 1 = w.lo)
    (h6 : BitsSub n bm w.lo (w.hi + 1) ∧ BitsSup bm w.lo (w.hi + 1)) (h8 : w.good = w.hi) : ActG n c l bm cov w := by
  refine ⟨h1, h2, ?_, ?_, ?_, ?_, ?_, ?_, ?_, ?_, ?_, ?_, ?_⟩ <;> guarded_clause hpc

theorem ActG.at_unsetBit (hpc : w.pc = .unsetBit) (h3 : c + 1 = w.lo ∧ l = c) (h4 : w.lwSeen + 1 = w.lo) (h8 : w.good = w.hi)
    (h9 : w.lwSeen ≤ w.u ∧ BitsSub n bm (max w.u w.lo) (w.hi + 1)) : ActG n c l bm cov w := by
  refine ⟨h1, h2, ?_, ?_, ?_, ?_, ?_, ?_, ?_, ?_, ?_, ?_, ?_⟩ <;> guarded_clause hpc

theorem ActG.at_casCur (hpc : w.pc = .casCur) (h3 : c + 1 = w.lo ∧ l = c) (h4 : w.lwSeen + 1 = w.lo) (h8 : w.good = w.hi)
    (h10 : w.cur = w.lwSeen ∧ Clear bm) : ActG n c l bm cov w := by
  refine ⟨h1, h2, ?_, ?_, ?_, ?_, ?_, ?_, ?_, ?_, ?_, ?_, ?_⟩ <;> guarded_clause hpc

theorem ActG.at_setLw (hpc : w.pc = .setLw) (h4 : w.lwSeen + 1 = w.lo) (h8 : w.good = w.hi) (h12 : c = w.hi ∧ Clear bm) :
    ActG n c l bm cov w := by
  refine ⟨h1, h2, ?_, ?_, ?_, ?_, ?_, ?_, ?_, ?_, ?_, ?_, ?_⟩ <;> guarded_clause hpc

theorem ActG.at_signal (hpc : w.pc = .sLock ∨ w.pc = .sNotify ∨ w.pc = .sUnlock) (h12 : c = w.hi ∧ Clear bm) (h13 : l = w.hi) :
    ActG n c l bm cov w := by
  refine ⟨h1, h2, ?_, ?_, ?_, ?_, ?_, ?_, ?_, ?_, ?_, ?_, ?_⟩ <;>
    rcases hpc with hpc | hpc | hpc <;> guarded_clause hpc
end

theorem act_stepW (x : MSt) (w : Writer) (hb : BmOk x.s.n x.bm) (hp : w.pc.pub = true) (h : Act x w)
    (hp' : (stepW x w).pc.pub = true) :
    ActG x.s.n (sAfterW x w).cursor (lwAfterW x w) (bmAfterW x w) (Cover x) (stepW x w) := by
  have a1 := h.lohi
  have a2 := h.cover
  revert hp'
  unfold stepW sAfterW lwAfterW bmAfterW
  cases hpc : w.pc <;> (try (rw [hpc] at hp; exact Bool.noConfusion hp)) <;>
    simp only [reduceCtorEq, false_and, true_and, if_false, if_true]
  case setBit =>
    have a3 := h.pre (by simp [hpc])
    have a5 := h.setb hpc
    split <;> intro _
    · exact .at_setBit a1 a2 rfl a3 ⟨by dsimp only; omega, by dsimp only; omega, bits_set hb _ _ a5.1 a5.2.2.1 a5.2.2.2⟩
    · have e : w.nbit = w.hi + 1 := by omega
      exact .at_readLw a1 a2 rfl a3 (e ▸ a5.2.2)
  case readLw =>
    have a3 := h.pre (by simp [hpc])
    exact fun _ => .at_scan a1 a2 rfl a3 (by dsimp only; omega) (h.full (by simp [hpc])) (by dsimp only; omega)
  case scan =>
    have a6 := h.full (by simp [hpc])
    have a7 := h.scn hpc
    (repeat' split) <;> intro _
    · exact .at_scan a1 a2 rfl (h.pre (by simp [hpc])) (h.lws (by simp [hpc])) a6 (by dsimp only; omega)
    · exact absurd (a6.2 (w.good + 1) (by have := h.lws (by simp [hpc]); omega) (by omega)) ‹_›
    · exact .at_relCheck a1 a2 rfl (h.pre (by simp [hpc])) (h.lws (by simp [hpc])) a6 (by dsimp only; omega)
  case relCheck =>
    have a4 := h.lws (by simp [hpc])
    split <;> intro hp'
    · have e : max w.lwSeen w.lo = w.lo := by omega
      exact .at_unsetBit a1 a2 rfl (h.pre (by simp [hpc])) a4 (h.gd (by simp [hpc])) ⟨Nat.le_refl _, e.symm ▸ (h.full (by simp [hpc])).1⟩
    · exact Bool.noConfusion hp'
  case unsetBit =>
    have a3 := h.pre (by simp [hpc])
    have a4 := h.lws (by simp [hpc])
    have a8 := h.gd (by simp [hpc])
    have a9 := h.uns hpc
    split <;> intro _
    · exact .at_unsetBit a1 a2 rfl a3 a4 a8 ⟨by dsimp only; omega, bits_unset hb _ _ _ a9.2⟩
    · exact .at_casCur a1 a2 rfl a3 a4 a8 ⟨rfl, bits_empty _ _ (by omega) a9.2⟩
  case casCur =>
    have a3 := h.pre (by simp [hpc])
    have a4 := h.lws (by simp [hpc])
    have a8 := h.gd (by simp [hpc])
    have a10 := h.cas hpc
    split <;> intro _
    · exact .at_setLw a1 a2 rfl a4 a8 ⟨a8, a10.2⟩
    · omega
  case reloadCur => exact absurd hpc h.nore
  case setLw =>
    cases hbl : x.s.blocking <;> simp only [if_true, if_false, Bool.false_eq_true] <;> intro hp'
    · exact Bool.noConfusion hp'
    · exact .at_signal a1 a2 (.inl rfl) (h.post (by simp [hpc])) (h.gd (by simp [hpc]))
  case sLock =>
    split <;> intro _
    · exact .at_signal a1 a2 (.inr (.inl rfl)) (h.post (by simp [hpc])) (h.postLw (by simp [hpc]))
    · exact h
  case sNotify => exact fun _ => .at_signal a1 a2 (.inr (.inr rfl)) (h.post (by simp [hpc])) (h.postLw (by simp [hpc]))
  case sUnlock => exact fun hp' => Bool.noConfusion hp'

/-- … and when it returns from `publish`: the cursor and the low watermark are both its `hi`, the bitmap is clear -/
theorem act_leave (x : MSt) (w : Writer) (hp : w.pc.pub = true) (h : Act x w) (hp' : (stepW x w).pc.pub = false) :
    lwAfterW x w = (sAfterW x w).cursor ∧ Clear (bmAfterW x w) ∧ (sAfterW x w).cursor = w.hi ∧ (stepW x w).pc ≠ .write := by
  revert hp'
  unfold stepW sAfterW lwAfterW bmAfterW
  cases hpc : w.pc <;> (try (rw [hpc] at hp; exact Bool.noConfusion hp)) <;>
    simp only [reduceCtorEq, false_and, true_and, if_false, if_true]
  case relCheck =>
    -- the scan has passed the whole claim, so the release check does not fail
    have := h.lohi
    have := h.lws (by simp [hpc])
    have := h.gd (by simp [hpc])
    split <;> intro hp'
    · exact Bool.noConfusion hp'
    · omega
  case setLw =>
    obtain ⟨e, hcl⟩ := h.post (by simp [hpc])
    cases x.s.blocking <;> simp only [if_true, if_false, Bool.false_eq_true] <;> intro hp'
    · exact ⟨(h.gd (by simp [hpc])).trans e.symm, hcl, e, nofun⟩
    · exact Bool.noConfusion hp'
  case sUnlock =>
    obtain ⟨e, hcl⟩ := h.post (by simp [hpc])
    exact fun _ => ⟨(h.postLw (by simp [hpc])).trans e.symm, hcl, e, nofun⟩
  all_goals (repeat' split) <;> intro hp' <;> first | exact Bool.noConfusion hp' | (rw [hpc] at hp'; exact Bool.noConfusion hp')

theorem cover_own (x : MSt) (i : Nat) (hp : (x.wr i).pc.pub = true) (c : Nat) (h : Cover x c) : Cover (stepWriter x i) c := by
  have hhw : (stepWriter x i).hw = x.hw := by
    rcases stepWriter_hw x i with e | ⟨e, _⟩
    · exact e
    · rw [e] at hp; exact Bool.noConfusion hp
  intro q h1 h2
  rw [hhw] at h2
  obtain ⟨j, hj, p1, p2⟩ := h q h1 h2
  have hne : j ≠ i := by intro e; subst e; rw [p1] at hp; exact Bool.noConfusion hp
  exact ⟨j, by rw [stepWriter_P]; exact hj, by rw [stepWriter_others x i j hne]; exact ⟨p1, p2⟩⟩

theorem outside_frame (x : MSt) (j : Nat) (hp : (x.wr j).pc.pub = false) :
    (stepWriter x j).lw = x.lw ∧ (stepWriter x j).s.cursor = x.s.cursor ∧ (stepWriter x j).bm = x.bm := by
  rw [stepWriter_eq]
  cases hpc : (x.wr j).pc <;> (try (rw [hpc] at hp; exact Bool.noConfusion hp)) <;> simp [lwAfterW, sAfterW, bmAfterW, hpc]

theorem holder_stepW (x : MSt) (w : Writer) (hstay : (stepW x w).pc.pub = false) :
    (w.pc = .write → (stepW x w).pc = .write ∧ (stepW x w).lo = w.lo ∧ (stepW x w).hi = w.hi) ∧
    (∀ q, x.hw < q → q ≤ hwAfterW x w → (stepW x w).pc = .write ∧ (stepW x w).lo ≤ q ∧ q ≤ (stepW x w).hi) := by
  constructor
  · intro hpc
    revert hstay
    simp only [stepW, hpc]
    split
    · exact fun _ => ⟨rfl, rfl, rfl⟩
    · exact fun h => Bool.noConfusion h
  · intro q h1 h2
    unfold hwAfterW at h2
    split at h2
    · rename_i hc
      simp only [stepW, hc.1, hc.2, if_true]
      exact ⟨trivial, by omega, h2⟩
    · omega

theorem cover_outside (x : MSt) (j : Nat) (hj : j < x.P) (hstay : (stepW x (x.wr j)).pc.pub = false)
    (c : Nat) (h : Cover x c) : Cover (stepWriter x j) c := by
  obtain ⟨g1, g2⟩ := holder_stepW x _ hstay
  intro q h1 h2
  rw [stepWriter_P]
  by_cases hq : q ≤ x.hw
  · obtain ⟨a, ha, p1, p2⟩ := h q h1 hq
    by_cases he : a = j
    · subst he
      obtain ⟨e1, e2, e3⟩ := g1 p1
      exact ⟨a, ha, by rw [stepWriter_own]; exact ⟨e1, by rw [e2, e3]; exact p2⟩⟩
    · exact ⟨a, ha, by rw [stepWriter_others x j a he]; exact ⟨p1, p2⟩⟩
  · rw [(stepWriter_shared x j).2.1] at h2
    exact ⟨j, hj, by rw [stepWriter_own]; exact g2 q (by omega) h2⟩

theorem enter_state (x : MSt) (w : Writer) (hp : w.pc.pub = false) (hp' : (stepW x w).pc.pub = true) :
    w.pc = .write ∧ w.hi < w.w ∧ (stepW x w).pc = .setBit ∧ (stepW x w).nbit = w.lo ∧ (stepW x w).lo = w.lo ∧
    (stepW x w).hi = w.hi ∧ hwAfterW x w = x.hw := by
  revert hp'
  cases hpc : w.pc <;> (try (rw [hpc] at hp; exact Bool.noConfusion hp)) <;>
    simp only [stepW, hwAfterW, hpc, reduceCtorEq, false_and, true_and, if_false] <;>
    (repeat' split) <;> intro hp' <;> (try (exact Bool.noConfusion hp')) <;> grind

theorem wlo_stepW (x : MSt) (w : Writer) (hw : WInv w) (h : w.pc = .write → w.lo ≤ w.hi)
    (hp : (stepW x w).pc = .write) : (stepW x w).lo ≤ (stepW x w).hi := by
  rcases stepW_pc_write x w hp with ⟨hpc, _, e⟩ | ⟨hpc, _, e⟩ <;> rw [e]
  · exact h hpc
  · have := hw.cntPos (by simp [hpc]); dsimp only; omega

theorem actG_mono {n c l : Nat} {bm : Option Gen.BitMap.BitMap} {cov cov' : Nat → Prop} {w : Writer}
    (h : ActG n c l bm cov w) (hc : cov w.hi → cov' w.hi) : ActG n c l bm cov' w :=
  ⟨h.1, hc h.2, h.3, h.4, h.5, h.6, h.7, h.8, h.9, h.10, h.11, h.12, h.13⟩

theorem only_pub_is_i {x : MSt} {i : Nat} (hsolo : ∀ j, j < x.P → j ≠ i → (x.wr j).pc.pub = false) {a : Nat} (ha : a < x.P)
    (pa : ((stepWriter x i).wr a).pc.pub = true) : a = i :=
  Classical.byContradiction fun hne => by
    rw [stepWriter_others x i a hne, hsolo a ha hne] at pa; exact Bool.noConfusion pa

theorem ser_of_solo {x : MSt} {i : Nat} (hi : i < x.P) (hsolo : ∀ j, j < x.P → j ≠ i → (x.wr j).pc.pub = false)
    (hp' : (stepW x (x.wr i)).pc.pub = true) (hnew : Act (stepWriter x i) (stepW x (x.wr i)))
    (hwlo : ∀ a, a < (stepWriter x i).P → ((stepWriter x i).wr a).pc = .write →
      ((stepWriter x i).wr a).lo ≤ ((stepWriter x i).wr a).hi) : Ser (stepWriter x i) := by
  have hP := stepWriter_P x i
  refine ⟨fun a b ha hb pa pb => ?_, fun hall => ?_, fun a ha pa => ?_, hwlo⟩
  · rw [only_pub_is_i hsolo (hP ▸ ha) pa, only_pub_is_i hsolo (hP ▸ hb) pb]
  · have := hall i (hP.symm ▸ hi)
    rw [stepWriter_own, hp'] at this; exact Bool.noConfusion this
  · rw [only_pub_is_i hsolo (hP ▸ ha) pa, stepWriter_own]; exact hnew

theorem ser_stepWriter (x : MSt) (i : Nat) (hi : i < x.P) (hs : MSafe x) (h : Ser x) (hg : SerialStep x (.writer i)) :
    Ser (stepWriter x i) := by
  have hoth : ∀ j, j ≠ i → (stepWriter x i).wr j = x.wr j := fun j hj => stepWriter_others x i j hj
  have hP := stepWriter_P x i
  obtain ⟨es, ehw, elw, ebm, _, _⟩ := stepWriter_shared x i
  have hn : (stepWriter x i).s.n = x.s.n := by rw [es]; rfl
  have hwlo := forall_writers_step (Q := fun _ w => w.pc = .write → w.lo ≤ w.hi) x i
    (fun _ => wlo_stepW x _ (hs.1.1.1.writers i hi) (h.wlo i hi)) (fun j hj _ => h.wlo j hj)
  by_cases hp : (x.wr i).pc.pub = true
  ·
    have hsolo : ∀ j, j < x.P → j ≠ i → (x.wr j).pc.pub = false :=
      fun j hj hne => Bool.eq_false_iff.2 fun hq => hne (h.one j i hj hi hq hp)
    have hact := h.act i hi hp
    by_cases hp' : (stepW x (x.wr i)).pc.pub = true
    · refine ser_of_solo hi hsolo hp' ?_ hwlo
      have := act_stepW x _ hs.2.bmOk hp hact hp'
      unfold Act; rw [hn, es, elw, ebm]
      exact actG_mono this (cover_own x i hp _)
    · obtain ⟨l1, l2, l3, l4⟩ := act_leave x _ hp hact (Bool.eq_false_iff.2 hp')
      have hnone : ∀ a, a < (stepWriter x i).P → ((stepWriter x i).wr a).pc.pub = false :=
        forall_writers_step (Q := fun _ w => w.pc.pub = false) x i (fun _ => Bool.eq_false_iff.2 hp') hsolo
      refine ⟨fun a b ha hb pa pb => ?_, fun _ => ?_, fun a ha pa => ?_, hwlo⟩
      · rw [hnone a ha] at pa; exact Bool.noConfusion pa
      · rw [es, elw, ebm]
        exact ⟨l1, l2, by rw [l3]; exact cover_own x i hp _ hact.cover⟩
      · rw [hnone a ha] at pa; exact Bool.noConfusion pa
  ·
    have hp0 : (x.wr i).pc.pub = false := Bool.eq_false_iff.2 hp
    obtain ⟨f1, f2, f3⟩ := outside_frame x i hp0
    by_cases hp' : (stepW x (x.wr i)).pc.pub = true
    · -- it enters `publish`: nobody else is inside, and it holds the lowest claim above the cursor
      obtain ⟨e1, e2, e3, e4, e5, e6, e7⟩ := enter_state x _ hp0 hp'
      obtain ⟨hq, hmin⟩ := hg i rfl hi e1 e2
      obtain ⟨i1, i2, i3⟩ := h.idle hq
      have hlohi := h.wlo i hi e1
      have hhi := (hs.2.ws i hi).hiLe
      have hcurlt : x.s.cursor < (x.wr i).lo := pend_above_cursor hs.2 hi (.inl ⟨e1, Nat.le_refl _, hlohi⟩)
      have hcur : x.s.cursor + 1 = (x.wr i).lo := by
        obtain ⟨j, hj, p1, p2, p3⟩ := i3 (x.s.cursor + 1) (by omega) (by omega)
        by_cases hje : j = i
        · subst hje; omega
        · have := hmin j hj hje p1; omega
      have hcov : Cover (stepWriter x i) (x.wr i).hi := by
        intro q q1 q2
        rw [ehw, e7] at q2
        obtain ⟨j, hj, p1, p2, p3⟩ := i3 q (by omega) q2
        have hje : j ≠ i := by intro e; subst e; omega
        exact ⟨j, by rw [hP]; exact hj, by rw [hoth j hje]; exact ⟨p1, p2, p3⟩⟩
      refine ser_of_solo hi (fun j hj _ => hq j hj) hp' ?_ hwlo
      unfold Act; rw [hn, f1, f2, f3]
      exact .at_setBit (by rw [e5, e6]; exact ⟨by omega, hlohi⟩) (e6 ▸ hcov) e3 (by rw [e5]; exact ⟨hcur, i1⟩)
        (by rw [e4, e5, e6]; exact ⟨Nat.le_refl _, by omega, clear_sub _ _ i2, fun q0 a b => by omega⟩)
    · have hp'' : (stepW x (x.wr i)).pc.pub = false := Bool.eq_false_iff.2 hp'
      have hsame : ∀ a, a < x.P → ((stepWriter x i).wr a).pc.pub = true → a ≠ i := by
        intro a _ pa e; subst e; rw [stepWriter_own, hp''] at pa; exact Bool.noConfusion pa
      refine ⟨fun a b ha hb pa pb => ?_, fun hall => ?_, fun a ha pa => ?_, hwlo⟩
      · rw [hP] at ha hb
        have na := hsame a ha pa
        have nb := hsame b hb pb
        rw [hoth a na] at pa; rw [hoth b nb] at pb
        exact h.one a b ha hb pa pb
      · have hq : ∀ j, j < x.P → (x.wr j).pc.pub = false := by
          intro j hj
          by_cases hje : j = i
          · subst hje; exact hp0
          · have := hall j (by rw [hP]; exact hj); rw [hoth j hje] at this; exact this
        obtain ⟨i1, i2, i3⟩ := h.idle hq
        rw [f1, f2, f3]
        exact ⟨i1, i2, cover_outside x i hi hp'' _ i3⟩
      · rw [hP] at ha
        have na := hsame a ha pa
        rw [hoth a na] at pa ⊢
        have := h.act a ha pa
        unfold Act at this ⊢; rw [hn, f1, f2, f3]
        exact actG_mono this (cover_outside x i hi hp'' _)

def SerAll (x : MSt) : Prop := MSafe x ∧ Ser x

theorem serAll_stepM (x : MSt) (t : MTid) (h : SerAll x) (hg : SerialStep x t) : SerAll (stepM x t) := by
  refine ⟨msafe_stepM x t h.1, ?_⟩
  -- `Ser` reads the state only through `P, wr, hw, lw, bm, s.cursor, s.n`: the other threads leave these alone
  cases t with
  | writer i =>
    by_cases hi : i < x.P
    · rw [stepM_writer hi]; exact ser_stepWriter x i hi h.1 h.2 hg
    · rw [stepM_writer_out hi]; exact h.2
  | drainer => rw [stepM_drainer, stepDrainer_eq]; exact ⟨h.2.1, h.2.2, h.2.3, h.2.4⟩
  | cons k j =>
    by_cases hkj : k < x.s.K ∧ j < x.s.h k
    · rw [stepM_cons hkj.1 hkj.2]; exact ⟨h.2.1, h.2.2, h.2.3, h.2.4⟩
    · rw [stepM_cons_out hkj]; exact h.2

theorem serAll_run (x : MSt) (sched : List MTid) (h : SerAll x) (hg : SerialSched x sched) : SerAll (runM x sched) := by
  unfold runM
  induction sched generalizing x with
  | nil => exact h
  | cons t ts ih => exact ih _ (serAll_stepM x t h hg.1) hg.2

theorem serAll_init (k K : Nat) (hh : Nat → Nat) (blocking : Bool) (batches : List (List Nat))
    (hK : 0 < K) (hpos : ∀ j, j < K → 0 < hh j) (hb : ∀ l, l ∈ batches → ∀ b, b ∈ l → 1 ≤ b) :
    SerAll (mkM (2 ^ k) K hh blocking batches) := by
  refine ⟨msafe_init k K hh blocking batches hK hpos hb, ?_, ?_, ?_, ?_⟩
  · intro i j _ _ pi _; simp [mkM, WPc.pub] at pi
  · intro _
    refine ⟨rfl, ?_, ?_⟩
    · intro q
      show bmIsSet (some (Gen.BitMap.build (2 ^ k))) q = false
      rw [bmIsSet_eq (C19.inv_build k)]; rfl
    · intro q h1 h2; simp [mkM] at h2; omega
  · intro i _ pi; simp [mkM, WPc.pub] at pi
  · intro i _ pi; simp [mkM] at pi

/-- **serialised in-claim-order publication releases everything**: at every moment at which no `publish` call is in progress the
cursor equals the low watermark, the bitmap is clear, and every claimed sequence above the cursor is held by a writer that is
still in its slot-write loop; in particular, when no writer thread is in that loop either (all are done, say), the cursor equals
the highest claimed sequence -/
theorem serial_cursor_eq_hw (x : MSt) (h : SerAll x) (hq : ∀ i, i < x.P → (x.wr i).pc.pub = false)
    (hw : ∀ i, i < x.P → (x.wr i).pc ≠ .write) : x.s.cursor = x.hw := by
  obtain ⟨_, _, hc⟩ := h.2.idle hq
  apply Nat.le_antisymm h.1.2.cursor_le_hw
  apply Nat.le_of_not_lt
  intro hlt
  obtain ⟨j, hj, p1, _⟩ := hc x.hw hlt (Nat.le_refl _)
  exact hw j hj p1

/-- with a single writer thread every schedule obeys the discipline -/
theorem serialSched_of_single (x : MSt) (hP : x.P = 1) (sched : List MTid) : SerialSched x sched := by
  induction sched generalizing x with
  | nil => trivial
  | cons t ts ih =>
    refine ⟨?_, ih _ ?_⟩
    · intro i _ hi hpc _
      have hi0 : i = 0 := by omega
      subst hi0
      refine ⟨fun j hj => ?_, fun j hj hne => ?_⟩
      · have : j = 0 := by omega
        subst this; rw [hpc]; rfl
      · omega
    · exact (stepM_cfg x t).P.trans hP

/-! ### a decidable form of the discipline (for concrete schedules) -/

def SerialStepD (x : MSt) : MTid → Prop
  | .writer i => i < x.P → (x.wr i).pc = .write → (x.wr i).hi < (x.wr i).w →
      (∀ j, j < x.P → (x.wr j).pc.pub = false) ∧
      (∀ j, j < x.P → j ≠ i → (x.wr j).pc = .write → (x.wr i).lo < (x.wr j).lo)
  | _ => True

instance (x : MSt) (t : MTid) : Decidable (SerialStepD x t) := by
  cases t <;> unfold SerialStepD <;> infer_instance

def SerialSchedD (x : MSt) : List MTid → Prop
  | [] => True
  | t :: ts => SerialStepD x t ∧ SerialSchedD (stepM x t) ts

def decSerialSchedD : (x : MSt) → (sched : List MTid) → Decidable (SerialSchedD x sched)
  | _, [] => isTrue trivial
  | x, t :: ts =>
    match (inferInstance : Decidable (SerialStepD x t)), decSerialSchedD (stepM x t) ts with
    | isTrue a, isTrue b => isTrue ⟨a, b⟩
    | isFalse a, _ => isFalse (fun h => a h.1)
    | _, isFalse b => isFalse (fun h => b h.2)

instance (x : MSt) (sched : List MTid) : Decidable (SerialSchedD x sched) := decSerialSchedD x sched

theorem serialSched_of_D (x : MSt) (sched : List MTid) (h : SerialSchedD x sched) : SerialSched x sched := by
  induction sched generalizing x with
  | nil => trivial
  | cons t ts ih =>
    refine ⟨?_, ih _ h.2⟩
    intro i e
    subst e
    exact h.1

end RingMulti
