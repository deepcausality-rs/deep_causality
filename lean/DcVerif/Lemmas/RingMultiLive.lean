import DcVerif.Lemmas.FairTermination
import DcVerif.Lemmas.RingMultiLiveInv
import DcVerif.Lemmas.RingMultiSerial
/-!
# Liveness of the pipeline with the multi-producer sequencer (`Model/RingMulti.lean`)

With two or more writer threads termination is false in general (findings F7/F8/F11/F13: a sequence stranded by out-of-order
or overlapping publication stalls later `write` calls in `has_capacity` for ever and `drain` loses events). What is true,
and proved here for every ring size `2^k`, every topology and both wait strategies:

* **one writer thread** (`Phase` case 1): every fair schedule drives the pipeline to the state in which the writer has
  returned from all `write` calls, `drain` has returned and every handler thread has exited;
* **any number of writers, all of them done, nothing stranded** (`cursor = high watermark`; `Phase` case 2): every fair
  schedule of the draining thread and the handlers terminates — the conditional form that isolates the defect in the
  release protocol.

This file: the measure, the liveness invariant `LJ`, readiness and ranks of the writer and the draining thread and their
own-step lemmas (shared by both strategies). `RingMultiLiveS.lean` instantiates `Fair.fair_termination` for the spin
strategy, `RingMultiLiveB.lean` instantiates `Fair.fair_termination_sf` for the blocking strategy.
-/
namespace RingMulti
open Ring

theorem sumTo_congr (n : Nat) (f g : Nat → Nat) (h : ∀ a, a < n → f a = g a) : sumTo n f = sumTo n g :=
  Nat.le_antisymm (sumTo_le n f g (fun a ha => Nat.le_of_eq (h a ha)))
    (sumTo_le n g f (fun a ha => Nat.le_of_eq (h a ha).symm))

theorem sumTo_exchange (n : Nat) (f g : Nat → Nat) (i : Nat) (hi : i < n) (hoth : ∀ a, a < n → a ≠ i → f a = g a)
    (c d : Nat) (h : c + f i = d + g i) : c + sumTo n f = d + sumTo n g := by
  induction n with
  | zero => omega
  | succ n ih =>
    simp only [sumTo]
    by_cases hin : i = n
    · subst hin
      have := sumTo_congr i f g (fun a ha => hoth a (by omega) (by omega))
      omega
    · have := ih (by omega) (fun a ha hne => hoth a (by omega) hne)
      have := hoth n (by omega) (fun e => hin e.symm)
      omega

theorem sumTo_upd_lt (n : Nat) (f g : Nat → Nat) (i : Nat) (hi : i < n) (hoth : ∀ a, a < n → a ≠ i → f a = g a)
    (h : f i < g i) : sumTo n f < sumTo n g := by
  apply sumTo_lt n f g _ i hi h
  intro a ha
  by_cases he : a = i
  · subst he; exact Nat.le_of_lt h
  · exact Nat.le_of_eq (hoth a ha he)

/-- program counters inside `next` (a batch has been taken from the list and is not claimed yet) -/
def WPc.claiming : WPc → Bool
  | .readHw | .capLoad | .capCheck | .casHw => true
  | _ => false

/-- the batches a writer still has to claim: the one it is inside `next` for, then the rest of its list -/
def pending (w : Writer) : List Nat := (if w.pc.claiming then [w.count] else []) ++ w.todo

theorem mem_pending (w : Writer) (b : Nat) : b ∈ pending w ↔ (w.pc.claiming = true ∧ b = w.count) ∨ b ∈ w.todo := by
  unfold pending; cases w.pc.claiming <;> simp

theorem pending_step (x : MSt) (i : Nat) :
    (pending ((stepWriter x i).wr i) = pending (x.wr i) ∧ (stepWriter x i).hw = x.hw ∧
      ((stepWriter x i).wr i).claims = (x.wr i).claims ∧ (stepWriter x i).allClaims = x.allClaims) ∨
    ∃ c : Nat × Nat × Nat, pending (x.wr i) = c.2.2 :: pending ((stepWriter x i).wr i) ∧
      (stepWriter x i).hw = x.hw + c.2.2 ∧ ((stepWriter x i).wr i).claims = (x.wr i).claims ++ [c] ∧
      (stepWriter x i).allClaims = x.allClaims ++ [c] := by
  rw [stepWriter_own, (stepWriter_shared x i).2.1, (stepWriter_shared x i).2.2.2.2.2]
  generalize x.wr i = w
  unfold stepW hwAfterW claimsAfterW
  cases hpc : w.pc <;> simp only [reduceCtorEq, false_and, true_and, if_false]
  case casHw =>
    split
    · exact Or.inr ⟨(w.hwSeen + 1, w.hwSeen + w.count, w.count), by simp [pending, WPc.claiming, *]⟩
    · exact Or.inl (by simp [pending, WPc.claiming, hpc])
  all_goals (left; (repeat' split) <;> simp [pending, WPc.claiming, *])

def rem (w : Writer) : Nat := (pending w).sum

/-- the value the high watermark will have when every writer has claimed all its batches (constant along every run) -/
def finM (x : MSt) : Nat := x.hw + sumTo x.P (fun i => rem (x.wr i))

theorem fin_stepWriter (x : MSt) (i : Nat) (hi : i < x.P) : finM (stepWriter x i) = finM x := by
  unfold finM
  rw [stepWriter_P]
  apply sumTo_exchange x.P _ _ i hi
  · intro a _ hne; rw [stepWriter_others x i a hne]
  · -- a claim moves its length from the writer's pending batches to the high watermark
    unfold rem
    rcases pending_step x i with ⟨e, ehw, _⟩ | ⟨c, e, ehw, _⟩
    · rw [e, ehw]
    · rw [e, ehw, List.sum_cons]; omega

theorem fin_stepM (x : MSt) (t : MTid) : finM (stepM x t) = finM x := by
  refine stepM_cases (Q := fun y => finM y = finM x) x t (fun i hi => fin_stepWriter x i hi) ?_ (fun _ _ _ _ => rfl) rfl
  rw [stepDrainer_eq]; rfl

def phaseW : WPc → Nat
  | .readHw | .capLoad | .capCheck | .casHw => 12
  | .write => 11
  | .setBit => 10
  | .readLw => 9
  | .scan => 8
  | .relCheck => 7
  | .unsetBit => 6
  | .casCur | .reloadCur => 5
  | .setLw => 4
  | .sLock | .sNotify | .sUnlock => 3
  | .start => 2
  | .done | .panicked => 0

/-- remaining work of a writer thread: batches still to take, phases of the current `write` call still to go -/
def wW (w : Writer) : Nat := 11 * w.todo.length + phaseW w.pc

def phaseD : DPc → Nat
  | .waitJoin => 6
  | .readCur => 5
  | .drainLoad | .drainCheck | .dLock | .dNotify | .dUnlock => 4
  | .setDone => 3
  | .eLock | .eNotify | .eUnlock => 2
  | .done => 0

def μP (x : MSt) : Nat := (finM x - x.s.cursor) + sumTo x.P (fun i => wW (x.wr i)) + phaseD x.dr.pc

/-- remaining work: events still to consume / threads still to finish / batches and producer phases still to go -/
def μmain (x : MSt) : Nat := CS.μC (finM x) x.s + μP x

theorem wW_step (x : MSt) (i : Nat) :
    wW ((stepWriter x i).wr i) < wW (x.wr i) ∨
    (((stepWriter x i).wr i).todo = (x.wr i).todo ∧ phaseW ((stepWriter x i).wr i).pc = phaseW (x.wr i).pc) := by
  rw [stepWriter_own]
  generalize x.wr i = w
  unfold stepW
  cases hpc : w.pc <;> simp only [hpc] <;> (repeat' split) <;> simp_all [wW, phaseW] <;> omega

theorem writer_quiet (x : MSt) (i : Nat) :
    wW ((stepWriter x i).wr i) < wW (x.wr i) ∨
    ((stepWriter x i).s.cursor = x.s.cursor ∧ (stepWriter x i).hw = x.hw ∧
      ((stepWriter x i).s.woken = x.s.woken ∨ (stepWriter x i).s.woken = fun _ _ => true)) := by
  -- the two steps that move the cursor or the high watermark, the successful CASes, end a phase
  rw [stepWriter_own, stepWriter_eq]
  by_cases h1 : (x.wr i).pc = .casCur ∧ x.s.cursor = (x.wr i).cur
  · left; simp [stepW, h1.1, h1.2, wW, phaseW]
  by_cases h2 : (x.wr i).pc = .casHw ∧ x.hw = (x.wr i).hwSeen
  · left; simp [stepW, h2.1, h2.2, wW, phaseW]
  right
  refine ⟨if_neg h1, if_neg h2, ?_⟩
  show (if (x.wr i).pc = .sNotify then _ else _) = _ ∨ (if (x.wr i).pc = .sNotify then _ else _) = _
  split
  · exact Or.inr rfl
  · exact Or.inl rfl

theorem μmain_stepWriter (x : MSt) (i : Nat) (hi : i < x.P) (hM : MInv x) :
    μmain (stepWriter x i) ≤ μmain x ∧
    (wW ((stepWriter x i).wr i) < wW (x.wr i) → μmain (stepWriter x i) < μmain x) := by
  have hcur := cursor_mono_stepM x (.writer i) hM
  rw [stepM_writer hi] at hcur
  obtain ⟨ec, eK, eh, _, _, _, hdr, eP⟩ := stepWriter_frame x i
  have hC : CS.μC (finM x) (stepWriter x i).s = CS.μC (finM x) x.s := CS.μC_congr _ _ _ ec eK eh
  have hle : wW ((stepWriter x i).wr i) ≤ wW (x.wr i) := by
    rcases wW_step x i with h | ⟨h1, h2⟩
    · exact Nat.le_of_lt h
    · simp only [wW, h1, h2]; exact Nat.le_refl _
  -- the writers' total work changes by what writer `i`'s work changes
  have hsum := sumTo_exchange x.P (fun a => wW ((stepWriter x i).wr a)) (fun a => wW (x.wr a)) i hi
    (fun a _ hne => by rw [stepWriter_others x i a hne]) (wW (x.wr i)) (wW ((stepWriter x i).wr i)) (Nat.add_comm _ _)
  simp only [μmain, μP, fin_stepWriter x i hi, hdr, hC, eP]
  exact ⟨by omega, fun hlt => by omega⟩

theorem drainer_quiet (x : MSt) :
    phaseD (stepDrainer x).dr.pc < phaseD x.dr.pc ∨
    (phaseD (stepDrainer x).dr.pc = phaseD x.dr.pc ∧ (stepDrainer x).s.isDone = x.s.isDone ∧
      ((stepDrainer x).s.woken = x.s.woken ∨ (stepDrainer x).s.woken = fun _ _ => true)) := by
  have hph : phaseD (stepD x x.dr).pc < phaseD x.dr.pc ∨
      (phaseD (stepD x x.dr).pc = phaseD x.dr.pc ∧ x.dr.pc ≠ .setDone) := by
    unfold stepD
    cases hpc : x.dr.pc <;> simp only [hpc] <;> (repeat' split) <;> simp [phaseD, hpc]
  rw [stepDrainer_eq]
  refine hph.imp id (fun ⟨e, hne⟩ => ⟨e, if_neg hne, ?_⟩)
  show (if x.dr.pc = .dNotify ∨ x.dr.pc = .eNotify then _ else _) = _ ∨
    (if x.dr.pc = .dNotify ∨ x.dr.pc = .eNotify then _ else _) = _
  split
  · exact Or.inr rfl
  · exact Or.inl rfl

theorem μmain_stepDrainer (x : MSt) :
    μmain (stepDrainer x) ≤ μmain x ∧
    (phaseD (stepDrainer x).dr.pc < phaseD x.dr.pc → μmain (stepDrainer x) < μmain x) := by
  obtain ⟨ec, eK, eh, en, ebl, ecur, ewr, eP, ehw⟩ := stepDrainer_frame x
  have hf : finM (stepDrainer x) = finM x := fin_stepM x .drainer
  have hC : CS.μC (finM x) (stepDrainer x).s = CS.μC (finM x) x.s := CS.μC_congr _ _ _ ec eK eh
  simp only [μmain, μP, hf, hC, ecur, ewr, eP]
  rcases drainer_quiet x with h | ⟨h, _⟩
  · exact ⟨by omega, fun _ => by omega⟩
  · exact ⟨by omega, fun hh => by omega⟩

theorem μmain_stepCons (x : MSt) (k j : Nat) (hk : k < x.s.K) (hj : j < x.s.h k) (hI : Inv x.s)
    (hfin : x.s.cursor ≤ finM x) :
    μmain { x with s := stepC x.s k j } ≤ μmain x ∧
    (progressC (x.s.cons k j) (stepCons x.s k j (x.s.cons k j)) → μmain { x with s := stepC x.s k j } < μmain x) := by
  have hf : finM { x with s := stepC x.s k j } = finM x := rfl
  have hP : μP { x with s := stepC x.s k j } = μP x := rfl
  simp only [μmain, hf, hP]
  refine ⟨by have := CS.μC_stepC_le (finM x) x.s k j hk hj hI; omega, fun hp => ?_⟩
  have := CS.μC_progress (finM x) x.s k j hk hj hI hfin hp
  omega

/-- single-writer specifics: every batch is smaller than the ring; the high watermark the writer has read is the current
one (nobody else claims) -/
structure SWInv (x : MSt) : Prop where
  fit  : ∀ b, b ∈ (x.wr 0).todo → b < x.s.n
  fitC : (x.wr 0).pc.claiming = true → (x.wr 0).count < x.s.n
  hwS  : ((x.wr 0).pc = .capLoad ∨ (x.wr 0).pc = .capCheck ∨ (x.wr 0).pc = .casHw) → (x.wr 0).hwSeen = x.hw

theorem hwSeen_step (x : MSt) (i : Nat)
    (hp : ((stepWriter x i).wr i).pc = .capLoad ∨ ((stepWriter x i).wr i).pc = .capCheck ∨
      ((stepWriter x i).wr i).pc = .casHw) :
    ((stepWriter x i).wr i).hwSeen = (stepWriter x i).hw ∨
    (((x.wr i).pc = .capLoad ∨ (x.wr i).pc = .capCheck ∨ (x.wr i).pc = .casHw) ∧
      ((stepWriter x i).wr i).hwSeen = (x.wr i).hwSeen ∧ (stepWriter x i).hw = x.hw) := by
  rw [stepWriter_own] at hp ⊢
  rw [(stepWriter_shared x i).2.1]
  by_cases h1 : (x.wr i).pc = .readHw
  · left; simp [stepW, hwAfterW, h1]
  by_cases h2 : (x.wr i).pc = .capLoad
  · right; refine ⟨Or.inl h2, ?_, by simp [hwAfterW, h2]⟩
    simp only [stepW, h2]; split <;> rfl
  by_cases h3 : (x.wr i).pc = .capCheck
  · right; refine ⟨Or.inr (Or.inl h3), ?_, by simp [hwAfterW, h3]⟩
    simp only [stepW, h3]; split <;> rfl
  by_cases h4 : (x.wr i).pc = .casHw
  · -- both outcomes of the CAS leave the three pcs
    simp only [stepW, h4] at hp
    split at hp <;> simp at hp
  · -- `next` past the load of the high watermark is only entered through that load
    obtain ⟨n1, n2, n3⟩ : (stepW x (x.wr i)).pc ≠ .capLoad ∧ (stepW x (x.wr i)).pc ≠ .capCheck ∧
        (stepW x (x.wr i)).pc ≠ .casHw := by
      cases hpc : (x.wr i).pc <;> simp only [stepW, hpc] <;> (repeat' split) <;> simp_all
    rcases hp with hp | hp | hp
    · exact absurd hp n1
    · exact absurd hp n2
    · exact absurd hp n3

theorem swinv_stepWriter (x : MSt) (h : SWInv x) : SWInv (stepWriter x 0) := by
  have hn := (stepWriter_frame x 0).2.2.2.1
  -- `fit` and `fitC` together bound the pending batches, and those only get fewer
  have hfit : ∀ b, b ∈ pending ((stepWriter x 0).wr 0) → b < (stepWriter x 0).s.n := by
    intro b hb
    have hb' : b ∈ pending (x.wr 0) := by
      rcases pending_step x 0 with ⟨e, _⟩ | ⟨c, e, _⟩
      · rw [← e]; exact hb
      · rw [e]; exact List.mem_cons_of_mem _ hb
    rw [hn]
    rcases (mem_pending _ b).1 hb' with ⟨hc, e⟩ | hb'
    · rw [e]; exact h.fitC hc
    · exact h.fit b hb'
  refine ⟨fun b hb => hfit b ((mem_pending _ b).2 (Or.inr hb)), fun hc => hfit _ ((mem_pending _ _).2 (Or.inl ⟨hc, rfl⟩)),
    fun hp => ?_⟩
  rcases hwSeen_step x 0 hp with e | ⟨hp', e1, e2⟩
  · exact e
  · rw [e1, e2]; exact h.hwS hp'

/-- what the writer side looks like: either a single writer thread (with the serial-publication invariant, which every
schedule of a single writer satisfies), or all writer threads are done and nothing is stranded -/
def Phase (x : MSt) : Prop :=
  (x.P = 1 ∧ SerAll x ∧ SWInv x) ∨ (writersDone x = true ∧ x.s.cursor = x.hw)

structure LJ (x : MSt) : Prop where
  g  : GInv x
  ph : Phase x

theorem phase_stepM (x : MSt) (t : MTid) (h : Phase x) : Phase (stepM x t) := by
  rcases h with ⟨hP, hS, hW⟩ | ⟨hd, hc⟩
  · refine Or.inl ⟨(stepM_cfg x t).P.trans hP, serAll_stepM x t hS (serialSched_of_single x hP [t]).1, ?_⟩
    refine stepM_cases x t (fun i hi => ?_) ?_ (fun _ _ _ _ => ⟨hW.1, hW.2, hW.3⟩) hW
    · obtain rfl : i = 0 := by omega
      exact swinv_stepWriter x hW
    · rw [stepDrainer_eq]; exact ⟨hW.1, hW.2, hW.3⟩
  · right
    refine stepM_cases (Q := fun y => writersDone y = true ∧ y.s.cursor = y.hw) x t (fun i hi => ?_) ?_
      (fun _ _ _ _ => ⟨hd, hc⟩) ⟨hd, hc⟩
    · rw [← stepM_writer hi, stepM_writer_done x i hd]; exact ⟨hd, hc⟩
    · rw [stepDrainer_eq]; exact ⟨hd, hc⟩

theorem lj_stepM (x : MSt) (t : MTid) (h : LJ x) : LJ (stepM x t) :=
  ⟨ginv_stepM x t h.g, phase_stepM x t h.ph⟩

theorem cursor_le_fin (x : MSt) (h : LJ x) : x.s.cursor ≤ finM x := by
  have : x.s.cursor ≤ x.hw := by
    rcases h.ph with ⟨_, hS, _⟩ | ⟨_, hc⟩
    · exact hS.1.2.cursor_le_hw
    · omega
  exact Nat.le_trans this (Nat.le_add_right _ _)

/-- a writer is *ready*: it reaches its next progress event after a bounded number of own enabled steps — always, except
inside `next`, where it needs capacity -/
def readyW (x : MSt) (i : Nat) : Prop :=
  match (x.wr i).pc with
  | .readHw | .capLoad | .capCheck => condCap x i
  | .done | .panicked => False
  | _ => True

def readyD (x : MSt) : Prop :=
  match x.dr.pc with
  | .waitJoin => writersDone x = true
  | .drainLoad | .drainCheck | .dUnlock => condDM x
  | .dLock | .dNotify => condDM x ∨ CS.owedParked x.s
  | .done => False
  | _ => True

/-- the stale-snapshot flag of a writer inside `get_min_cursor_sequence`: with the running minimum `has_capacity` fails -/
def badCap (w : Writer) (n : Nat) : Bool :=
  match w.acc with | some m => decide (¬ (n > (w.hwSeen - m) + w.count)) | none => false

theorem badCap_minOpt (w : Writer) (n v : Nat) (hv : n > (w.hwSeen - v) + w.count) :
    badCap { w with acc := minOpt w.acc v, idx := w.idx + 1 } n = badCap w n := by
  have e : ∀ w : Writer, badCap w n = w.acc.any (fun m => decide (¬ (n > (w.hwSeen - m) + w.count))) := by
    intro w; unfold badCap; cases w.acc <;> rfl
  rw [e, e]
  exact minOpt_any _ (fun a b hab => by simp; omega) _ _ (by simp; omega)

def rankW (ng n : Nat) (w : Writer) : Nat :=
  match w.pc with
  | .casHw => 1
  | .capCheck => if n > (w.hwSeen - w.minG) + w.count then 2 else ng + 5
  | .capLoad => if badCap w n then (ng - w.idx) + 1 + (ng + 5) else (ng - w.idx) + 3
  | .readHw => ng + 4
  | .write => w.hi + 2 - w.w
  | .setBit => w.hi + 2 - w.nbit
  | .scan => w.hi + 1 - w.good
  | .unsetBit => w.good + 2 - w.u
  | .sLock => 3
  | .sNotify => 2
  | .sUnlock => 1
  | _ => 0

theorem rankW_capLoad (ng n : Nat) (w : Writer) (h : w.pc = .capLoad) :
    rankW ng n w = if badCap w n then (ng - w.idx) + 1 + (ng + 5) else (ng - w.idx) + 3 := by
  simp [rankW, h]

def badD (d : Drainer) : Bool := match d.acc with | some m => decide (m < d.current) | none => false

theorem badD_minOpt (d : Drainer) (v : Nat) (hv : d.current ≤ v) :
    badD { d with acc := minOpt d.acc v, idx := d.idx + 1 } = badD d := by
  have e : ∀ d : Drainer, badD d = stale d.current 0 d.acc := fun d => by unfold badD; cases d.acc <;> rfl
  rw [e, e]; exact stale_minOpt _ _ _ hv _

open Classical in
noncomputable def rankD (x : MSt) : Nat :=
  let d := x.dr
  let ng := ngate x.s
  match d.pc with
  | .drainLoad => if badD d then (ng - d.idx) + 1 + (ng + 6) else (ng - d.idx) + 2
  | .drainCheck => if d.min < d.current then ng + 6 else 1
  | .dLock => if condDM x then ng + 5 else 2
  | .dNotify => if condDM x then ng + 4 else 1
  | .dUnlock => ng + 3
  | .eLock => 3
  | .eNotify => 2
  | .eUnlock => 1
  | _ => 0

/-- is the thread's next step enabled for the purpose of the fairness rules? As `enabledM`, except that the join of the
writer threads counts as enabled (its step is a stutter until every writer has ended; weak fairness suffices for it) -/
def enF (x : MSt) : MTid → Bool
  | .drainer => match x.dr.pc with
    | .waitJoin => true
    | _ => enabledM x .drainer
  | t => enabledM x t

theorem readyW_enabled {x : MSt} {i : Nat} (hr : readyW x i) (hf : x.s.mtx = none) : enabledM x (.writer i) = true := by
  unfold readyW at hr
  cases hpc : (x.wr i).pc <;> simp_all [enabledM]

theorem readyD_enabled {x : MSt} (hr : readyD x) (hf : x.s.mtx = none) : enF x .drainer = true := by
  unfold readyD at hr
  cases hpc : x.dr.pc <;> simp_all [enF, enabledM]

theorem condCap_congr (x x' : MSt) (i : Nat) (hc : (x'.wr i).count = (x.wr i).count) (hhw : x'.hw = x.hw)
    (hng : ngate x'.s = ngate x.s) (hg : ∀ d, gate x'.s d = gate x.s d) (hn : x'.s.n = x.s.n) :
    condCap x' i ↔ condCap x i := by
  simp only [condCap, hc, hhw, hng, hg, hn]

theorem condDM_congr (x x' : MSt) (hc : x'.dr.current = x.dr.current)
    (hng : ngate x'.s = ngate x.s) (hg : ∀ d, gate x'.s d = gate x.s d) : condDM x' ↔ condDM x := by
  simp only [condDM, hc, hng, hg]

theorem owedParked_same (s s' : St) (hc : s'.cons = s.cons) (hcursor : s'.cursor = s.cursor)
    (hd : s'.isDone = s.isDone) (hK : s'.K = s.K) (hh : s'.h = s.h) (hb : s'.blocking = s.blocking)
    (hw : s'.woken = s.woken) (hop : CS.owedParked s) : CS.owedParked s' := by
  rcases CS.owedParked_frame s s' hc hcursor hd hK hh hb (Or.inl hw) hop with h | ⟨a, b, ha, hb', hlt⟩
  · exact h
  · exfalso
    have := CS.ow_frame_le s' s a b hc.symm hcursor.symm hd.symm hh.symm hb.symm (Or.inl hw.symm)
    omega

theorem ngate_pos_of (x : MSt) (h : GInv x) : 0 < ngate x.s := ngate_pos x.s h.good.2.1.1 h.good.2.2

theorem hown_writer (x : MSt) (h : GInv x) (hP : x.P = 1) (hS : SerAll x) (hW : SWInv x)
    (hr : readyW x 0) (he : enabledM x (.writer 0) = true) :
    wW ((stepWriter x 0).wr 0) < wW (x.wr 0) ∨
    (rankW (ngate x.s) x.s.n ((stepWriter x 0).wr 0) < rankW (ngate x.s) x.s.n (x.wr 0) ∧
      readyW (stepWriter x 0) 0) := by
  have hgpos := ngate_pos_of x h
  have hcap := hS.1.1.2 0 (by omega)
  have hws := wW_step x 0
  rw [stepWriter_own] at hws ⊢
  -- a step that changes the phase is a progress event
  have hnext : phaseW (stepW x (x.wr 0)).pc ≠ phaseW (x.wr 0).pc → wW (stepW x (x.wr 0)) < wW (x.wr 0) :=
    fun hne => hws.elim id (fun h => absurd h.2 hne)
  -- otherwise the rank drops, and readiness is read off the new pc
  have hkeep : rankW (ngate x.s) x.s.n (stepW x (x.wr 0)) < rankW (ngate x.s) x.s.n (x.wr 0) →
      (match (stepW x (x.wr 0)).pc with
        | .readHw | .capLoad | .capCheck => condCap (stepWriter x 0) 0
        | .done | .panicked => False
        | _ => True) →
      rankW (ngate x.s) x.s.n (stepW x (x.wr 0)) < rankW (ngate x.s) x.s.n (x.wr 0) ∧ readyW (stepWriter x 0) 0 :=
    fun hrk hrd => ⟨hrk, by unfold readyW; rw [stepWriter_own]; exact hrd⟩
  -- inside `next` the capacity condition is carried along: `count` and the high watermark stay
  have hcc : condCap x 0 → (stepW x (x.wr 0)).count = (x.wr 0).count → (x.wr 0).pc ≠ .casHw →
      condCap (stepWriter x 0) 0 := by
    intro hc e hne
    refine (condCap_congr x (stepWriter x 0) 0 (by rw [stepWriter_own]; exact e) ?_ (by rw [stepWriter_eq]; rfl)
      (fun _ => by rw [stepWriter_eq]; rfl) (by rw [stepWriter_eq]; rfl)).2 hc
    rw [stepWriter_eq]; exact if_neg (fun h => hne h.1)
  cases hpc : (x.wr 0).pc <;> simp only [readyW, hpc] at hr
  case start =>
    left
    cases htodo : (x.wr 0).todo with
    | nil => apply hnext; simp [stepW, hpc, htodo, phaseW]
    | cons b rest => simp [stepW, hpc, htodo, wW, phaseW]; omega
  case readHw =>
    exact Or.inr (hkeep (by simp [stepW, hpc, rankW, badCap])
      (by simp only [stepW, hpc]; exact hcc hr (by simp [stepW, hpc]) (by simp [hpc])))
  case capLoad =>
    right
    have hfc := hW.fitC (by simp [hpc, WPc.claiming])
    by_cases hlt : (x.wr 0).idx < ngate x.s
    · -- one more gating cursor, and it leaves room (`hr`): whether the running minimum fails the test does not change
      have e : stepW x (x.wr 0) = { x.wr 0 with
          acc := minOpt (x.wr 0).acc (gate x.s (x.wr 0).idx), idx := (x.wr 0).idx + 1 } := by
        simp [stepW, hpc, hlt]
      have hv : x.s.n > ((x.wr 0).hwSeen - gate x.s (x.wr 0).idx) + (x.wr 0).count := by
        have := hr _ hlt; have := hW.hwS (Or.inl hpc); omega
      have hb := badCap_minOpt (x.wr 0) x.s.n _ hv
      refine hkeep ?_ (by simp only [e, hpc]; exact hcc hr (by rw [e]) (by simp [hpc]))
      rw [e, rankW_capLoad _ _ _ hpc, rankW_capLoad _ _ _ (by exact hpc), hb]
      cases badCap (x.wr 0) x.s.n <;> simp <;> omega
    · -- all loaded: the flag `badCap` is the outcome of `has_capacity`
      have hidx : (x.wr 0).idx = ngate x.s := by have := hcap.idxLe hpc; omega
      have hsome := hcap.accSome hpc (by omega)
      cases hacc : (x.wr 0).acc with
      | none => simp [hacc] at hsome
      | some m =>
        refine hkeep ?_ (by simp only [stepW, hpc, hlt, if_false]; exact hcc hr (by simp [stepW, hpc, hlt]) (by simp [hpc]))
        simp only [stepW, hpc, hlt, if_false, rankW, badCap, hacc, Option.getD_some]
        by_cases hm : x.s.n > ((x.wr 0).hwSeen - m) + (x.wr 0).count <;> simp [hm] <;> omega
  case capCheck =>
    right
    by_cases hc : x.s.n > ((x.wr 0).hwSeen - (x.wr 0).minG) + (x.wr 0).count
    · exact hkeep (by simp [stepW, hpc, hc, rankW]) (by simp [stepW, hpc, hc])
    · exact hkeep (by simp [stepW, hpc, hc, rankW])
        (by simp only [stepW, hpc, hc, if_false]; exact hcc hr (by simp [stepW, hpc, hc]) (by simp [hpc]))
  case casHw =>
    -- nobody else claims: the CAS succeeds
    left; apply hnext
    simp [stepW, hpc, hW.hwS (Or.inr (Or.inr hpc)), phaseW]
  case write =>
    by_cases hle : (x.wr 0).w ≤ (x.wr 0).hi
    · exact Or.inr (hkeep (by simp only [stepW, hpc, hle, if_true, rankW]; omega) (by simp [stepW, hpc, hle]))
    · left; apply hnext; simp [stepW, hpc, hle, phaseW]
  case setBit =>
    by_cases hle : (x.wr 0).nbit ≤ (x.wr 0).hi
    · exact Or.inr (hkeep (by simp only [stepW, hpc, hle, if_true, rankW]; omega) (by simp [stepW, hpc, hle]))
    · left; apply hnext; simp [stepW, hpc, hle, phaseW]
  case readLw => left; apply hnext; simp [stepW, hpc, phaseW]
  case scan =>
    by_cases hlt : (x.wr 0).good < (x.wr 0).hi
    · by_cases hbit : bmIsSet x.bm ((x.wr 0).good + 1) = true
      · exact Or.inr (hkeep (by simp only [stepW, hpc, hlt, hbit, if_true, rankW]; omega)
          (by simp [stepW, hpc, hlt, hbit]))
      · left; apply hnext; simp [stepW, hpc, hlt, hbit, phaseW]
    · left; apply hnext; simp [stepW, hpc, hlt, phaseW]
  case relCheck =>
    left; apply hnext
    by_cases hgt : (x.wr 0).good > (x.wr 0).lwSeen <;> simp [stepW, hpc, hgt, phaseW]
  case unsetBit =>
    by_cases hle : (x.wr 0).u ≤ (x.wr 0).good
    · exact Or.inr (hkeep (by simp only [stepW, hpc, hle, if_true, rankW]; omega) (by simp [stepW, hpc, hle]))
    · left; apply hnext; simp [stepW, hpc, hle, phaseW]
  case casCur =>
    -- publication is serial: the cursor is where this writer expects it, the CAS succeeds
    left
    have hact := hS.2.act 0 (by omega) (by simp [hpc, WPc.pub])
    have h1 := hact.pre (by simp [hpc])
    have h2 := hact.lws (by simp [hpc])
    have h3 := hact.cas hpc
    have hcur : x.s.cursor = (x.wr 0).cur := by omega
    apply hnext
    simp [stepW, hpc, hcur, phaseW]
  case reloadCur =>
    exact ((hS.2.act 0 (by omega) (by simp [hpc, WPc.pub])).nore hpc).elim
  case setLw =>
    left; apply hnext
    cases hb : x.s.blocking <;> simp [stepW, hpc, hb, phaseW]
  case sLock =>
    have hm : x.s.mtx = none := by simpa [enabledM, hpc] using he
    exact Or.inr (hkeep (by simp [stepW, hpc, hm, rankW]) (by simp [stepW, hpc, hm]))
  case sNotify => exact Or.inr (hkeep (by simp [stepW, hpc, rankW]) (by simp [stepW, hpc]))
  case sUnlock => left; apply hnext; simp [stepW, hpc, phaseW]

theorem hown_writer_lj (x : MSt) (i : Nat) (h : LJ x) (hi : i < x.P) (hr : readyW x i)
    (he : enabledM x (.writer i) = true) :
    μmain (stepWriter x i) < μmain x ∨
    (rankW (ngate (stepWriter x i).s) (stepWriter x i).s.n ((stepWriter x i).wr i) < rankW (ngate x.s) x.s.n (x.wr i) ∧
      readyW (stepWriter x i) i) := by
  rcases h.ph with ⟨hP, hS, hW⟩ | ⟨hd, _⟩
  · obtain rfl : i = 0 := by omega
    rcases hown_writer x h.g hP hS hW hr he with hlt | ⟨hrk, hrd⟩
    · exact Or.inl ((μmain_stepWriter x 0 hi h.g.good.1).2 hlt)
    · have c := stepM_cfg x (.writer 0)
      rw [stepM_writer hi] at c
      rw [c.ngate_eq, c.n]; exact Or.inr ⟨hrk, hrd⟩
  · -- all writers are done: none of them is ready
    unfold readyW at hr
    rw [h.g.mtx.writers_done hd i hi] at hr
    exact hr.elim

open Classical in
theorem hown_drainer (x : MSt) (h : GInv x) (hr : readyD x) (he : enF x .drainer = true) :
    phaseD (stepDrainer x).dr.pc < phaseD x.dr.pc ∨
    (x.dr.pc = .dNotify ∧ ¬ condDM x ∧ CS.owedParked x.s) ∨
    (rankD (stepDrainer x) < rankD x ∧ readyD (stepDrainer x)) := by
  have hgpos := ngate_pos_of x h
  have edr : (stepDrainer x).dr = stepD x x.dr := by rw [stepDrainer_eq]
  have hng : ngate (stepDrainer x).s = ngate x.s := by rw [stepDrainer_eq]; rfl
  -- the drain condition reads the thread's record only through `current`, which only `readCur` stores to
  have hcd : (stepD x x.dr).current = x.dr.current → condDM (stepDrainer x) = condDM x := fun hc =>
    propext (condDM_congr x _ (by rw [edr]; exact hc) hng (fun _ => by rw [stepDrainer_eq]; rfl))
  cases hpc : x.dr.pc <;> simp only [readyD, hpc] at hr
  case waitJoin => left; simp [edr, stepD, hpc, hr, phaseD]
  case readCur => left; simp [edr, stepD, hpc, phaseD]
  case setDone => left; cases hb : x.s.blocking <;> simp [edr, stepD, hpc, hb, phaseD]
  case eUnlock => left; simp [edr, stepD, hpc, phaseD]
  case drainLoad =>
    right; right
    by_cases hlt : x.dr.idx < ngate x.s
    · -- one more gating cursor, and it has reached `current` (`hr`): whether the running minimum fails the test does not change
      have e : stepD x x.dr = { x.dr with acc := minOpt x.dr.acc (gate x.s x.dr.idx), idx := x.dr.idx + 1 } := by
        simp [stepD, hpc, hlt]
      simp only [rankD, readyD, edr, hng, hcd (by rw [e])]
      rw [e, badD_minOpt x.dr _ (hr _ hlt)]
      simp only [hpc]
      exact ⟨by cases badD x.dr <;> simp <;> omega, hr⟩
    · -- all loaded: the flag `badD` is the outcome of the test in `drainCheck`
      have hidx : x.dr.idx = ngate x.s := by have := h.dr.idxLe hpc; omega
      have hsome := h.dr.accSome hpc (by omega)
      cases hacc : x.dr.acc with
      | none => simp [hacc] at hsome
      | some m =>
        have e : stepD x x.dr = { x.dr with min := m, pc := .drainCheck } := by simp [stepD, hpc, hlt, hacc]
        simp only [rankD, readyD, edr, hng, e, hpc, badD, hacc, hcd (by rw [e])]
        exact ⟨by by_cases hm : m < x.dr.current <;> simp [hm] <;> omega, hr⟩
  case drainCheck =>
    by_cases hc : x.dr.min < x.dr.current
    · right; right
      cases hb : x.s.blocking
      · have e : stepD x x.dr = { x.dr with pc := .drainLoad, acc := none, idx := 0 } := by simp [stepD, hpc, hc, hb]
        simp only [rankD, readyD, edr, hng, e, hpc, hcd (by rw [e])]
        exact ⟨by simp [hc, badD], hr⟩
      · have e : stepD x x.dr = { x.dr with pc := .dLock } := by simp [stepD, hpc, hc, hb]
        simp only [rankD, readyD, edr, hng, e, hpc, hcd (by rw [e])]
        exact ⟨by simp [hc, hr], Or.inl hr⟩
    · left; simp [edr, stepD, hpc, hc, phaseD]
  case dLock =>
    right; right
    have hm : x.s.mtx = none := by simpa [enF, enabledM, hpc] using he
    have e : stepD x x.dr = { x.dr with pc := .dNotify } := by simp [stepD, hpc, hm]
    simp only [rankD, readyD, edr, hng, e, hpc, hcd (by rw [e])]
    refine ⟨by split <;> omega, hr.imp id fun hop => ?_⟩
    -- taking the mutex changes nothing a parked handler's claim to a wake-up depends on
    rw [stepDrainer_eq]
    exact owedParked_same x.s _ rfl rfl (by simp [sAfterD, hpc]) rfl rfl rfl (by simp [sAfterD, hpc]) hop
  case dNotify =>
    by_cases hc : condDM x
    · right; right
      have e : stepD x x.dr = { x.dr with pc := .dUnlock } := by simp [stepD, hpc]
      simp only [rankD, readyD, edr, hng, e, hpc, hcd (by rw [e])]
      exact ⟨by simp [hc], hc⟩
    · exact Or.inr (Or.inl ⟨rfl, hc, hr.resolve_left hc⟩)
  case dUnlock =>
    right; right
    have e : stepD x x.dr = { x.dr with pc := .drainLoad, acc := none, idx := 0 } := by simp [stepD, hpc]
    simp only [rankD, readyD, edr, hng, e, hpc, hcd (by rw [e])]
    exact ⟨by simp [badD], hr⟩
  case eLock =>
    have hm : x.s.mtx = none := by simpa [enF, enabledM, hpc] using he
    exact Or.inr (Or.inr (by simp [rankD, readyD, edr, stepD, hpc, hm]))
  case eNotify => exact Or.inr (Or.inr (by simp [rankD, readyD, edr, stepD, hpc]))

/-- `y` arises from `x` by a step of thread `u` that is no progress event: the configuration, the counters and `is_done`
are those of `x`, the records of all threads but `u` are untouched, and wake-up flags are only ever set -/
structure Frame (x y : MSt) (u : MTid) : Prop where
  cfg    : SameCfg x y
  hw     : y.hw = x.hw
  cursor : y.s.cursor = x.s.cursor
  isDone : y.s.isDone = x.s.isDone
  cur    : ∀ a b, (y.s.cons a b).cur = (x.s.cons a b).cur
  wr     : ∀ i, u ≠ .writer i → y.wr i = x.wr i
  dr     : u ≠ .drainer → y.dr = x.dr
  cons   : ∀ k j, u ≠ .cons k j → y.s.cons k j = x.s.cons k j
  wd     : writersDone x = true → writersDone y = true
  woken  : ∀ k j, u ≠ .cons k j → x.s.woken k j = true → y.s.woken k j = true

theorem Frame.refl (x : MSt) (u : MTid) : Frame x x u :=
  ⟨⟨rfl, rfl, rfl, rfl, rfl⟩, rfl, rfl, rfl, fun _ _ => rfl, fun _ _ => rfl, fun _ => rfl, fun _ _ _ => rfl, id,
   fun _ _ _ => id⟩

theorem Frame.gate_eq {x y : MSt} {u : MTid} (f : Frame x y u) (d : Nat) : gate y.s d = gate x.s d := by
  simp only [gate, f.cfg.K, f.cur]

theorem Frame.writer {x y : MSt} {u : MTid} (f : Frame x y u) {i : Nat} (hne : u ≠ .writer i)
    (hr : i < x.P ∧ readyW x i) :
    rankW (ngate y.s) y.s.n (y.wr i) ≤ rankW (ngate x.s) x.s.n (x.wr i) ∧ i < y.P ∧ readyW y i := by
  have hwr := f.wr i hne
  refine ⟨by rw [hwr, f.cfg.ngate_eq, f.cfg.n]; exact Nat.le_refl _, by rw [f.cfg.P]; exact hr.1, ?_⟩
  have hc : condCap y i ↔ condCap x i := condCap_congr x y i (by rw [hwr]) f.hw f.cfg.ngate_eq f.gate_eq f.cfg.n
  have hr := hr.2
  unfold readyW at hr ⊢
  rw [hwr]
  cases hpc : (x.wr i).pc <;> simp only [hpc] at hr ⊢ <;> first | exact hc.2 hr | exact hr

open Classical in
theorem Frame.drainer {x y : MSt} {u : MTid} (f : Frame x y u) (hne : u ≠ .drainer)
    (hop : CS.owedParked x.s → CS.owedParked y.s) (hr : readyD x) : rankD y ≤ rankD x ∧ readyD y := by
  have hdr := f.dr hne
  have hc : condDM y = condDM x := propext (condDM_congr x y (by rw [hdr]) f.cfg.ngate_eq f.gate_eq)
  unfold readyD at hr ⊢
  unfold rankD
  rw [hdr]
  cases hpc : x.dr.pc <;> simp only [hpc] at hr ⊢ <;>
    simp only [hc, f.cfg.ngate_eq, Nat.le_refl, true_and, and_true] <;> (try exact hr)
  case waitJoin => exact f.wd hr
  case dLock => exact hr.imp id hop
  case dNotify => exact hr.imp id hop

theorem step_progress_or_frame (x : MSt) (u : MTid) (h : LJ x) :
    μmain (stepM x u) < μmain x ∨ Frame x (stepM x u) u := by
  have hI := h.g.good.2.1
  cases u with
  | writer i =>
    by_cases hi : i < x.P
    · rw [stepM_writer hi]
      rcases writer_quiet x i with hlt | ⟨q1, q2, q3⟩
      · exact Or.inl ((μmain_stepWriter x i hi h.g.good.1).2 hlt)
      · obtain ⟨ec, eK, eh, en, ebl, edn, edr, eP⟩ := stepWriter_frame x i
        exact Or.inr
          { cfg := ⟨eP, eK, eh, en, ebl⟩, hw := q2, cursor := q1, isDone := edn, cur := fun a b => by rw [ec]
            wr := fun j hne => stepWriter_others x i j (fun e => hne (by rw [e])), dr := fun _ => edr
            cons := fun k j _ => by rw [ec]
            wd := fun hwd => by rw [← stepM_writer hi, stepM_writer_done x i hwd]; exact hwd
            woken := fun k j _ hw => by rcases q3 with q3 | q3 <;> rw [q3] <;> first | exact hw | rfl }
    · rw [show stepM x (.writer i) = x from if_neg hi]; exact Or.inr (Frame.refl x _)
  | drainer =>
    show μmain (stepDrainer x) < μmain x ∨ Frame x (stepDrainer x) .drainer
    rcases drainer_quiet x with hlt | ⟨_, q1, q2⟩
    · exact Or.inl ((μmain_stepDrainer x).2 hlt)
    · obtain ⟨ec, eK, eh, en, ebl, ecur, ewr, eP, ehw⟩ := stepDrainer_frame x
      exact Or.inr
        { cfg := ⟨eP, eK, eh, en, ebl⟩, hw := ehw, cursor := ecur, isDone := q1, cur := fun a b => by rw [ec]
          wr := fun j _ => by rw [ewr], dr := fun hne => absurd rfl hne, cons := fun k j _ => by rw [ec]
          wd := fun hwd => by rw [writersDone_congr eP ewr]; exact hwd
          woken := fun k j _ hw => by rcases q2 with q2 | q2 <;> rw [q2] <;> first | exact hw | rfl }
  | cons a b =>
    by_cases hv : a < x.s.K ∧ b < x.s.h a
    · rw [stepM_cons hv.1 hv.2]
      rcases Classical.em (progressC (x.s.cons a b) (stepCons x.s a b (x.s.cons a b))) with hp | hnp
      · exact Or.inl ((μmain_stepCons x a b hv.1 hv.2 hI (cursor_le_fin x h)).2 hp)
      · have hne : ∀ k j, MTid.cons a b ≠ .cons k j → ¬(k = a ∧ j = b) := fun k j hne he => hne (by rw [he.1, he.2])
        exact Or.inr
          { cfg := ⟨rfl, rfl, rfl, rfl, rfl⟩, hw := rfl, cursor := rfl, isDone := rfl
            cur := CS.stepC_cur_same x.s a b (cons_step_cur x.s a b _ (hI.2 a b hv.1 hv.2) hnp)
            wr := fun _ _ => rfl, dr := fun _ => rfl, cons := fun k j h => stepC_other _ _ _ _ _ (hne k j h), wd := id
            woken := fun k j h hw => by
              show wokenAfterC x.s a b k j = true
              cases hh : wokenAfterC x.s a b k j
              · rw [Blk.woken_other x.s a b k j (hne k j h) hh] at hw; cases hw
              · rfl }
    · rw [show stepM x (.cons a b) = x from if_neg hv]; exact Or.inr (Frame.refl x _)

theorem μmain_stepM_le (x : MSt) (t : MTid) (h : LJ x) : μmain (stepM x t) ≤ μmain x :=
  stepM_cases (Q := fun y => μmain y ≤ μmain x) x t (fun i hi => (μmain_stepWriter x i hi h.g.good.1).1)
    (μmain_stepDrainer x).1 (fun k j hk hj => (μmain_stepCons x k j hk hj h.g.good.2.1 (cursor_le_fin x h)).1)
    (Nat.le_refl _)

theorem drainer_ready_of_caught_up (x : MSt) (h : GInv x) (hwd : writersDone x = true)
    (hall : ∀ d, d < ngate x.s → gate x.s d = x.s.cursor) (hnd : ¬ x.s.isDone = true) : readyD x := by
  have hcD : (x.dr.pc ≠ .waitJoin ∧ x.dr.pc ≠ .readCur) → condDM x := by
    intro ⟨h1, h2⟩ d hd
    rw [hall d hd]; exact h.dr.curLe h1 h2
  have hdi := h.mtx.doneIff
  unfold readyD
  cases hpc : x.dr.pc <;> simp only [hpc] at hcD hdi ⊢ <;> first
    | trivial
    | exact hwd
    | exact hcD (by simp)
    | exact Or.inl (hcD (by simp))
    | (exfalso; exact hnd (hdi.2 (by simp [dAfterSet])))

theorem writer_ready_of_caught_up (x : MSt) (h : GInv x) (hP : x.P = 1) (hS : SerAll x) (hW : SWInv x)
    (hnd : (x.wr 0).pc ≠ .done)
    (hall : ∀ d, d < ngate x.s → gate x.s d = x.s.cursor) : readyW x 0 := by
  have hnp := h.mtx.noPanic 0 (by omega)
  have hcap : (x.wr 0).pc.claiming = true → condCap x 0 := by
    intro hcl d hd
    have hcur : x.s.cursor = x.hw := by
      -- the single writer is inside `next`: outside `publish` and outside its slot-write loop
      refine serial_cursor_eq_hw x hS (fun j hj => ?_) (fun j hj hpc => ?_) <;> obtain rfl : j = 0 := by omega
      · cases hpc : (x.wr 0).pc <;> simp_all [WPc.claiming, WPc.pub]
      · simp [hpc, WPc.claiming] at hcl
    rw [hall d hd, hcur]
    have := hW.fitC hcl
    omega
  unfold readyW
  cases hpc : (x.wr 0).pc <;> simp only [hpc] at hnd hnp hcap ⊢ <;> first
    | trivial
    | exact hcap (by simp [WPc.claiming])
    | exact absurd rfl hnd
    | exact absurd rfl hnp

theorem prod_side_ready (x : MSt) (h : LJ x) (hall : ∀ d, d < ngate x.s → gate x.s d = x.s.cursor)
    (hnd : ¬ x.s.isDone = true) : (∃ i, i < x.P ∧ readyW x i) ∨ readyD x := by
  rcases h.ph with ⟨hP, hS, hW⟩ | ⟨hd, _⟩
  · by_cases hdn : (x.wr 0).pc = .done
    · right
      apply drainer_ready_of_caught_up x h.g _ hall hnd
      apply (writersDone_iff x).2
      intro i hi
      have : i = 0 := by omega
      subst this; exact Or.inl hdn
    · left
      exact ⟨0, by omega, writer_ready_of_caught_up x h.g hP hS hW hdn hall⟩
  · right; exact drainer_ready_of_caught_up x h.g hd hall hnd

theorem drainer_ready_after_done (x : MSt) (h : GInv x) (hd : x.s.isDone = true)
    (hall : ∀ k j, k < x.s.K → j < x.s.h k → (x.s.cons k j).pc = .done) (hnt : ¬ terminalM x) : readyD x := by
  have hdi := h.mtx.doneIff.1 hd
  have hnw : x.dr.pc ≠ .waitJoin := by intro e; simp [e, dAfterSet] at hdi
  have hw := h.mtx.writers_done (h.dr.joined hnw)
  have hpd : x.dr.pc ≠ .done := fun hpd => hnt ⟨hw, hpd, hall⟩
  unfold readyD
  cases hpc : x.dr.pc <;> simp_all [dAfterSet]

/-- the skeleton of `exists_ready` (both strategies): in a non-terminal state a writer or the draining thread is ready, or
some handler that has not left its loop has its wait condition satisfied or sees `is_done` -/
theorem ready_or_cons_cond (x : MSt) (h : LJ x) (hnt : ¬ terminalM x) :
    (∃ i, i < x.P ∧ readyW x i) ∨ readyD x ∨
      ∃ k j, k < x.s.K ∧ j < x.s.h k ∧ (x.s.cons k j).pc ≠ .done ∧ Blk.condCD x.s k j := by
  apply Classical.byContradiction; intro hno
  have hw : ∀ k j, k < x.s.K → j < x.s.h k → (x.s.cons k j).pc ≠ .done → ¬ Blk.condCD x.s k j :=
    fun k j hk hj hnd hc => hno (Or.inr (Or.inr ⟨k, j, hk, hj, hnd, hc⟩))
  have hK := h.g.good.2.2
  by_cases hd : x.s.isDone = true
  · apply hno; right; left
    apply drainer_ready_after_done x h.g hd _ hnt
    intro k j hk hj
    apply Classical.byContradiction; intro hnd
    exact hw k j hk hj hnd (Or.inr hd)
  · have hnd : ∀ k j, k < x.s.K → j < x.s.h k → (x.s.cons k j).pc ≠ .done :=
      fun k j hk hj hpc => hd (h.g.mtx.consDone k j hk hj (Or.inl hpc))
    have hall := all_caught_up x.s h.g.good.2.1 (fun k j hk hj hc => hw k j hk hj (hnd k j hk hj) (Or.inl hc))
    have hg : ∀ d, d < ngate x.s → gate x.s d = x.s.cursor := by
      intro d hd'; exact hall (x.s.K - 1) d (by omega) (by simpa [ngate] using hd')
    rcases prod_side_ready x h hg hd with hr | hr
    · exact hno (Or.inl hr)
    · exact hno (Or.inr (Or.inl hr))

/-- every batch handed to the single writer becomes, in order, one claim of exactly its length; the global list of claims
is the writer's; when it has returned from all its `write` calls it holds no batch -/
structure WBook (bs : List Nat) (x : MSt) : Prop where
  split : (x.wr 0).claims.map (·.2.2) ++ (if (x.wr 0).pc.claiming then [(x.wr 0).count] else []) ++ (x.wr 0).todo = bs
  all   : x.allClaims = (x.wr 0).claims
  done  : (x.wr 0).pc = .done → (x.wr 0).todo = []

theorem stepW_done (x : MSt) (w : Writer) (h : (stepW x w).pc = .done) : w.pc = .done ∨ (w.pc = .start ∧ w.todo = []) := by
  revert h
  cases hpc : w.pc <;> simp only [stepW, hpc] <;> (repeat' split) <;> simp_all

theorem wbook_stepWriter (bs : List Nat) (x : MSt) (h : WBook bs x) : WBook bs (stepWriter x 0) := by
  have hs : (x.wr 0).claims.map (·.2.2) ++ pending (x.wr 0) = bs := by rw [← h.split, pending, List.append_assoc]
  suffices hs' : ((stepWriter x 0).wr 0).claims.map (·.2.2) ++ pending ((stepWriter x 0).wr 0) = bs ∧
      (stepWriter x 0).allClaims = ((stepWriter x 0).wr 0).claims from
    ⟨by rw [← hs'.1, pending, List.append_assoc], hs'.2, fun ha => by
      rw [stepWriter_own] at ha ⊢
      rcases stepW_done x (x.wr 0) ha with hd | ⟨hs, ht⟩
      · rw [show stepW x (x.wr 0) = x.wr 0 by simp [stepW, hd]]; exact h.done hd
      · simp [stepW, hs, ht]⟩
  rcases pending_step x 0 with ⟨e1, _, e2, e3⟩ | ⟨c, e1, _, e2, e3⟩
  · rw [e1, e2, e3]; exact ⟨hs, h.all⟩
  · rw [e2, e3, h.all]; rw [e1] at hs; exact ⟨by simpa using hs, rfl⟩

theorem wbook_stepM (bs : List Nat) (x : MSt) (t : MTid) (hP : x.P = 1) (h : WBook bs x) : WBook bs (stepM x t) := by
  refine stepM_cases x t (fun i hi => ?_) ?_ (fun _ _ _ _ => ⟨h.1, h.2, h.3⟩) h
  · obtain rfl : i = 0 := by omega
    exact wbook_stepWriter bs x h
  · rw [stepDrainer_eq]; exact ⟨h.1, h.2, h.3⟩

theorem wbook_init (n K : Nat) (h : Nat → Nat) (bl : Bool) (bs : List Nat) : WBook bs (mkM n K h bl [bs]) := by
  constructor <;> simp [mkM, WPc.claiming]

theorem swinv_init (n K : Nat) (h : Nat → Nat) (bl : Bool) (bs : List Nat) (hb : ∀ b, b ∈ bs → b < n) :
    SWInv (mkM n K h bl [bs]) := by
  constructor <;> simp [mkM, WPc.claiming]
  exact hb

theorem lj_init_single (k K : Nat) (h : Nat → Nat) (bl : Bool) (bs : List Nat)
    (hK : 0 < K) (hh : ∀ j, j < K → 0 < h j) (hb : ∀ b, b ∈ bs → 1 ≤ b ∧ b < 2 ^ k) :
    LJ (mkM (2 ^ k) K h bl [bs]) := by
  have hb1 : ∀ l, l ∈ [bs] → ∀ b, b ∈ l → 1 ≤ b := by
    intro l hl b hbl; simp at hl; subst hl; exact (hb b hbl).1
  exact ⟨ginv_init _ K h bl [bs] hK hh hb1,
    Or.inl ⟨rfl, serAll_init k K h bl [bs] hK hh hb1, swinv_init _ K h bl bs (fun b hbm => (hb b hbm).2)⟩⟩

end RingMulti
