import DcVerif.Lemmas.Ring
import DcVerif.Model.RingLabel
/-!
# The handler threads' side of the liveness argument, independent of the producer

What the fair-termination arguments say about the handler threads reads the shared state `St` only (producer cursor,
`is_done`, the mutex, the wake-up flags, the handler records). It is developed here over `St`, once, and combined with the
single-producer sequencer in `Lemmas/RingLive.lean` and with the multi-producer sequencer in `Lemmas/RingMultiLive*.lean`.

`Ring.CS`: the handlers' remaining work is relative to a final cursor value `fin`; readiness, rank and outstanding
wake-ups of the blocking strategy are functions of the handler's record and a few observed Booleans (`readyB`, `rankB`,
`owB`), so that the own-step lemma `own_rankB` serves both sequencers.
-/
namespace Ring

/-- the wait condition of a handler: every dependency has passed its cursor -/
def condC (s : St) (k : Nat) (c : Cons) : Prop := ∀ d, d < ndeps s k → c.cur + 1 ≤ dep s k d

theorem all_caught_up (s : St) (hI : Inv s)
    (hw : ∀ k j, k < s.K → j < s.h k → ¬ condC s k (s.cons k j)) :
    ∀ k j, k < s.K → j < s.h k → (s.cons k j).cur = s.cursor := by
  intro k
  induction k with
  | zero =>
    intro j hk hj
    have h1 := chain_up s hI 0 j hk hj
    have h2 := hw 0 j hk hj
    simp only [condC, ndeps, dep] at h2
    apply Classical.byContradiction; intro hne
    apply h2; intro d hd; simp; omega
  | succ k ih =>
    intro j hk hj
    have h1 := chain_up s hI (k+1) j hk hj
    have h2 := hw (k+1) j hk hj
    apply Classical.byContradiction; intro hne
    apply h2; intro d hd
    have hd' : d < s.h k := by simpa [ndeps] using hd
    have := ih d (by omega) hd'
    simp [dep, this]; omega

/-- a handler's progress events: it publishes a larger cursor, or leaves its loop -/
def progressC (c c' : Cons) : Prop := c.cur < c'.cur ∨ (c.pc ≠ .done ∧ c'.pc = .done)

theorem cons_step_cur (s : St) (k j : Nat) (c : Cons) (hci : CInv s k c)
    (hnp : ¬ progressC c (stepCons s k j c)) : (stepCons s k j c).cur = c.cur := by
  have := cur_mono s k j c hci
  simp only [progressC, not_or] at hnp
  omega

theorem dep_stepC_same_stage (s : St) (k j d : Nat) : dep (stepC s k j) k d = dep s k d := by
  unfold dep stepC upd
  by_cases h0 : k = 0
  · simp [h0]
  · have : ¬ (k - 1 = k ∧ d = j) := by omega
    simp [h0, this]

theorem condC_stepC (s : St) (k j : Nat) (c c' : Cons) (hcur : c'.cur = c.cur) :
    condC (stepC s k j) k c' ↔ condC s k c := by
  unfold condC
  have hn : ndeps (stepC s k j) k = ndeps s k := rfl
  simp only [hn, dep_stepC_same_stage, hcur]

/-- the stale-snapshot flag of a handler inside `get_min_cursor_sequence`: the running minimum is below `next` -/
def bad (c : Cons) : Bool := match c.acc with | some m => decide (m < c.next) | none => false

theorem bad_minOpt (c : Cons) (v : Nat) (hv : c.next ≤ v) (c' : Cons)
    (hacc : c'.acc = minOpt c.acc v) (hn : c'.next = c.next) : bad c' = bad c := by
  have e : ∀ c : Cons, bad c = stale c.next 0 c.acc := fun c => by unfold bad; cases c.acc <;> rfl
  rw [e, e, hacc, hn]; exact stale_minOpt _ _ _ hv _

theorem bad_load (s : St) (k : Nat) (c : Cons) (hc : condC s k c) (hlt : c.idx < ndeps s k) (hnx : c.next = c.cur + 1)
    (p : CPc) : bad { c with pc := p, acc := minOpt c.acc (dep s k c.idx), idx := c.idx + 1 } = bad c :=
  bad_minOpt c _ (by have := hc _ hlt; omega) _ rfl rfl

namespace Spin

def cSpin : CPc → Bool
  | .readOwn | .waitLoad | .checkAvail | .checkAlert | .handle | .publish | .done => true
  | _ => false

def readyC (s : St) (k : Nat) (c : Cons) : Prop :=
  match c.pc with
  | .handle | .publish => True
  | .readOwn | .waitLoad | .checkAvail | .checkAlert => condC s k c ∨ s.isDone = true
  | _ => False

/-- upper bound on the number of own steps until the handler's next progress event
    (`nd` dependencies, `cb` = wait condition holds) -/
def rankC (nd : Nat) (cb : Bool) (cursor : Nat) (isDone : Bool) (c : Cons) : Nat :=
  match c.pc with
  | .readOwn => if cb then 1 + (nd + 1 + (cursor - c.cur + 4)) else nd + 4
  | .waitLoad =>
      if cb then
        (if bad c then (nd - c.idx) + 3 + (nd + 1 + (cursor - c.cur + 4))
         else (nd - c.idx) + 1 + (cursor - c.cur + 4))
      else (nd - c.idx) + 3
  | .checkAvail =>
      if c.next ≤ c.avail then c.avail - c.next + 4
      else if cb then 2 + (nd + 1 + (cursor - c.cur + 4)) else 2
  | .checkAlert => if isDone then 1 else 1 + (nd + 1 + (cursor - c.cur + 4))
  | .handle => c.avail + 3 - c.i
  | .publish => 1
  | _ => 0

/-- readiness with the wait condition abstracted to a Boolean -/
def readyCb (cb : Bool) (isDone : Bool) (c : Cons) : Prop :=
  match c.pc with
  | .handle | .publish => True
  | .readOwn | .waitLoad | .checkAvail | .checkAlert => cb = true ∨ isDone = true
  | _ => False

theorem rankC_wait (nd : Nat) (cb : Bool) (cursor : Nat) (isDone : Bool) (c : Cons) (h : c.pc = .waitLoad) :
    rankC nd cb cursor isDone c =
      if cb then (if bad c then (nd - c.idx) + 3 + (nd + 1 + (cursor - c.cur + 4))
                  else (nd - c.idx) + 1 + (cursor - c.cur + 4))
      else (nd - c.idx) + 3 := by
  simp [rankC, h]

theorem own_rank_cons (s : St) (k j : Nat) (c : Cons) (cb : Bool) (hspin : s.blocking = false)
    (hci : CInv s k c) (hpos : 0 < ndeps s k)
    (hcb : cb = true ↔ condC s k c)
    (hdepc : ∀ d, d < ndeps s k → dep s k d ≤ s.cursor)
    (hr : readyCb cb s.isDone c) :
    progressC c (stepCons s k j c) ∨
      (rankC (ndeps s k) cb s.cursor s.isDone (stepCons s k j c) < rankC (ndeps s k) cb s.cursor s.isDone c ∧
       readyCb cb s.isDone (stepCons s k j c)) := by
  obtain ⟨h1, h2, h3, h4, h5, h6, h7, h8, h9, h10, h11, h12, h13⟩ := hci
  cases hpc : c.pc <;> simp only [readyCb, hpc] at hr <;> try contradiction
  case readOwn =>
    right
    have e : stepCons s k j c = { c with next := c.cur + 1, pc := .waitLoad, acc := none, idx := 0 } := by
      simp [stepCons, hpc, hspin]
    rw [e]
    refine ⟨?_, by simpa [readyCb] using hr⟩
    rw [rankC_wait _ _ _ _ _ rfl]
    simp only [rankC, hpc, bad]
    cases cb <;> simp <;> omega
  case waitLoad =>
    have hnx := h8 (by simp [hpc])
    by_cases hlt : c.idx < ndeps s k
    · right
      have e : stepCons s k j c = { c with acc := minOpt c.acc (dep s k c.idx), idx := c.idx + 1 } := by
        simp [stepCons, hpc, hlt]
      rw [e]
      refine ⟨?_, by simpa [readyCb, hpc] using hr⟩
      rw [rankC_wait _ _ _ _ _ (by simpa using hpc), rankC_wait _ _ _ _ _ hpc]
      cases hcbv : cb
      · simp; omega
      · simp only [bad_load s k c (hcb.1 hcbv) hlt hnx c.pc, if_true]
        cases bad c <;> simp <;> omega
    · have hidx : c.idx = ndeps s k := by have := h2 hpc; omega
      have hsome := h5 hpc (by omega)
      cases hacc : c.acc with
      | none => simp [hacc] at hsome
      | some m =>
        right
        have hmle : ∀ d, d < ndeps s k → m ≤ dep s k d := fun d hd => h4 hpc m hacc d (by omega)
        have hmc : m ≤ s.cursor := Nat.le_trans (hmle 0 hpos) (hdepc 0 hpos)
        have e : stepCons s k j c = { c with avail := m, pc := .checkAvail } := by
          simp [stepCons, hpc, hlt, hacc]
        rw [e]
        refine ⟨?_, by simpa [readyCb] using hr⟩
        rw [rankC_wait _ _ _ _ _ hpc]
        simp only [rankC, bad, hacc]
        cases hcbv : cb
        · have hmlt : ¬ c.next ≤ m := by
            intro hge
            have : condC s k c := fun d hd => by have := hmle d hd; omega
            have := hcb.2 this; simp [hcbv] at this
          simp [hmlt]
        · by_cases hm : m < c.next
          · have : ¬ c.next ≤ m := by omega
            simp [hm, this]
          · have : c.next ≤ m := by omega
            simp [hm, this]; omega
  case checkAvail =>
    right
    have hnx := h8 (by simp [hpc])
    by_cases hge : c.avail ≥ c.next
    · have e : stepCons s k j c = { c with pc := .handle, i := c.next } := by simp [stepCons, hpc, hge, hspin]
      rw [e]
      have : c.next ≤ c.avail := hge
      refine ⟨?_, by simp [readyCb]⟩
      simp only [rankC, hpc, this, if_true]; omega
    · have e : stepCons s k j c = { c with pc := .checkAlert } := by simp [stepCons, hpc, hge, hspin]
      rw [e]
      have : ¬ c.next ≤ c.avail := hge
      refine ⟨?_, by simpa [readyCb] using hr⟩
      simp only [rankC, hpc, this, if_false]
      rcases hr with h | h
      · cases hd : s.isDone <;> simp [h] <;> omega
      · cases cb <;> simp [h] <;> omega
  case checkAlert =>
    by_cases hd : s.isDone = true
    · left; right; simp [stepCons, hpc, hd]
    · right
      have hd' : s.isDone = false := by cases h : s.isDone <;> simp_all
      have hcbv : cb = true := by simpa [hd'] using hr
      have e : stepCons s k j c = { c with pc := .waitLoad, acc := none, idx := 0 } := by
        simp [stepCons, hpc, hd']
      rw [e]
      refine ⟨?_, by simp [readyCb, hcbv]⟩
      rw [rankC_wait _ _ _ _ _ rfl]
      simp [rankC, hpc, hd', hcbv, bad]
  case handle =>
    right
    by_cases hle : c.i ≤ c.avail
    · have e : stepCons s k j c = { c with log := c.log ++ [c.i], i := c.i + 1 } := by simp [stepCons, hpc, hle]
      rw [e]
      refine ⟨?_, by simp [readyCb, hpc]⟩
      simp only [rankC, hpc]; omega
    · have e : stepCons s k j c = { c with pc := .publish } := by simp [stepCons, hpc, hle]
      rw [e]
      have := h10 hpc
      refine ⟨?_, by simp [readyCb]⟩
      simp only [rankC, hpc]; omega
  case publish =>
    left; left
    have := h7 (by simp [hpc])
    simp [stepCons, hpc]; omega

open Classical in
theorem readyC_iff (s : St) (k : Nat) (c : Cons) :
    readyC s k c ↔ readyCb (decide (condC s k c)) s.isDone c := by
  cases hpc : c.pc <;> simp [readyC, readyCb, hpc]

theorem dep_le_cursor (s : St) (hI : Inv s) (k : Nat) (hk : k < s.K) :
    ∀ d, d < ndeps s k → dep s k d ≤ s.cursor := by
  intro d hd
  by_cases h0 : k = 0
  · simp [dep, h0]
  · have hd' : d < s.h (k-1) := by simpa [ndeps, h0] using hd
    simp only [dep, h0, if_false]
    exact chain_up s hI (k-1) d (by omega) hd'

end Spin

/-- consumer pcs at which the thread owns the wait strategy's mutex (blocking strategy) -/
def cHold : CPc → Bool
  | .bAlert | .waitLoad | .checkAvail | .bUnlockGo | .bWait | .bUnlockRetry | .bUnlockExit | .sNotify | .sUnlock => true
  | _ => false

theorem cons_mtx_step (s : St) (k j : Nat) (hb : s.blocking = true)
    (hc : cHold (s.cons k j).pc = true ↔ s.mtx = some (.cons k j)) (hne : (s.cons k j).pc ≠ .checkAlert) :
    (cHold (stepCons s k j (s.cons k j)).pc = true ↔ mtxAfterC s k j = some (.cons k j)) ∧
    (stepCons s k j (s.cons k j)).pc ≠ .checkAlert ∧
    (mtxAfterC s k j = s.mtx ∨ (s.mtx = none ∧ mtxAfterC s k j = some (.cons k j)) ∨
      (s.mtx = some (.cons k j) ∧ mtxAfterC s k j = none)) := by
  cases hpc : (s.cons k j).pc <;> simp only [hpc, cHold] at hc hne <;>
    simp only [stepCons, mtxAfterC, hpc, hb] <;> (repeat' split) <;> simp_all [cHold]

theorem cons_spin_step (s : St) (k j : Nat) (hb : s.blocking = false) (hm : s.mtx = none)
    (hc : Spin.cSpin (s.cons k j).pc = true) :
    Spin.cSpin (stepCons s k j (s.cons k j)).pc = true ∧ mtxAfterC s k j = none := by
  cases hpc : (s.cons k j).pc <;> simp only [hpc, Spin.cSpin] at hc <;> (try contradiction) <;>
    simp only [stepCons, mtxAfterC, hpc, hb, hm] <;> (repeat' split) <;> simp_all [Spin.cSpin]

theorem cons_done_step (s : St) (k j : Nat)
    (h : (stepCons s k j (s.cons k j)).pc = .done ∨ (stepCons s k j (s.cons k j)).pc = .bUnlockExit) :
    (s.cons k j).pc = .done ∨ (s.cons k j).pc = .bUnlockExit ∨ s.isDone = true := by
  cases hpc : (s.cons k j).pc <;> simp only [stepCons, hpc] at h <;> (try split at h) <;> (try split at h) <;>
    simp_all

/-- consumer pcs between its cursor store and the `notify_all` of `signal()` -/
def cPend : CPc → Bool
  | .sLock | .sNotify => true
  | _ => false

/-- the handler is parked, or is under the mutex on its way to park (it has seen, or will see, a stale snapshot) -/
def parkish (s : St) (k j : Nat) : Prop :=
  match (s.cons k j).pc with
  | .waitLoad => bad (s.cons k j) = true ∨ s.isDone = true
  | .checkAvail => (s.cons k j).avail < (s.cons k j).next
  | .bWait => True
  | .bRelock => s.woken k j = false
  | _ => False

/-- the handler is owed a wake-up: it is (about to be) parked although its wait condition holds or `is_done` is set -/
def owed (s : St) (k j : Nat) : Prop :=
  s.blocking = true ∧ (condC s k (s.cons k j) ∨ s.isDone = true) ∧ parkish s k j

theorem condC_congr (s s' : St) (k : Nat) (c : Cons) (hc : ∀ a b, (s'.cons a b).cur = (s.cons a b).cur)
    (hcur : s'.cursor = s.cursor) (hh : s'.h = s.h) : condC s' k c ↔ condC s k c := by
  unfold condC ndeps dep
  simp only [hc, hcur, hh]

theorem cons_nlw_cases (s : St) (k j : Nat) (hb : s.blocking = true) :
    cPend (stepCons s k j (s.cons k j)).pc = true ∨
    ((s.cons k j).pc = .sNotify ∧ wokenAfterC s k j = fun _ _ => true) ∨
    (cPend (s.cons k j).pc = false ∧ (s.cons k j).pc ≠ .publish ∧
      ∀ k' j', ¬(k' = k ∧ j' = j) → wokenAfterC s k j k' j' = s.woken k' j') := by
  cases hpc : (s.cons k j).pc
  case bWait =>
    right; right
    refine ⟨by simp [cPend], by simp, ?_⟩
    intro k' j' hne; simp [wokenAfterC, hpc, hne]
  all_goals (simp only [stepCons, wokenAfterC, hpc, hb] <;> (repeat' split) <;> simp_all [cPend])

theorem owed_blocking {s : St} {k j : Nat} (h : owed s k j) : s.blocking = true := h.1

theorem parkish_hold {s : St} {k j : Nat} (h : parkish s k j) :
    cHold (s.cons k j).pc = true ∨ ((s.cons k j).pc = .bRelock ∧ s.woken k j = false) := by
  unfold parkish at h
  cases hpc : (s.cons k j).pc <;> simp only [hpc] at h <;> simp_all [cHold]

theorem owed_mono (s s' : St) (k j : Nat) (hcj : s'.cons k j = s.cons k j)
    (hcur : ∀ a b, (s'.cons a b).cur = (s.cons a b).cur) (hcursor : s'.cursor = s.cursor)
    (hd : s'.isDone = s.isDone) (hh : s'.h = s.h) (hb : s'.blocking = s.blocking)
    (hw : s'.woken k j = false → s.woken k j = false) : owed s' k j → owed s k j := by
  intro ⟨h1, h2, h3⟩
  refine ⟨by rw [← hb]; exact h1, ?_, ?_⟩
  · rw [condC_congr s s' k _ hcur hcursor hh, hcj, hd] at h2; exact h2
  · unfold parkish at h3 ⊢
    rw [hcj, hd] at h3
    cases hpc : (s.cons k j).pc <;> simp only [hpc] at h3 ⊢ <;> first | exact h3 | exact hw h3

namespace Blk

/-- the handler's wait is over: its wait condition holds or `is_done` is set -/
def condCD (s : St) (k j : Nat) : Prop := condC s k (s.cons k j) ∨ s.isDone = true

theorem cons_cur_nonpublish (s : St) (k j : Nat) (c : Cons) (h : c.pc ≠ .publish) : (stepCons s k j c).cur = c.cur := by
  rw [stepCons_cur, if_neg h]

theorem woken_other (s : St) (k j k' j' : Nat) (hne : ¬(k' = k ∧ j' = j)) :
    wokenAfterC s k j k' j' = false → s.woken k' j' = false := by
  cases hpc : (s.cons k j).pc <;> simp only [wokenAfterC, hpc, hne, if_false] <;> simp_all

theorem owed_congr (s s' : St) (k j : Nat) (hcj : s'.cons k j = s.cons k j)
    (hcur : ∀ a b, (s'.cons a b).cur = (s.cons a b).cur) (hcursor : s'.cursor = s.cursor)
    (hd : s'.isDone = s.isDone) (hh : s'.h = s.h) (hb : s'.blocking = s.blocking)
    (hw : s'.woken k j = s.woken k j) : owed s' k j ↔ owed s k j :=
  ⟨owed_mono s s' k j hcj hcur hcursor hd hh hb (by rw [hw]; exact id),
   owed_mono s' s k j hcj.symm (fun a b => (hcur a b).symm) hcursor.symm hd.symm hh.symm hb.symm (by rw [hw]; exact id)⟩

theorem upd_self (f : Nat → Nat → Cons) (k j : Nat) : upd f k j (f k j) = f := by
  funext a b; unfold upd; split
  · rename_i h; rw [h.1, h.2]
  · rfl

theorem stepC_stutter (s : St) (k j : Nat)
    (he : (match (s.cons k j).pc with
           | .bLock | .sLock => s.mtx.isNone
           | .bRelock => s.woken k j && s.mtx.isNone
           | .done => false
           | _ => true) = false) : stepC s k j = s := by
  obtain ⟨n, K, h, bl, cur, dn, mtx, wk, cons⟩ := s
  simp only at he
  cases hm : mtx <;> cases hw : wk k j <;> cases hpc : (cons k j).pc <;>
    simp only [hpc, hm, hw] at he <;> (try cases he) <;>
    simp [stepC, stepCons, mtxAfterC, wokenAfterC, hpc, hw, upd_self] <;>
    (rw [← hpc, upd_self])

theorem woken_other_eq (s : St) (k j k' j' : Nat) (hne : ¬(k' = k ∧ j' = j)) (hns : (s.cons k j).pc ≠ .sNotify) :
    wokenAfterC s k j k' j' = s.woken k' j' := by
  cases hpc : (s.cons k j).pc <;> simp only [wokenAfterC, hpc, hne, if_false] <;> simp_all

/-- own steps until the handler that owns the mutex releases it -/
def hrC (nd : Nat) (c : Cons) : Nat :=
  match c.pc with
  | .bAlert => nd + 4
  | .waitLoad => (nd - c.idx) + 3
  | .checkAvail => 2
  | .sNotify => 2
  | .bUnlockGo | .bWait | .bUnlockRetry | .bUnlockExit | .sUnlock => 1
  | _ => 0

theorem hold_cons_step (s : St) (k j : Nat) (hb : s.blocking = true) (hm : s.mtx = some (.cons k j))
    (hc : cHold (s.cons k j).pc = true) :
    (stepC s k j).mtx = none ∨
    ((stepC s k j).mtx = some (.cons k j) ∧
      hrC (ndeps s k) ((stepC s k j).cons k j) < hrC (ndeps s k) (s.cons k j)) := by
  rw [stepC_own, stepC_mtx]
  cases hpc : (s.cons k j).pc <;> simp only [hpc, cHold] at hc <;> (try cases hc)
  -- the pcs that branch keep the mutex either way
  case waitLoad =>
    right; by_cases hlt : (s.cons k j).idx < ndeps s k <;> simp [mtxAfterC, stepCons, hpc, hm, hlt, hrC]; omega
  case bAlert => right; cases hd : s.isDone <;> simp [mtxAfterC, stepCons, hpc, hm, hd, hrC]
  case checkAvail =>
    right; by_cases ha : (s.cons k j).avail ≥ (s.cons k j).next <;> simp [mtxAfterC, stepCons, hpc, hm, hb, ha, hrC]
  all_goals (simp [mtxAfterC, stepCons, hpc, hm, hrC])

end Blk

namespace CS
open Blk (condCD cons_cur_nonpublish woken_other woken_other_eq owed_congr stepC_stutter)

theorem stepC_cur_same (s : St) (k j : Nat) (hcur : (stepCons s k j (s.cons k j)).cur = (s.cons k j).cur)
    (a b : Nat) : ((stepC s k j).cons a b).cur = (s.cons a b).cur := by
  by_cases he : a = k ∧ b = j
  · obtain ⟨rfl, rfl⟩ := he; rw [stepC_own, hcur]
  · rw [stepC_other s k j a b he]

theorem dep_stepC (s : St) (k j : Nat) (hcur : (stepCons s k j (s.cons k j)).cur = (s.cons k j).cur)
    (a d : Nat) : dep (stepC s k j) a d = dep s a d := by
  unfold dep
  by_cases h0 : a = 0
  · simp [h0]; rfl
  · simp only [h0, if_false]; exact stepC_cur_same s k j hcur (a-1) d

theorem gate_stepC (s : St) (k j : Nat) (hcur : (stepCons s k j (s.cons k j)).cur = (s.cons k j).cur)
    (d : Nat) : gate (stepC s k j) d = gate s d := by
  unfold gate; exact stepC_cur_same s k j hcur _ d

/-- remaining work of handler `(k,j)`: events still to consume, plus one for leaving the loop -/
def wC (fin : Nat) (s : St) (k j : Nat) : Nat :=
  (fin - (s.cons k j).cur) + (if (s.cons k j).pc = .done then 0 else 1)

def μC (fin : Nat) (s : St) : Nat := sumTo s.K (fun k => sumTo (s.h k) (fun j => wC fin s k j))

theorem wC_stepC_le (fin : Nat) (s : St) (k j : Nat) (hk : k < s.K) (hj : j < s.h k) (hI : Inv s) (a b : Nat) :
    wC fin (stepC s k j) a b ≤ wC fin s a b := by
  by_cases he : a = k ∧ b = j
  · obtain ⟨rfl, rfl⟩ := he
    have hm := cur_mono s a b _ (hI.2 a b hk hj)
    simp only [wC, stepC_own]
    by_cases hpc : (s.cons a b).pc = .done
    · have hd : (stepCons s a b (s.cons a b)).pc = .done := by simp [stepCons, hpc]
      simp [hpc, hd]; omega
    · simp only [hpc, if_false]; split <;> omega
  · simp [wC, stepC_other _ _ _ _ _ he]

theorem μC_stepC_le (fin : Nat) (s : St) (k j : Nat) (hk : k < s.K) (hj : j < s.h k) (hI : Inv s) :
    μC fin (stepC s k j) ≤ μC fin s :=
  sumTo2_le _ _ _ _ (fun a b _ _ => wC_stepC_le fin s k j hk hj hI a b)

theorem wC_progress (fin : Nat) (s : St) (k j : Nat) (hk : k < s.K) (hj : j < s.h k) (hI : Inv s)
    (hfin : s.cursor ≤ fin)
    (hp : progressC (s.cons k j) (stepCons s k j (s.cons k j))) : wC fin (stepC s k j) k j < wC fin s k j := by
  have hm := cur_mono s k j _ (hI.2 k j hk hj)
  have hup := chain_up (stepC s k j) (inv_stepC s k j hk hj hI) k j hk hj
  have ecur : (stepC s k j).cursor = s.cursor := rfl
  rw [stepC_own, ecur] at hup
  simp only [wC, stepC_own]
  rcases hp with hp | ⟨hp1, hp2⟩
  · have hd : (s.cons k j).pc ≠ .done := by
      intro hd; simp [stepCons, hd] at hp
    simp only [hd, if_false]
    split <;> omega
  · simp [hp1, hp2]; omega

theorem μC_progress (fin : Nat) (s : St) (k j : Nat) (hk : k < s.K) (hj : j < s.h k) (hI : Inv s)
    (hfin : s.cursor ≤ fin)
    (hp : progressC (s.cons k j) (stepCons s k j (s.cons k j))) : μC fin (stepC s k j) < μC fin s :=
  sumTo2_lt _ _ _ _ (fun a b _ _ => wC_stepC_le fin s k j hk hj hI a b) k j hk hj
    (wC_progress fin s k j hk hj hI hfin hp)

theorem μC_congr (fin : Nat) (s s' : St) (hc : s'.cons = s.cons) (hK : s'.K = s.K) (hh : s'.h = s.h) :
    μC fin s' = μC fin s := by
  simp only [μC, wC, hc, hK, hh]

theorem publish_progress (s : St) (k j : Nat) (hk : k < s.K) (hj : j < s.h k) (hI : Inv s)
    (hp : (s.cons k j).pc = .publish) : progressC (s.cons k j) (stepCons s k j (s.cons k j)) := by
  left
  have := (hI.2 k j hk hj).curAvail (by simp [hp])
  simp [stepCons, hp]; omega

open Classical in
noncomputable def rankS (s : St) (k j : Nat) : Nat :=
  Spin.rankC (ndeps s k) (decide (condC s k (s.cons k j))) s.cursor s.isDone (s.cons k j)

open Classical in
theorem spin_hown (s : St) (hI : Inv s) (hspin : s.blocking = false) (k j : Nat) (hk : k < s.K) (hj : j < s.h k)
    (hrc : Spin.readyC s k (s.cons k j)) :
    progressC (s.cons k j) (stepCons s k j (s.cons k j)) ∨
      (rankS (stepC s k j) k j < rankS s k j ∧ Spin.readyC (stepC s k j) k ((stepC s k j).cons k j)) := by
  have hci := hI.2 k j hk hj
  have hpos := ndeps_pos s hI.1 k hk
  have hdepc := Spin.dep_le_cursor s hI k hk
  have e := stepC_own s k j
  rcases Classical.em (progressC (s.cons k j) (stepCons s k j (s.cons k j))) with hp | hnp
  · exact Or.inl hp
  · right
    have hcur := cons_step_cur s k j _ hci hnp
    have hcond : condC (stepC s k j) k ((stepC s k j).cons k j) ↔ condC s k (s.cons k j) := by
      rw [e]; exact condC_stepC s k j _ _ hcur
    have hown := Spin.own_rank_cons s k j (s.cons k j) (decide (condC s k (s.cons k j))) hspin hci hpos
      (by simp) hdepc ((Spin.readyC_iff _ _ _).1 hrc)
    rcases hown with hp | ⟨hrk, hrd⟩
    · exact absurd hp hnp
    · have hd : decide (condC (stepC s k j) k ((stepC s k j).cons k j)) = decide (condC s k (s.cons k j)) :=
        decide_eq_decide.2 hcond
      refine ⟨?_, ?_⟩
      · show Spin.rankC (ndeps (stepC s k j) k) (decide (condC (stepC s k j) k ((stepC s k j).cons k j)))
            (stepC s k j).cursor (stepC s k j).isDone ((stepC s k j).cons k j) < _
        rw [hd, e]; exact hrk
      · rw [Spin.readyC_iff, hd, e]; exact hrd

open Classical in
theorem spin_frame (s s' : St) (k j : Nat) (hcj : s'.cons k j = s.cons k j)
    (hcur : ∀ a b, (s'.cons a b).cur = (s.cons a b).cur) (hcursor : s'.cursor = s.cursor)
    (hd : s'.isDone = s.isDone) (hh : s'.h = s.h)
    (hr : Spin.readyC s k (s.cons k j)) : rankS s' k j = rankS s k j ∧ Spin.readyC s' k (s'.cons k j) := by
  have hcc : condC s' k (s.cons k j) ↔ condC s k (s.cons k j) := condC_congr s s' k _ hcur hcursor hh
  have hdd : decide (condC s' k (s.cons k j)) = decide (condC s k (s.cons k j)) := decide_eq_decide.2 hcc
  have hnd : ndeps s' k = ndeps s k := by simp [ndeps, hh]
  refine ⟨?_, ?_⟩
  · unfold rankS; rw [hcj, hdd, hnd, hcursor, hd]
  · rw [Spin.readyC_iff, hcj, hdd, hd]; exact (Spin.readyC_iff _ _ _).1 hr

open Classical in
/-- weight of an outstanding wake-up: 2 while the handler is still on its way to park, 1 once it is parked -/
noncomputable def ow (s : St) (k j : Nat) : Nat :=
  if owed s k j then (if (s.cons k j).pc = .bRelock then 1 else 2) else 0

noncomputable def owedW (s : St) : Nat := sumTo s.K (fun k => sumTo (s.h k) (fun j => ow s k j))

def bnd (s : St) : Nat := sumTo s.K (fun k => sumTo (s.h k) (fun _ => 2))

theorem ow_le_two (s : St) (k j : Nat) : ow s k j ≤ 2 := by
  unfold ow; split <;> (try split) <;> omega

theorem owedW_le_bnd (s : St) : owedW s ≤ bnd s :=
  sumTo2_le _ _ _ _ (fun k j _ _ => ow_le_two s k j)

theorem condCD_stepC (s : St) (k j : Nat) (hnp : (s.cons k j).pc ≠ .publish) :
    condCD (stepC s k j) k j ↔ condCD s k j := by
  unfold condCD; rw [stepC_own, condC_stepC s k j _ _ (cons_cur_nonpublish s k j _ hnp)]; rfl

theorem ow_pos {s : St} {k j : Nat} : 0 < ow s k j ↔ owed s k j := by
  unfold ow; by_cases h : owed s k j <;> simp [h]; split <;> omega

/-! The obligation read off the handler's record: `cd` = its wait is over (`condCD`), `dn` = `is_done`, `wk` = its wake-up
flag. -/

/-- `parkish`, read off the handler's record -/
def parkB (dn wk : Bool) (c : Cons) : Bool :=
  match c.pc with
  | .waitLoad => bad c || dn
  | .checkAvail => decide (c.avail < c.next)
  | .bWait => true
  | .bRelock => !wk
  | _ => false

def owB (cd dn wk : Bool) (c : Cons) : Nat :=
  if cd && parkB dn wk c then (if c.pc = .bRelock then 1 else 2) else 0

open Classical in
theorem owed_iff (s : St) (hblk : s.blocking = true) (k j : Nat) :
    owed s k j ↔ (decide (condCD s k j) && parkB s.isDone (s.woken k j) (s.cons k j)) = true := by
  unfold owed parkish parkB condCD
  cases hpc : (s.cons k j).pc <;> simp [hblk]

open Classical in
theorem ow_eq (s : St) (hblk : s.blocking = true) (k j : Nat) :
    ow s k j = owB (decide (condCD s k j)) s.isDone (s.woken k j) (s.cons k j) := by
  unfold ow owB; simp only [owed_iff s hblk]

theorem own_owB (s : St) (k j : Nat) (cd : Bool) (hblk : s.blocking = true) (hci : CInv s k (s.cons k j))
    (hpos : 0 < ndeps s k) (hcd : cd = true → condC s k (s.cons k j) ∨ s.isDone = true) :
    owB cd s.isDone (wokenAfterC s k j k j) (stepCons s k j (s.cons k j)) ≤
      owB cd s.isDone (s.woken k j) (s.cons k j) := by
  cases cd
  · simp [owB]
  have hcd := hcd rfl
  obtain ⟨-, h2, -, -, h5, -, -, h8, -, -, -, -, -⟩ := hci
  simp only [owB, Bool.true_and]
  cases hpc : (s.cons k j).pc
  case waitLoad =>
    have hnx := h8 (by simp [hpc])
    by_cases hlt : (s.cons k j).idx < ndeps s k
    · -- one more load: the stale-snapshot flag stays as it is, unless `is_done` is set
      cases hd : s.isDone
      · simp [stepCons, hpc, hlt, parkB, bad_load s k _ (hcd.resolve_right (by simp [hd])) hlt hnx .waitLoad]
      · simp [stepCons, hpc, hlt, parkB]
    · -- the minimum is complete: the flag is what `checkAvail` will see
      have hidx : (s.cons k j).idx = ndeps s k := by have := h2 hpc; omega
      obtain ⟨m, hacc⟩ := Option.isSome_iff_exists.1 (h5 hpc (by omega))
      by_cases hm : m < (s.cons k j).next <;> simp [stepCons, hpc, hlt, parkB, bad, hacc, hm]
  case checkAvail =>
    by_cases a : (s.cons k j).avail < (s.cons k j).next
    · simp [stepCons, hpc, hblk, parkB, a, Nat.not_le.2 a]
    · simp [stepCons, hpc, hblk, parkB, Nat.not_lt.1 a]
  case bWait => simp only [stepCons, hpc, parkB]; split <;> simp
  case bRelock =>
    by_cases a : s.woken k j = true ∧ s.mtx = none <;> simp [stepCons, wokenAfterC, hpc, a, parkB]
  case bLock | sLock => by_cases a : s.mtx = none <;> simp [stepCons, hpc, a, parkB]
  case bAlert | checkAlert => cases hd : s.isDone <;> simp [stepCons, hpc, hd, parkB, bad]
  case handle => by_cases a : (s.cons k j).i ≤ (s.cons k j).avail <;> simp [stepCons, hpc, a, parkB]
  all_goals simp [stepCons, hpc, hblk, parkB]

open Classical in
theorem ow_cons_le (s : St) (hI : Inv s) (k j : Nat) (hk : k < s.K) (hj : j < s.h k)
    (hnp : (s.cons k j).pc ≠ .publish) (k' j' : Nat) : ow (stepC s k j) k' j' ≤ ow s k' j' := by
  have hcur := cons_cur_nonpublish s k j _ hnp
  have hcurs : ∀ a b, ((stepC s k j).cons a b).cur = (s.cons a b).cur := stepC_cur_same s k j hcur
  by_cases he : k' = k ∧ j' = j
  · obtain ⟨rfl, rfl⟩ := he
    by_cases hblk : s.blocking = true
    · rw [ow_eq (stepC s k' j') hblk, ow_eq s hblk, decide_eq_decide.2 (condCD_stepC s k' j' hnp), stepC_own, stepC_woken]
      exact own_owB s k' j' _ hblk (hI.2 k' j' hk hj) (ndeps_pos s hI.1 k' hk) decide_eq_true_iff.1
    · have : ¬ owed (stepC s k' j') k' j' := fun h => hblk h.1
      simp [ow, this]
  · have himp : owed (stepC s k j) k' j' → owed s k' j' :=
      owed_mono s (stepC s k j) k' j' (stepC_other _ _ _ _ _ he) hcurs rfl rfl rfl rfl
        (by rw [stepC_woken]; exact woken_other s k j k' j' he)
    unfold ow
    rw [stepC_other _ _ _ _ _ he]
    by_cases ho' : owed (stepC s k j) k' j'
    · simp [ho', himp ho']
    · simp only [ho', if_false]; exact Nat.zero_le _

theorem owedW_cons_le (s : St) (hI : Inv s) (k j : Nat) (hk : k < s.K) (hj : j < s.h k)
    (hnp : (s.cons k j).pc ≠ .publish) : owedW (stepC s k j) ≤ owedW s :=
  sumTo2_le _ _ _ _ (fun a b _ _ => ow_cons_le s hI k j hk hj hnp a b)

theorem owedW_cons_lt (s : St) (hI : Inv s) (k j : Nat) (hk : k < s.K) (hj : j < s.h k)
    (hnp : (s.cons k j).pc ≠ .publish) (a b : Nat) (ha : a < s.K) (hb : b < s.h a)
    (hlt : ow (stepC s k j) a b < ow s a b) : owedW (stepC s k j) < owedW s :=
  sumTo2_lt _ _ _ _ (fun a' b' _ _ => ow_cons_le s hI k j hk hj hnp a' b') a b ha hb hlt

open Classical in
theorem ow_frame_le (s s' : St) (k j : Nat) (hc : s'.cons = s.cons) (hcursor : s'.cursor = s.cursor)
    (hd : s'.isDone = s.isDone) (hh : s'.h = s.h) (hb : s'.blocking = s.blocking)
    (hw : s'.woken = s.woken ∨ s'.woken = fun _ _ => true) : ow s' k j ≤ ow s k j := by
  have himp : owed s' k j → owed s k j := by
    apply owed_mono s s' k j (by rw [hc]) (by rw [hc]; intros; rfl) hcursor hd hh hb
    rcases hw with h3 | h3
    · rw [h3]; exact id
    · rw [h3]; intro hh; cases hh
  unfold ow
  rw [hc]
  by_cases ho' : owed s' k j
  · simp [ho', himp ho']
  · simp only [ho', if_false]; exact Nat.zero_le _

theorem owedW_frame_le (s s' : St) (hc : s'.cons = s.cons) (hcursor : s'.cursor = s.cursor)
    (hd : s'.isDone = s.isDone) (hK : s'.K = s.K) (hh : s'.h = s.h) (hb : s'.blocking = s.blocking)
    (hw : s'.woken = s.woken ∨ s'.woken = fun _ _ => true) : owedW s' ≤ owedW s := by
  simp only [owedW, hK, hh]
  exact sumTo2_le _ _ _ _ (fun k j _ _ => ow_frame_le s s' k j hc hcursor hd hh hb hw)

theorem owedW_frame_lt (s s' : St) (hc : s'.cons = s.cons) (hcursor : s'.cursor = s.cursor)
    (hd : s'.isDone = s.isDone) (hK : s'.K = s.K) (hh : s'.h = s.h) (hb : s'.blocking = s.blocking)
    (hw : s'.woken = s.woken ∨ s'.woken = fun _ _ => true)
    (k j : Nat) (hk : k < s.K) (hj : j < s.h k) (hlt : ow s' k j < ow s k j) : owedW s' < owedW s := by
  simp only [owedW, hK, hh]
  exact sumTo2_lt _ _ _ _ (fun a b _ _ => ow_frame_le s s' a b hc hcursor hd hh hb hw) k j hk hj hlt

theorem bnd_congr (s s' : St) (hK : s'.K = s.K) (hh : s'.h = s.h) : bnd s' = bnd s := by
  simp only [bnd, hK, hh]

/-! The global measure of the blocking strategy is `(b + 1) * m + o`: `m` the remaining work, `o ≤ b` the outstanding
wake-ups, so that one unit of work outweighs all of them. -/

theorem weighted_lt_of_main {b m m' o o' : Nat} (ho : o' ≤ b) (hm : m' < m) : (b + 1) * m' + o' < (b + 1) * m + o := by
  have := Nat.mul_le_mul_left (b + 1) hm
  rw [Nat.mul_succ] at this
  omega

theorem weighted_lt_of_ow {b m m' o o' : Nat} (hm : m' ≤ m) (ho : o' < o) : (b + 1) * m' + o' < (b + 1) * m + o := by
  have := Nat.mul_le_mul_left (b + 1) hm
  omega

theorem weighted_le {b m m' o o' : Nat} (hb : o' ≤ b) (hm : m' ≤ m) (ho : m' < m ∨ o' ≤ o) :
    (b + 1) * m' + o' ≤ (b + 1) * m + o := by
  rcases ho with ho | ho
  · exact Nat.le_of_lt (weighted_lt_of_main hb ho)
  · have := Nat.mul_le_mul_left (b + 1) hm
    omega

def owedParked (s : St) : Prop :=
  ∃ k j, k < s.K ∧ j < s.h k ∧ (s.cons k j).pc = .bRelock ∧ owed s k j

def readyC (s : St) (k j : Nat) : Prop :=
  match (s.cons k j).pc with
  | .handle | .publish | .bUnlockGo | .bUnlockExit => True
  | .checkAvail => (s.cons k j).next ≤ (s.cons k j).avail ∨ owed s k j
  | .waitLoad => owed s k j ∨
      (condC s k (s.cons k j) ∧ bad (s.cons k j) = false ∧ s.isDone = false)
  | .bWait => owed s k j
  | .bRelock => s.woken k j = true ∧ condCD s k j
  | .sLock | .sNotify => condCD s k j ∨ owedParked s
  | .readOwn | .bLock | .bAlert | .sUnlock | .bUnlockRetry => condCD s k j
  | .checkAlert | .done => False

def cEn (s : St) (k j : Nat) : Bool := enabled { s := s, p := {} } (.cons k j)

open Classical in
theorem ow_notified (s s' : St) (a b : Nat) (hc : s'.cons a b = s.cons a b) (hpa : (s.cons a b).pc = .bRelock)
    (hoa : owed s a b) (hw : s'.woken a b = true) : ow s' a b < ow s a b := by
  have hno : ¬ owed s' a b := by
    intro ⟨_, _, hp⟩
    unfold parkish at hp
    rw [hc, hpa, hw] at hp
    cases hp
  simp [ow, hoa, hno, hpa]

theorem owedParked_congr (s s' : St) (hc : s'.cons = s.cons) (hcursor : s'.cursor = s.cursor)
    (hd : s'.isDone = s.isDone) (hK : s'.K = s.K) (hh : s'.h = s.h) (hb : s'.blocking = s.blocking)
    (hw : s'.woken = s.woken) (hop : owedParked s) : owedParked s' := by
  obtain ⟨a, b, ha, hb', hpa, hoa⟩ := hop
  refine ⟨a, b, by rw [hK]; exact ha, by rw [hh]; exact hb', by rw [hc]; exact hpa, ?_⟩
  rw [owed_congr s s' a b (by rw [hc]) (by rw [hc]; intros; rfl) hcursor hd hh hb (by rw [hw])]
  exact hoa

/-! ## blocking strategy: readiness, rank and obligation read off what the handler observes

`cd` = the handler's wait is over (`condCD`), `dn` = `is_done`, `wk` = its wake-up flag, `op` = somebody is parked and
owed a wake-up. Apart from the handler's record these are all that `readyC`, `rankC` and `ow` read under the blocking
strategy, and a handler step that is not a cursor store keeps `cd` and `dn`. -/

def readyB (cd wk : Bool) (op : Prop) (c : Cons) : Prop :=
  match c.pc with
  | .handle | .publish | .bUnlockGo | .bUnlockExit => True
  | .checkAvail => c.next ≤ c.avail ∨ cd = true
  | .bRelock => wk = true ∧ cd = true
  | .sLock | .sNotify => cd = true ∨ op
  | .checkAlert | .done => False
  | _ => cd = true

/-- upper bound on the handler's own steps until its next progress event or discharged obligation: `nd` dependencies,
`L` bounds what a passage through the wait loop and the events it finds can take -/
def rankB (nd cursor : Nat) (cd dn : Bool) (c : Cons) : Nat :=
  let L := cursor - c.cur + 5
  match c.pc with
  | .publish => 1
  | .handle => c.avail + 3 - c.i
  | .bUnlockGo => c.avail + 4 - c.next
  | .checkAvail => if c.next ≤ c.avail then c.avail + 5 - c.next else 2
  | .waitLoad => if cd && (bad c || dn) then (nd - c.idx) + 3 else (nd - c.idx) + 1 + L
  | .bWait => 1
  | .bUnlockExit => 1
  | .bAlert => if dn then 2 else nd + L + 2
  | .bLock => nd + L + 4
  | .readOwn => nd + L + 5
  | .bUnlockRetry => nd + L + 5
  | .bRelock => nd + L + 6
  | .sUnlock => nd + L + 6
  | .sNotify => if cd then nd + L + 7 else 1
  | .sLock => if cd then nd + L + 8 else 2
  | _ => 0

open Classical in
theorem readyC_iff (s : St) (hblk : s.blocking = true) (k j : Nat) :
    readyC s k j ↔ readyB (decide (condCD s k j)) (s.woken k j) (owedParked s) (s.cons k j) := by
  unfold readyC readyB
  cases hpc : (s.cons k j).pc <;> simp [owed_iff s hblk, parkB, hpc]
  case waitLoad => unfold condCD; cases bad (s.cons k j) <;> cases s.isDone <;> simp
  case checkAvail => by_cases h : (s.cons k j).next ≤ (s.cons k j).avail <;> simp [h, Nat.lt_of_not_le]

open Classical in
noncomputable def rankC (s : St) (k j : Nat) : Nat :=
  rankB (ndeps s k) s.cursor (decide (condCD s k j)) s.isDone (s.cons k j)

open Classical in
theorem cons_ready_of_cond (s : St) (hblk : s.blocking = true) (k j : Nat)
    (hne : (s.cons k j).pc ≠ .checkAlert)
    (hnd : (s.cons k j).pc ≠ .done) (hc : condCD s k j) :
    readyC s k j ∨ ((s.cons k j).pc = .bRelock ∧ owed s k j) := by
  have hcd : decide (condCD s k j) = true := decide_eq_true hc
  rw [readyC_iff s hblk, owed_iff s hblk, hcd]; unfold readyB parkB
  cases hpc : (s.cons k j).pc <;> simp [hpc] at hne hnd ⊢

/-- A ready handler's own enabled step other than its cursor store, over its record: it leaves the loop, an obligation
is discharged or downgraded (its own, or `D` for another handler's), or its rank drops and it stays ready.
`hop`: the step keeps a parked and owed handler so or discharges an obligation; `hsn`: `notify_all` does the latter. -/
theorem own_rankB (s : St) (k j : Nat) (c : Cons) (cd wk' : Bool) (op op' D : Prop) (hblk : s.blocking = true)
    (hci : CInv s k c) (hpos : 0 < ndeps s k) (hcd : cd = true ↔ condC s k c ∨ s.isDone = true)
    (hdepc : ∀ d, d < ndeps s k → dep s k d ≤ s.cursor) (hnp : c.pc ≠ .publish)
    (hm : c.pc = .bLock ∨ c.pc = .sLock ∨ c.pc = .bRelock → s.mtx = none)
    (hop : op → op' ∨ D) (hsn : c.pc = .sNotify → op → D) (hr : readyB cd (s.woken k j) op c) :
    progressC c (stepCons s k j c) ∨ owB cd s.isDone wk' (stepCons s k j c) < owB cd s.isDone (s.woken k j) c ∨ D ∨
      (rankB (ndeps s k) s.cursor cd s.isDone (stepCons s k j c) < rankB (ndeps s k) s.cursor cd s.isDone c ∧
       readyB cd wk' op' (stepCons s k j c)) := by
  obtain ⟨-, h2, -, h4, h5, -, h7, h8, -, h10, -, -, -⟩ := hci
  cases hpc : c.pc <;> simp only [readyB, hpc] at hr
  -- the step only moves the pc, on the way to the wait loop with the wait over
  case readOwn | bUnlockRetry | sUnlock =>
    refine .inr (.inr (.inr ?_))
    simp only [stepCons, hpc, hblk, if_true, rankB, readyB]; exact ⟨by omega, hr⟩
  case bLock =>
    refine .inr (.inr (.inr ?_))
    simp only [stepCons, hpc, hm (.inl hpc), if_true, rankB, readyB]; exact ⟨by split <;> omega, hr⟩
  case bRelock =>
    refine .inr (.inr (.inr ?_))
    simp only [stepCons, hpc, hm (.inr (.inr hpc)), hr.1, and_self, if_true, rankB, readyB]; exact ⟨by omega, hr.2⟩
  case sLock =>
    simp only [stepCons, hpc, hm (.inr (.inl hpc)), if_true, rankB, readyB]
    rcases hr with hc | ho
    · exact .inr (.inr (.inr ⟨by split <;> omega, .inl hc⟩))
    · exact (hop ho).elim (fun ho' => .inr (.inr (.inr ⟨by split <;> omega, .inr ho'⟩))) (fun hD => .inr (.inr (.inl hD)))
  case sNotify =>
    rcases hr with hc | ho
    · refine .inr (.inr (.inr ?_))
      simp only [stepCons, hpc, rankB, readyB, hc, if_true]; exact ⟨by omega, trivial⟩
    · exact .inr (.inr (.inl (hsn hpc ho)))
  case bAlert =>
    refine .inr (.inr (.inr ?_))
    cases hd : s.isDone <;> simp [stepCons, hpc, hd, rankB, readyB, bad, hr] <;> omega
  case waitLoad =>
    have hnx := h8 (by simp [hpc])
    by_cases hlt : c.idx < ndeps s k
    · -- one more load: the stale-snapshot flag stays as it is, unless `is_done` is set
      refine .inr (.inr (.inr ?_))
      have hb : s.isDone = true ∨
          bad { c with pc := .waitLoad, acc := minOpt c.acc (dep s k c.idx), idx := c.idx + 1 } = bad c :=
        (hcd.1 hr).symm.imp_right (bad_load s k c · hlt hnx _)
      simp only [stepCons, hpc, hlt, if_true, rankB, readyB, hr, Bool.true_and]
      refine ⟨?_, trivial⟩
      rcases hb with hb | hb
      · simp [hb]; omega
      · rw [hb]; split <;> omega
    · -- the minimum `m` is complete: events to handle, or off to park; with `is_done` set and events to handle the
      -- obligation is gone
      have hidx : c.idx = ndeps s k := by have := h2 hpc; omega
      obtain ⟨m, hacc⟩ := Option.isSome_iff_exists.1 (h5 hpc (by omega))
      have hmc : m ≤ s.cursor := Nat.le_trans (h4 hpc m hacc 0 (by omega)) (hdepc 0 hpos)
      have e : stepCons s k j c = { c with avail := m, pc := .checkAvail } := by simp [stepCons, hpc, hlt, hacc]
      rw [e]
      simp only [owB, parkB, rankB, readyB, hpc, hr, bad, hacc, Bool.true_and]
      by_cases hmn : c.next ≤ m
      · cases hd : s.isDone
        · exact .inr (.inr (.inr ⟨by simp [hmn, Nat.not_lt.2 hmn]; omega, .inl hmn⟩))
        · exact .inr (.inl (by simp [Nat.not_lt.2 hmn]))
      · exact .inr (.inr (.inr ⟨by simp [hmn, Nat.lt_of_not_le hmn], .inr trivial⟩))
  case checkAvail =>
    refine .inr (.inr (.inr ?_))
    by_cases ha : c.next ≤ c.avail
    · simp only [stepCons, hpc, hblk, ge_iff_le, ha, if_true, rankB, readyB]; exact ⟨by omega, trivial⟩
    · simp only [stepCons, hpc, hblk, ge_iff_le, ha, if_false, if_true, rankB, readyB]
      exact ⟨by omega, hr.resolve_left ha⟩
  case bUnlockGo =>
    have := h7 (by simp [hpc])
    refine .inr (.inr (.inr ?_))
    simp only [stepCons, hpc, rankB, readyB]; exact ⟨by omega, trivial⟩
  case bWait =>
    -- parked: the obligation is downgraded
    refine .inr (.inl ?_)
    simp only [stepCons, hpc, owB, parkB, hr, Bool.true_and]; split <;> simp
  case bUnlockExit => exact .inl (.inr (by simp [stepCons, hpc]))
  case handle =>
    refine .inr (.inr (.inr ?_))
    by_cases hle : c.i ≤ c.avail
    · simp only [stepCons, hpc, hle, if_true, rankB, readyB]; exact ⟨by omega, trivial⟩
    · have := h10 hpc
      simp only [stepCons, hpc, hle, if_false, rankB, readyB]; exact ⟨by omega, trivial⟩
  case publish => exact absurd hpc hnp

theorem readyB_mono (cd wk wk' : Bool) (op op' : Prop) (c : Cons) (hw : wk = true → wk' = true) (hop : op → op')
    (hr : readyB cd wk op c) : readyB cd wk' op' c := by
  unfold readyB at hr ⊢
  cases hpc : c.pc <;> simp only [hpc] at hr ⊢ <;> first | exact hr | exact hr.imp id hop | exact ⟨hw hr.1, hr.2⟩

open Classical in
theorem cons_frame (s s' : St) (hblk : s.blocking = true) (k j : Nat) (hcj : s'.cons k j = s.cons k j)
    (hcur : ∀ a b, (s'.cons a b).cur = (s.cons a b).cur) (hcursor : s'.cursor = s.cursor)
    (hd : s'.isDone = s.isDone) (hh : s'.h = s.h) (hb : s'.blocking = s.blocking)
    (hw : s.woken k j = true → s'.woken k j = true)
    (hop : owedParked s → owedParked s')
    (hr : readyC s k j) : rankC s' k j = rankC s k j ∧ readyC s' k j := by
  have hcd : condCD s' k j = condCD s k j := by
    unfold condCD; rw [hcj, hd]; exact propext (by rw [condC_congr s s' k _ hcur hcursor hh])
  have hnd : ndeps s' k = ndeps s k := by simp [ndeps, hh]
  refine ⟨by unfold rankC; rw [hcj, hnd, hcursor, hcd, hd], ?_⟩
  rw [readyC_iff s' (hb ▸ hblk), hcj, hcd]
  exact readyB_mono _ _ _ _ _ _ hw hop ((readyC_iff s hblk k j).1 hr)

theorem notify_discharges (s : St) (k j : Nat) (hsn : (s.cons k j).pc = .sNotify) (hop : owedParked s) :
    ∃ a b, a < s.K ∧ b < s.h a ∧ ow (stepC s k j) a b < ow s a b := by
  obtain ⟨a, b, ha, hb, hpa, hoa⟩ := hop
  have hne : ¬(a = k ∧ b = j) := by rintro ⟨rfl, rfl⟩; rw [hsn] at hpa; cases hpa
  exact ⟨a, b, ha, hb,
    ow_notified s _ a b (stepC_other _ _ _ _ _ hne) hpa hoa (by simp [stepC_woken, wokenAfterC, hsn])⟩

open Classical in
theorem owedParked_cons_step (s : St) (k j : Nat)
    (hnp : (s.cons k j).pc ≠ .publish) (hop : owedParked s) :
    owedParked (stepC s k j) ∨ ∃ a b, a < s.K ∧ b < s.h a ∧ ow (stepC s k j) a b < ow s a b := by
  by_cases hsn : (s.cons k j).pc = .sNotify
  · exact Or.inr (notify_discharges s k j hsn hop)
  obtain ⟨a, b, ha, hb, hpa, hoa⟩ := hop
  have hcur := cons_cur_nonpublish s k j _ hnp
  left
  by_cases he : a = k ∧ b = j
  · -- the parked handler itself: its step is a stutter
    obtain ⟨rfl, rfl⟩ := he
    have hw : s.woken a b = false := by
      have := hoa.2.2; unfold parkish at this; rw [hpa] at this; exact this
    have : stepC s a b = s := stepC_stutter s a b (by simp [hpa, hw])
    rw [this]; exact ⟨a, b, ha, hb, hpa, hoa⟩
  · refine ⟨a, b, ha, hb, ?_, ?_⟩
    · show ((stepC s k j).cons a b).pc = .bRelock
      rw [stepC_other _ _ _ _ _ he]; exact hpa
    · rw [owed_congr s (stepC s k j) a b (stepC_other _ _ _ _ _ he) (stepC_cur_same s k j hcur) rfl rfl rfl rfl
        (by rw [stepC_woken]; exact woken_other_eq s k j a b he hsn)]
      exact hoa

/-- the three kinds of progress of a handler step: a progress event of the handler (cursor store or exit), a wake-up
obligation that is discharged or downgraded (by a step that is not a cursor store), or a smaller rank -/
def Drop (s : St) (k j : Nat) : Prop :=
  progressC (s.cons k j) (stepCons s k j (s.cons k j)) ∨
  ((s.cons k j).pc ≠ .publish ∧ ∃ a b, a < s.K ∧ b < s.h a ∧ ow (stepC s k j) a b < ow s a b)

open Classical in
theorem hown_cons (s : St) (hI : Inv s) (hblk : s.blocking = true) (k j : Nat) (hk : k < s.K) (hj : j < s.h k)
    (hr : readyC s k j) (he : cEn s k j = true) :
    Drop s k j ∨ (rankC (stepC s k j) k j < rankC s k j ∧ readyC (stepC s k j) k j) := by
  by_cases hpub : (s.cons k j).pc = .publish
  · exact Or.inl (Or.inl (publish_progress s k j hk hj hI hpub))
  -- every other step keeps the handler's cursor, hence its wait condition
  have e := stepC_own s k j
  have hd : decide (condCD (stepC s k j) k j) = decide (condCD s k j) := decide_eq_decide.2 (condCD_stepC s k j hpub)
  have hm : (s.cons k j).pc = .bLock ∨ (s.cons k j).pc = .sLock ∨ (s.cons k j).pc = .bRelock → s.mtx = none := by
    unfold cEn enabled at he; rintro (h | h | h) <;> simp [h] at he <;> simp [he]
  have hb' : (stepC s k j).blocking = true := hblk
  rw [readyC_iff _ hb']; unfold rankC; rw [hd, e]
  rcases own_rankB s k j (s.cons k j) (decide (condCD s k j)) ((stepC s k j).woken k j) (owedParked s)
      (owedParked (stepC s k j)) (∃ a b, a < s.K ∧ b < s.h a ∧ ow (stepC s k j) a b < ow s a b)
      hblk (hI.2 k j hk hj) (ndeps_pos s hI.1 k hk) decide_eq_true_iff (Spin.dep_le_cursor s hI k hk) hpub hm
      (owedParked_cons_step s k j hpub) (notify_discharges s k j) ((readyC_iff s hblk k j).1 hr)
    with hp | ho | hD | h
  · exact .inl (.inl hp)
  · refine .inl (.inr ⟨hpub, k, j, hk, hj, ?_⟩); rw [ow_eq _ hb', ow_eq s hblk, hd, e]; exact ho
  · exact .inl (.inr ⟨hpub, hD⟩)
  · exact .inr h

open Classical in
theorem owedParked_frame (s s' : St) (hc : s'.cons = s.cons) (hcursor : s'.cursor = s.cursor)
    (hd : s'.isDone = s.isDone) (hK : s'.K = s.K) (hh : s'.h = s.h) (hb : s'.blocking = s.blocking)
    (hw : s'.woken = s.woken ∨ s'.woken = fun _ _ => true) (hop : owedParked s) :
    owedParked s' ∨ ∃ a b, a < s.K ∧ b < s.h a ∧ ow s' a b < ow s a b := by
  rcases hw with h3 | h3
  · exact Or.inl (owedParked_congr s s' hc hcursor hd hK hh hb h3 hop)
  · obtain ⟨a, b, ha, hb', hpa, hoa⟩ := hop
    exact Or.inr ⟨a, b, ha, hb', ow_notified s s' a b (by rw [hc]) hpa hoa (by rw [h3])⟩

theorem hen_cons (s : St) (k j : Nat) (hr : readyC s k j) (hf : s.mtx = none) : cEn s k j = true := by
  unfold readyC at hr
  unfold cEn
  cases hpc : (s.cons k j).pc <;> simp_all [enabled]

theorem stutter_cons (s : St) (k j : Nat) (he : cEn s k j = false) : stepC s k j = s :=
  stepC_stutter s k j he

end CS

/-- the handlers' side of mutual exclusion and ownership (`MInv`, `RingMulti.XInv`): what they say about `St` alone -/
structure HInv (s : St) : Prop where
  spinM : s.blocking = false → s.mtx = none
  spinC : s.blocking = false → ∀ k j, k < s.K → j < s.h k → Spin.cSpin (s.cons k j).pc = true
  blkC  : s.blocking = true → ∀ k j, k < s.K → j < s.h k →
            ((cHold (s.cons k j).pc = true ↔ s.mtx = some (.cons k j)) ∧ (s.cons k j).pc ≠ .checkAlert)
  owner : ∀ k j, s.mtx = some (.cons k j) → k < s.K ∧ j < s.h k
  consDone : ∀ k j, k < s.K → j < s.h k → ((s.cons k j).pc = .done ∨ (s.cons k j).pc = .bUnlockExit) → s.isDone = true

theorem hinv_stepC (s : St) (k j : Nat) (hk : k < s.K) (hj : j < s.h k) (h : HInv s) :
    HInv (stepC s k j) ∧ ((stepC s k j).mtx = some .prod ↔ s.mtx = some .prod) := by
  -- the mutex after the step: untouched, taken by `(k, j)` when free, or released by `(k, j)`
  have hmtx : mtxAfterC s k j = s.mtx ∨ (s.mtx = none ∧ mtxAfterC s k j = some (.cons k j)) ∨
      (s.mtx = some (.cons k j) ∧ mtxAfterC s k j = none) := by
    cases hb : s.blocking
    · exact Or.inl (((cons_spin_step s k j hb (h.spinM hb) (h.spinC hb k j hk hj)).2).trans (h.spinM hb).symm)
    · obtain ⟨a1, a2⟩ := h.blkC hb k j hk hj
      exact (cons_mtx_step s k j hb a1 a2).2.2
  have hoth : ∀ k' j', ¬(k' = k ∧ j' = j) →
      (mtxAfterC s k j = some (.cons k' j') ↔ s.mtx = some (.cons k' j')) := by
    intro k' j' he
    have hne : Tid.cons k j ≠ Tid.cons k' j' := by
      intro h; injection h with h1 h2; exact he ⟨h1.symm, h2.symm⟩
    rcases hmtx with e | ⟨e1, e2⟩ | ⟨e1, e2⟩
    · rw [e]
    · rw [e1, e2]; simp [hne]
    · rw [e1, e2]; simp [hne]
  refine ⟨⟨fun hb => (cons_spin_step s k j hb (h.spinM hb) (h.spinC hb k j hk hj)).2, ?_, ?_, ?_, ?_⟩, ?_⟩
  · intro hb k' j' hk' hj'
    by_cases he : k' = k ∧ j' = j
    · obtain ⟨rfl, rfl⟩ := he
      rw [stepC_own]; exact (cons_spin_step s k' j' hb (h.spinM hb) (h.spinC hb k' j' hk hj)).1
    · rw [stepC_other _ _ _ _ _ he]; exact h.spinC hb k' j' hk' hj'
  · intro hb k' j' hk' hj'
    have hb' : s.blocking = true := hb
    by_cases he : k' = k ∧ j' = j
    · obtain ⟨rfl, rfl⟩ := he
      obtain ⟨a1, a2⟩ := h.blkC hb' k' j' hk hj
      obtain ⟨c1, c2, _⟩ := cons_mtx_step s k' j' hb' a1 a2
      rw [stepC_own, stepC_mtx]; exact ⟨c1, c2⟩
    · rw [stepC_other _ _ _ _ _ he, stepC_mtx, hoth k' j' he]
      exact h.blkC hb' k' j' hk' hj'
  · intro k' j' hm
    show k' < s.K ∧ j' < s.h k'
    rw [stepC_mtx] at hm
    by_cases he : k' = k ∧ j' = j
    · rw [he.1, he.2]; exact ⟨hk, hj⟩
    · exact h.owner k' j' ((hoth k' j' he).1 hm)
  · intro k' j' hk' hj' hpc
    show s.isDone = true
    by_cases he : k' = k ∧ j' = j
    · obtain ⟨rfl, rfl⟩ := he
      rw [stepC_own] at hpc
      rcases cons_done_step s k' j' hpc with h1 | h1 | h1
      · exact h.consDone k' j' hk hj (Or.inl h1)
      · exact h.consDone k' j' hk hj (Or.inr h1)
      · exact h1
    · rw [stepC_other _ _ _ _ _ he] at hpc
      exact h.consDone k' j' hk' hj' hpc
  · rw [stepC_mtx]
    rcases hmtx with e | ⟨e1, e2⟩ | ⟨e1, e2⟩
    · rw [e]
    · rw [e1, e2]; simp
    · rw [e1, e2]; simp

/-- whoever notifies owns the mutex: afterwards no other handler is parked or on its way to park -/
theorem not_parkish_after_notify (s : St) (hH : HInv s) (hb : s.blocking = true) (t : Tid) (hm : s.mtx = some t)
    (s' : St) (k j : Nat) (hk : k < s.K) (hj : j < s.h k) (hne : t ≠ .cons k j) (hc : s'.cons k j = s.cons k j)
    (hw : s'.woken k j = true) : ¬ parkish s' k j := by
  intro hp
  rcases parkish_hold hp with hh | ⟨_, hw'⟩
  · rw [hc] at hh
    have := ((hH.blkC hb k j hk hj).1).1 hh
    rw [hm] at this; injection this with this; exact hne this
  · rw [hw] at hw'; cases hw'

/-- the handlers' side of no lost wake-up (`NInv`, `RingMulti.NInvM`): an owed handler has a notifier on the producer side (`pp`) or among the handlers -/
def NInvH (s : St) (pp : Prop) : Prop :=
  ∀ k j, k < s.K → j < s.h k → owed s k j → pp ∨ ∃ a b, a < s.K ∧ b < s.h a ∧ cPend (s.cons a b).pc = true

theorem ninvH_stepC (s : St) (k j : Nat) (hk : k < s.K) (hj : j < s.h k) (hI : Inv s) (hH : HInv s) (pp : Prop)
    (hN : NInvH s pp) : NInvH (stepC s k j) pp := by
  intro k' j' hk' hj' ho
  change k' < s.K at hk'
  change j' < s.h k' at hj'
  have hb : s.blocking = true := ho.1
  rcases cons_nlw_cases s k j hb with h | ⟨h1, h2⟩ | ⟨h1, h2, h3⟩
  · exact Or.inr ⟨k, j, hk, hj, by rw [stepC_own]; exact h⟩
  · -- `(k, j)` notifies under the mutex: nobody is owed anything afterwards
    exfalso
    have hm : s.mtx = some (.cons k j) := ((hH.blkC hb k j hk hj).1).1 (by simp [h1, cHold])
    obtain ⟨_, _, hp⟩ := ho
    by_cases he : k' = k ∧ j' = j
    · obtain ⟨rfl, rfl⟩ := he
      unfold parkish at hp
      rw [stepC_own] at hp
      simp [stepCons, h1] at hp
    · exact not_parkish_after_notify s hH hb _ hm (stepC s k j) k' j' hk' hj'
        (fun e => by injection e with e1 e2; exact he ⟨e1.symm, e2.symm⟩) (stepC_other _ _ _ _ _ he)
        (by rw [stepC_woken, h2]) hp
  · have hcurs : ∀ a b, ((stepC s k j).cons a b).cur = (s.cons a b).cur :=
      CS.stepC_cur_same s k j (Blk.cons_cur_nonpublish s k j _ h2)
    have ho' : owed s k' j' := by
      by_cases he : k' = k ∧ j' = j
      · obtain ⟨rfl, rfl⟩ := he
        exact CS.ow_pos.1 (Nat.lt_of_lt_of_le (CS.ow_pos.2 ho) (CS.ow_cons_le s hI k' j' hk hj h2 k' j'))
      · obtain ⟨_, hc, hp⟩ := ho
        refine ⟨hb, ?_, ?_⟩
        · rw [condC_congr s (stepC s k j) k' _ hcurs rfl rfl, stepC_other _ _ _ _ _ he] at hc
          exact hc
        · unfold parkish at hp ⊢
          rw [stepC_other _ _ _ _ _ he, stepC_woken, h3 k' j' he] at hp
          exact hp
    rcases hN k' j' hk' hj' ho' with hp | ⟨a, b, ha, hb', hc⟩
    · exact Or.inl hp
    · refine Or.inr ⟨a, b, ha, hb', ?_⟩
      by_cases he : a = k ∧ b = j
      · obtain ⟨rfl, rfl⟩ := he; rw [h1] at hc; cases hc
      · rw [stepC_other _ _ _ _ _ he]; exact hc

end Ring
