import DcVerif.Model.Ring
/-!
Inductive invariants of the single-producer pipeline (`Model/Ring.lean`), for **every** ring size, stage/handler
topology, batch list, wait strategy and schedule.

Proof pattern: a *local* invariant per thread whose clauses are of the form "local observation ≤ current global
counter" or relate locals to each other; (1) the thread's own step preserves it, (2) it is stable under growth of the
counters it mentions, (3) every step of every thread only grows counters. The mutex / wake-up state of the blocking
strategy occurs in no clause, so lock, unlock, wait and notify steps only move program counters.
-/
namespace Ring

structure CInv (s : St) (k : Nat) (c : Cons) : Prop where
  curDep  : ∀ d, d < ndeps s k → c.cur ≤ dep s k d
  idxLe   : c.pc = .waitLoad → c.idx ≤ ndeps s k
  accNone : c.pc = .waitLoad → c.idx = 0 → c.acc = none
  accLe   : c.pc = .waitLoad → ∀ m, c.acc = some m → ∀ d, d < c.idx → m ≤ dep s k d
  accSome : c.pc = .waitLoad → 0 < c.idx → c.acc.isSome
  availLe : (c.pc = .checkAvail ∨ c.pc = .bUnlockGo ∨ c.pc = .handle ∨ c.pc = .publish) →
              ∀ d, d < ndeps s k → c.avail ≤ dep s k d
  curAvail: (c.pc = .bUnlockGo ∨ c.pc = .handle ∨ c.pc = .publish) → c.cur < c.next ∧ c.next ≤ c.avail
  nextEq  : (c.pc = .bLock ∨ c.pc = .bAlert ∨ c.pc = .waitLoad ∨ c.pc = .checkAvail ∨ c.pc = .checkAlert ∨
             c.pc = .bUnlockGo ∨ c.pc = .bWait ∨ c.pc = .bRelock ∨ c.pc = .bUnlockRetry ∨ c.pc = .handle ∨
             c.pc = .publish) → c.next = c.cur + 1
  iGe     : c.pc = .handle → c.next ≤ c.i
  iLe     : c.pc = .handle → c.i ≤ c.avail + 1
  logH    : c.pc = .handle → c.log = List.range' 1 (c.i - 1)
  logP    : c.pc = .publish → c.log = List.range' 1 c.avail
  logO    : c.pc ≠ .handle → c.pc ≠ .publish → c.log = List.range' 1 c.cur

def Inv (s : St) : Prop :=
  (∀ k, k < s.K → 0 < s.h k) ∧ ∀ k j, k < s.K → j < s.h k → CInv s k (s.cons k j)

theorem ndeps_pos (s : St) (hp : ∀ k, k < s.K → 0 < s.h k) (k : Nat) (hk : k < s.K) : 0 < ndeps s k := by
  unfold ndeps; split
  · omega
  · apply hp; omega

theorem minOpt_le (a : Option Nat) (v m : Nat) (h : minOpt a v = some m) :
    m ≤ v ∧ ∀ m0, a = some m0 → m ≤ m0 := by
  cases a with
  | none => simp [minOpt] at h; subst h; simp
  | some m0 =>
    simp [minOpt] at h; subst h
    exact ⟨Nat.min_le_right _ _, by intro m1 h1; cases h1; exact Nat.min_le_left _ _⟩

theorem minOpt_isSome (a : Option Nat) (v : Nat) : (minOpt a v).isSome := by
  cases a <;> simp [minOpt]

/-! ### the running minimum of `get_min_cursor_sequence`

The loop loads `g 0, …, g (n-1)` and keeps their minimum in `acc`; every user (`dep s k` for a handler, `gate s` for the
sequencers) carries the same two loop clauses `h3`, `h4`. -/

theorem minOpt_step_le_of_le (g : Nat → Nat) (acc : Option Nat) (idx v : Nat)
    (h3 : ∀ m, acc = some m → ∀ d, d < idx → m ≤ g d) (h4 : 0 < idx → acc.isSome) (hv : v ≤ g idx) :
    ∀ m, minOpt acc v = some m → ∀ d, d < idx + 1 → m ≤ g d := by
  intro m hm d hd
  have hle := minOpt_le _ _ _ hm
  by_cases hdi : d < idx
  · cases hacc : acc with
    | none => have := h4 (by omega); simp [hacc] at this
    | some m0 => exact Nat.le_trans (hle.2 m0 hacc) (h3 m0 hacc d hdi)
  · have : d = idx := by omega
    subst this; exact Nat.le_trans hle.1 hv

theorem minOpt_step_le (g : Nat → Nat) (acc : Option Nat) (idx : Nat)
    (h3 : ∀ m, acc = some m → ∀ d, d < idx → m ≤ g d) (h4 : 0 < idx → acc.isSome) :
    ∀ m, minOpt acc (g idx) = some m → ∀ d, d < idx + 1 → m ≤ g d :=
  minOpt_step_le_of_le g acc idx _ h3 h4 (Nat.le_refl _)

theorem minOpt_done_le (g : Nat → Nat) (acc : Option Nat) (idx n : Nat)
    (h3 : ∀ m, acc = some m → ∀ d, d < idx → m ≤ g d) (h4 : 0 < idx → acc.isSome)
    (hidx : n ≤ idx) (hpos : 0 < n) : ∀ d, d < n → acc.getD 0 ≤ g d := by
  intro d hd
  cases hacc : acc with
  | none => have := h4 (by omega); simp [hacc] at this
  | some m => exact h3 m hacc d (by omega)

theorem minOpt_any (p : Nat → Bool) (hdown : ∀ a b, a ≤ b → p b = true → p a = true) (acc : Option Nat) (v : Nat)
    (hv : p v = false) : (minOpt acc v).any p = acc.any p := by
  cases acc with
  | none => simp [minOpt, hv]
  | some m =>
    show p (min m v) = p m
    rcases Nat.le_total m v with h | h
    · rw [Nat.min_eq_left h]
    · rw [Nat.min_eq_right h, hv]
      cases hm : p m
      · rfl
      · rw [hdown v m h hm] at hv; cases hv

/-- the stale-snapshot flag of a load loop: the running minimum fails the test `T ≤ · + o` it is put to after the loop -/
def stale (T o : Nat) (acc : Option Nat) : Bool := acc.any (fun m => decide (m + o < T))

theorem stale_minOpt (T o v : Nat) (hv : T ≤ v + o) (acc : Option Nat) : stale T o (minOpt acc v) = stale T o acc :=
  minOpt_any _ (fun a b hab => by simp; omega) _ _ (by simp; omega)

theorem range_snoc (i : Nat) (hi : 1 ≤ i) : List.range' 1 (i - 1) ++ [i] = List.range' 1 (i + 1 - 1) := by
  have : i + 1 - 1 = (i - 1) + 1 := by omega
  rw [this, List.range'_concat]; congr 2; omega

/-- pcs at which no clause of `CInv` but `curDep`, `nextEq` and `logO` has a true guard -/
def CPc.quiet : CPc → Bool
  | .waitLoad | .checkAvail | .bUnlockGo | .handle | .publish => false
  | _ => true

/-- the guard of `CInv.nextEq` -/
def CPc.waiting : CPc → Bool
  | .bLock | .bAlert | .waitLoad | .checkAvail | .checkAlert | .bUnlockGo | .bWait | .bRelock | .bUnlockRetry
  | .handle | .publish => true
  | _ => false

theorem cinv_quiet {s : St} {k : Nat} {c : Cons} (p' : CPc) (hq : p'.quiet = true)
    (curDep : ∀ d, d < ndeps s k → c.cur ≤ dep s k d) (nextEq : p'.waiting = true → c.next = c.cur + 1)
    (logO : c.log = List.range' 1 c.cur) : CInv s k { c with pc := p' } := by
  have g1 : p' ≠ .waitLoad := by rintro rfl; cases hq
  have g2 : p' ≠ .checkAvail := by rintro rfl; cases hq
  have g3 : p' ≠ .bUnlockGo := by rintro rfl; cases hq
  have g4 : p' ≠ .handle := by rintro rfl; cases hq
  have g5 : p' ≠ .publish := by rintro rfl; cases hq
  constructor <;> simp only [g1, g2, g3, g4, g5, or_self, false_or, or_false, false_implies]
  · exact curDep
  · intro h; apply nextEq
    rcases h with h | h | h | h | h | h <;> rw [h] <;> rfl
  · intro _ _; exact logO

theorem cinv_waitLoad {s : St} {k : Nat} {c : Cons}
    (curDep : ∀ d, d < ndeps s k → c.cur ≤ dep s k d) (nextEq : c.next = c.cur + 1)
    (logO : c.log = List.range' 1 c.cur) : CInv s k { c with pc := .waitLoad, acc := none, idx := 0 } := by
  constructor <;> grind

theorem cinv_load {s : St} {k : Nat} {c : Cons} (hc : CInv s k c) (hpc : c.pc = .waitLoad) (hlt : c.idx < ndeps s k) :
    CInv s k { c with acc := minOpt c.acc (dep s k c.idx), idx := c.idx + 1 } :=
  { hc with
    idxLe := fun _ => hlt
    accNone := fun _ h => absurd h (Nat.succ_ne_zero _)
    accLe := fun _ => minOpt_step_le (dep s k) c.acc c.idx (hc.accLe hpc) (hc.accSome hpc)
    accSome := fun _ _ => minOpt_isSome _ _ }

/-- The guards of the clauses are decided once per pc; a blocked
`lock` is a stutter, a step into a quiet pc is an instance of `cinv_quiet`, and only the steps that compute (`waitLoad`,
`checkAvail` when it goes on, `bUnlockGo`, `handle`) are checked clause by clause. -/
theorem own_step (s : St) (k j : Nat) (hk : k < s.K) (hI : Inv s)
    (c : Cons) (hc : CInv s k c) : CInv s k (stepCons s k j c) := by
  have hpos := ndeps_pos s hI.1 k hk
  have ⟨h1, h2, h3, h4, h5, h6, h7, h8, h9, h10, h11, h12, h13⟩ := hc
  cases hpc : c.pc <;> simp only [stepCons, hpc] <;>
    simp only [hpc, reduceCtorEq, or_false, or_true, false_implies, forall_const, ne_eq, not_false_eq_true,
      not_true_eq_false] at h2 h3 h4 h5 h6 h7 h8 h9 h10 h11 h12 h13
  case readOwn =>
    split
    · exact cinv_quiet (c := { c with next := c.cur + 1 }) .bLock rfl h1 (fun _ => rfl) h13
    · exact cinv_waitLoad (c := { c with next := c.cur + 1 }) h1 rfl h13
  case bLock =>
    split
    · exact cinv_quiet _ rfl h1 (fun _ => h8) h13
    · exact hc
  case bAlert =>
    split
    · exact cinv_quiet _ rfl h1 nofun h13
    · exact cinv_waitLoad h1 h8 h13
  case waitLoad =>
    split
    · simpa only [hpc] using cinv_load hc hpc ‹_›
    · have := minOpt_done_le (dep s k) c.acc c.idx _ h4 h5 (by omega) hpos
      constructor <;> (try simp) <;> grind
  case checkAvail =>
    split <;> split
    · constructor <;> (try simp) <;> grind
    · constructor <;> (try simp) <;> grind
    · exact cinv_quiet _ rfl h1 (fun _ => h8) h13
    · exact cinv_quiet _ rfl h1 (fun _ => h8) h13
  case checkAlert =>
    split
    · exact cinv_quiet _ rfl h1 nofun h13
    · exact cinv_waitLoad h1 h8 h13
  case bUnlockGo => constructor <;> (try simp) <;> grind
  case bWait => exact cinv_quiet _ rfl h1 (fun _ => h8) h13
  case bRelock =>
    split
    · exact cinv_quiet _ rfl h1 (fun _ => h8) h13
    · exact hc
  case bUnlockRetry => exact cinv_quiet _ rfl h1 (fun _ => h8) h13
  case bUnlockExit => exact cinv_quiet _ rfl h1 nofun h13
  case handle =>
    split
    · have := range_snoc c.i (by omega)
      constructor <;> (try simp) <;> grind
    · constructor <;> (try simp) <;> grind
  case publish =>
    refine cinv_quiet (c := { c with cur := c.avail }) _ (by split <;> rfl) h6 (by split <;> nofun) h12
  case sLock =>
    split
    · exact cinv_quiet _ rfl h1 nofun h13
    · exact hc
  case sNotify => exact cinv_quiet _ rfl h1 nofun h13
  case sUnlock => exact cinv_quiet _ rfl h1 nofun h13
  case done => exact hc

theorem stepCons_cur (s : St) (k j : Nat) (c : Cons) :
    (stepCons s k j c).cur = if c.pc = .publish then c.avail else c.cur := by
  cases hpc : c.pc <;> simp only [stepCons, hpc, reduceCtorEq, ite_false, ite_true] <;> (repeat' split) <;> rfl

theorem cur_mono (s : St) (k j : Nat) (c : Cons) (hc : CInv s k c) : c.cur ≤ (stepCons s k j c).cur := by
  rw [stepCons_cur]; split
  · have := hc.curAvail (.inr (.inr ‹_›)); omega
  · exact Nat.le_refl _

theorem stepC_cons (s : St) (k j : Nat) :
    (stepC s k j).cons = upd s.cons k j (stepCons s k j (s.cons k j)) := rfl
theorem stepC_mtx (s : St) (k j : Nat) : (stepC s k j).mtx = mtxAfterC s k j := rfl
theorem stepC_woken (s : St) (k j : Nat) : (stepC s k j).woken = wokenAfterC s k j := rfl
theorem stepC_own (s : St) (k j : Nat) : (stepC s k j).cons k j = stepCons s k j (s.cons k j) := by
  simp [stepC, upd]
theorem stepC_other (s : St) (k j k' j' : Nat) (h : ¬(k' = k ∧ j' = j)) : (stepC s k j).cons k' j' = s.cons k' j' := by
  simp [stepC, upd, h]

theorem stepC_fields (s : St) (k j : Nat) :
    (stepC s k j).n = s.n ∧ (stepC s k j).K = s.K ∧ (stepC s k j).h = s.h ∧ (stepC s k j).cursor = s.cursor ∧
    (stepC s k j).isDone = s.isDone ∧ (stepC s k j).blocking = s.blocking := ⟨rfl, rfl, rfl, rfl, rfl, rfl⟩

theorem dep_mono_stepC (s : St) (k j : Nat) (hk : k < s.K) (hj : j < s.h k) (hI : Inv s) (k' d : Nat) :
    dep s k' d ≤ dep (stepC s k j) k' d := by
  unfold dep
  rw [stepC_cons]; unfold upd
  by_cases h0 : k' = 0
  · simp [h0, stepC]
  · simp only [h0, if_false]
    by_cases hh : k' - 1 = k ∧ d = j
    · simp only [hh, and_self, if_true]
      exact cur_mono s k j _ (hI.2 k j hk hj)
    · simp only [hh, if_false]; exact Nat.le_refl _

theorem cinv_stable (s s' : St) (k : Nat) (c : Cons) (hc : CInv s k c)
    (hn : ndeps s' k = ndeps s k) (hm : ∀ d, dep s k d ≤ dep s' k d) : CInv s' k c := by
  obtain ⟨h1, h2, h3, h4, h5, h6, h7, h8, h9, h10, h11, h12, h13⟩ := hc
  constructor
  · intro d hd; exact Nat.le_trans (h1 d (by omega)) (hm d)
  · grind
  · grind
  · intro hp m hmm d hd; exact Nat.le_trans (h4 hp m hmm d hd) (hm d)
  · grind
  · intro hp d hd; exact Nat.le_trans (h6 hp d (by omega)) (hm d)
  all_goals grind

/-- a consumer's step keeps `Inv`: `own_step` gives the stepped handler's `CInv` relative to the pre-state `s`;
`cinv_stable` carries it, and every other handler's `CInv`, over to `stepC s k j`, whose dependency cursors are no smaller -/
theorem inv_stepC (s : St) (k j : Nat) (hk : k < s.K) (hj : j < s.h k) (hI : Inv s) : Inv (stepC s k j) := by
  refine ⟨hI.1, ?_⟩
  intro k' j' hk' hj'
  have hown := own_step s k j hk hI (s.cons k j) (hI.2 k j hk hj)
  have hn : ∀ k'', ndeps (stepC s k j) k'' = ndeps s k'' := by intro k''; rfl
  have hm : ∀ k'' d, dep s k'' d ≤ dep (stepC s k j) k'' d := fun k'' d => dep_mono_stepC s k j hk hj hI k'' d
  by_cases he : k' = k ∧ j' = j
  · obtain ⟨rfl, rfl⟩ := he
    rw [stepC_own]
    exact cinv_stable s _ k' _ hown (hn k') (hm k')
  · rw [stepC_other s k j k' j' he]
    exact cinv_stable s _ k' _ (hI.2 k' j' hk' hj') (hn k') (hm k')

/-- pcs at which the producer is between two `write` calls or draining: the published cursor accounts for
everything claimed -/
def PPc.idle : PPc → Bool
  | .start | .pLock | .pNotify | .pUnlock | .drainInit | .drainLoad | .drainCheck | .dLock | .dNotify | .dUnlock
  | .setDone | .eLock | .eNotify | .eUnlock | .dropDone | .fLock | .fNotify | .fUnlock | .done => true
  | _ => false

/-- pcs from the first gating-sequence load of `drain` on: `current` holds `next_write_sequence.saturating_sub(1)` -/
def PPc.draining : PPc → Bool
  | .drainLoad | .drainCheck | .dLock | .dNotify | .dUnlock
  | .setDone | .eLock | .eNotify | .eUnlock | .dropDone | .fLock | .fNotify | .fUnlock | .done => true
  | _ => false

/-- pcs after `drain`'s loop has ended: every gating sequence has reached the last claimed sequence -/
def PPc.drained : PPc → Bool
  | .setDone | .eLock | .eNotify | .eUnlock | .dropDone | .fLock | .fNotify | .fUnlock | .done => true
  | _ => false

/-- `Tiles a cs b`: the claimed ranges `cs`, in claim order, partition `[a, b)` into consecutive non-empty ranges, each
of exactly the requested length -/
inductive Tiles : Nat → List (Nat × Nat × Nat) → Nat → Prop
  | nil (a) : Tiles a [] a
  | cons {a lo hi cnt rest b} : lo = a → 1 ≤ cnt → hi + 1 = lo + cnt → Tiles (hi + 1) rest b →
      Tiles a ((lo, hi, cnt) :: rest) b

theorem Tiles.snoc {a b : Nat} {cs : List (Nat × Nat × Nat)} (h : Tiles a cs b) (hi cnt : Nat)
    (hc : 1 ≤ cnt) (he : hi + 1 = b + cnt) : Tiles a (cs ++ [(b, hi, cnt)]) (hi + 1) := by
  induction h with
  | nil a => exact Tiles.cons rfl hc he (Tiles.nil _)
  | cons h1 h2 h3 _ ih => exact Tiles.cons h1 h2 h3 (ih he)

/-- The second disjunct `s.cursor = 0 ∧ … = 0` in `nw`, `claim`, `wr` is the initial state: `cursor` and
`next_write_sequence` both start at 0 (`SingleProducerSequencer::new`), so sequence 0 is the first one claimed although the
cursor already reads 0; from the first `publish` on, the next sequence to claim is `cursor + 1`. -/
structure PInv (s : St) (p : Prod) : Prop where
  minLe    : ∀ d, d < ngate s → p.min ≤ gate s d
  cachedLe : ∀ d, d < ngate s → p.cached ≤ gate s d
  accLe    : (p.pc = .gateLoad ∨ p.pc = .drainLoad) → ∀ m, p.acc = some m → ∀ d, d < p.idx → m ≤ gate s d
  accSome  : (p.pc = .gateLoad ∨ p.pc = .drainLoad) → 0 < p.idx → p.acc.isSome
  idxLe    : (p.pc = .gateLoad ∨ p.pc = .drainLoad) → p.idx ≤ ngate s
  nw       : p.pc.idle = true → (s.cursor + 1 = p.nextWrite ∨ (s.cursor = 0 ∧ p.nextWrite = 0))
  cur      : p.pc.draining = true → p.current = p.nextWrite - 1
  claim    : (p.pc = .gateCheck ∨ p.pc = .gateLoad) →
               (s.cursor + 1 = p.start ∨ (s.cursor = 0 ∧ p.start = 0)) ∧ p.start ≤ p.stop ∧ p.nextWrite = p.start
  wr       : (p.pc = .write ∨ p.pc = .publish) →
               (s.cursor + 1 = p.start ∨ (s.cursor = 0 ∧ p.start = 0)) ∧ p.start ≤ p.stop ∧
               p.nextWrite = p.stop + 1 ∧ p.stop ≤ p.min + s.n ∧ p.start ≤ p.w ∧ p.w ≤ p.stop + 1 ∧
               (p.pc = .publish → p.w = p.stop + 1)
  drained  : p.pc.drained = true → ∀ d, d < ngate s → p.nextWrite - 1 ≤ gate s d
  wrote    : p.written = List.range' 0 (if p.pc = .write ∨ p.pc = .publish then p.w else p.nextWrite)
  cnt      : (p.pc = .gateCheck ∨ p.pc = .gateLoad) → 1 ≤ p.count ∧ p.stop + 1 = p.start + p.count
  tiles    : Tiles 0 p.claims (if p.pc = .gateCheck ∨ p.pc = .gateLoad then p.start else p.nextWrite)

def PInvAll (x : PSt) : Prop := Inv x.s ∧ 0 < x.s.K ∧ PInv x.s x.p ∧ (∀ b, b ∈ x.p.todo → 1 ≤ b)

theorem ngate_pos (s : St) (hp : ∀ k, k < s.K → 0 < s.h k) (hK : 0 < s.K) : 0 < ngate s := by
  unfold ngate; apply hp; omega

theorem range_snoc0 (w : Nat) : List.range' 0 w ++ [w] = List.range' 0 (w + 1) := by
  rw [List.range'_concat]; simp

/-- `PInv` between two `write` calls and while draining (any idle pc but `drainLoad`, whose loop clauses need `acc`/`idx`):
only the cursor bookkeeping, the two cached minima and the ghost lists matter -/
theorem pinv_idle {s : St} {p : Prod} (pc' : PPc) (hi : pc'.idle = true) (hl : pc' ≠ .drainLoad)
    (hmin : ∀ d, d < ngate s → p.min ≤ gate s d) (hcached : ∀ d, d < ngate s → p.cached ≤ gate s d)
    (hnw : s.cursor + 1 = p.nextWrite ∨ (s.cursor = 0 ∧ p.nextWrite = 0))
    (hcur : pc'.draining = true → p.current = p.nextWrite - 1)
    (hdr : pc'.drained = true → ∀ d, d < ngate s → p.nextWrite - 1 ≤ gate s d)
    (hwrote : p.written = List.range' 0 p.nextWrite) (htiles : Tiles 0 p.claims p.nextWrite) :
    PInv s { p with pc := pc' } := by
  have g1 : pc' ≠ .gateCheck := by rintro rfl; cases hi
  have g2 : pc' ≠ .gateLoad := by rintro rfl; cases hi
  have g3 : pc' ≠ .write := by rintro rfl; cases hi
  have g4 : pc' ≠ .publish := by rintro rfl; cases hi
  constructor <;> grind

theorem pinv_drainLoad {s : St} {p : Prod}
    (hmin : ∀ d, d < ngate s → p.min ≤ gate s d) (hcached : ∀ d, d < ngate s → p.cached ≤ gate s d)
    (hnw : s.cursor + 1 = p.nextWrite ∨ (s.cursor = 0 ∧ p.nextWrite = 0)) (hcur : p.current = p.nextWrite - 1)
    (hwrote : p.written = List.range' 0 p.nextWrite) (htiles : Tiles 0 p.claims p.nextWrite) :
    PInv s { p with pc := .drainLoad, acc := none, idx := 0 } := by
  constructor <;> (try simp [PPc.idle, PPc.draining, PPc.drained]) <;> grind

theorem pinv_load {s : St} {p : Prod} (hP : PInv s p) (hpc : p.pc = .gateLoad ∨ p.pc = .drainLoad) (hlt : p.idx < ngate s) :
    PInv s { p with acc := minOpt p.acc (gate s p.idx), idx := p.idx + 1 } :=
  { hP with
    accLe := fun _ => minOpt_step_le (gate s) p.acc p.idx (hP.accLe hpc) (hP.accSome hpc)
    accSome := fun _ _ => minOpt_isSome _ _
    idxLe := fun _ => hlt }

/-- The lock / notify / unlock steps of the four `signal` calls and the two
`is_done` stores change nothing `PInv` reads, so they are instances of `pinv_idle`. -/
theorem prod_own_step (x : PSt) (h : PInvAll x) : PInv (stepProd x).s (stepProd x).p := by
  obtain ⟨hI, hK, hP, hb⟩ := h
  have ⟨h1, h2, h3, h4, h5, h6, h6c, h7, h8, h9, h10, h11, h12⟩ := hP
  have hpos := ngate_pos x.s hI.1 hK
  cases hpc : x.p.pc <;> simp only [stepProd, hpc] <;>
    simp only [hpc, PPc.idle, PPc.draining, PPc.drained, reduceCtorEq, or_false, or_true, or_self, false_implies,
      forall_const, ite_true, ite_false] at h3 h4 h5 h6 h6c h7 h8 h9 h10 h11 h12
  case start =>
    split
    · exact pinv_idle .drainInit rfl nofun h1 h2 h6 nofun nofun h10 h12
    · rename_i b rest htodo
      have hb1 := hb b (by simp [htodo])
      constructor <;> (try simp [PPc.idle, PPc.draining, PPc.drained]) <;> grind
  case gateCheck =>
    have htile := Tiles.snoc h12 x.p.stop x.p.count h11.1 h11.2
    split <;> constructor <;> (try simp [PPc.idle, PPc.draining, PPc.drained]) <;> grind
  case gateLoad =>
    split
    · simpa only [hpc] using pinv_load hP (.inl hpc) ‹_›
    · have := minOpt_done_le (gate x.s) x.p.acc x.p.idx _ h3 h4 (by omega) hpos
      constructor <;> (try simp [PPc.idle, PPc.draining, PPc.drained]) <;> grind
  case write =>
    have hsn := range_snoc0 x.p.w
    split <;> constructor <;> (try simp [PPc.idle, PPc.draining, PPc.drained]) <;> grind
  case publish =>
    exact pinv_idle (s := { x.s with cursor := x.p.stop }) _ (by split <;> rfl) (by split <;> nofun) h1 h2
      (by simp only []; omega) (by split <;> nofun) (by split <;> nofun) (by rw [h10, h8.2.2.1, h8.2.2.2.2.2.2]) h12
  case drainInit => exact pinv_drainLoad (p := { x.p with current := x.p.nextWrite - 1 }) h1 h2 h6 rfl h10 h12
  case drainLoad =>
    split
    · simpa only [hpc] using pinv_load hP (.inr hpc) ‹_›
    · exact pinv_idle (p := { x.p with min := x.p.acc.getD 0 }) .drainCheck rfl nofun
        (minOpt_done_le (gate x.s) x.p.acc x.p.idx _ h3 h4 (Nat.le_of_not_lt ‹_›) hpos) h2 h6 (fun _ => h6c) nofun h10 h12
  case drainCheck =>
    split
    · split
      · exact pinv_idle .dLock rfl nofun h1 h2 h6 (fun _ => h6c) nofun h10 h12
      · exact pinv_drainLoad h1 h2 h6 h6c h10 h12
    · exact pinv_idle .setDone rfl nofun h1 h2 h6 (fun _ => h6c) (fun _ d hd => Nat.le_trans (show x.p.nextWrite - 1 ≤ x.p.min by omega) (h1 d hd)) h10 h12
  case pLock =>
    split
    · exact pinv_idle .pNotify rfl nofun h1 h2 h6 nofun nofun h10 h12
    · exact hP
  case pNotify => exact pinv_idle .pUnlock rfl nofun h1 h2 h6 nofun nofun h10 h12
  case pUnlock => exact pinv_idle .start rfl nofun h1 h2 h6 nofun nofun h10 h12
  case dLock =>
    split
    · exact pinv_idle .dNotify rfl nofun h1 h2 h6 (fun _ => h6c) nofun h10 h12
    · exact hP
  case dNotify => exact pinv_idle .dUnlock rfl nofun h1 h2 h6 (fun _ => h6c) nofun h10 h12
  case dUnlock => exact pinv_drainLoad h1 h2 h6 h6c h10 h12
  case setDone => exact pinv_idle _ (by split <;> rfl) (by split <;> nofun) h1 h2 h6 (fun _ => h6c) (fun _ => h9) h10 h12
  case eLock =>
    split
    · exact pinv_idle .eNotify rfl nofun h1 h2 h6 (fun _ => h6c) (fun _ => h9) h10 h12
    · exact hP
  case eNotify => exact pinv_idle .eUnlock rfl nofun h1 h2 h6 (fun _ => h6c) (fun _ => h9) h10 h12
  case eUnlock => exact pinv_idle .dropDone rfl nofun h1 h2 h6 (fun _ => h6c) (fun _ => h9) h10 h12
  case dropDone => exact pinv_idle _ (by split <;> rfl) (by split <;> nofun) h1 h2 h6 (fun _ => h6c) (fun _ => h9) h10 h12
  case fLock =>
    split
    · exact pinv_idle .fNotify rfl nofun h1 h2 h6 (fun _ => h6c) (fun _ => h9) h10 h12
    · exact hP
  case fNotify => exact pinv_idle .fUnlock rfl nofun h1 h2 h6 (fun _ => h6c) (fun _ => h9) h10 h12
  case fUnlock => exact pinv_idle .done rfl nofun h1 h2 h6 (fun _ => h6c) (fun _ => h9) h10 h12
  case done => exact hP

theorem pinv_stable (s s' : St) (p : Prod) (hp : PInv s p)
    (hn : ngate s' = ngate s) (hm : ∀ d, gate s d ≤ gate s' d) (hc : s'.cursor = s.cursor) (hnn : s'.n = s.n) :
    PInv s' p := by
  obtain ⟨h1, h2, h3, h4, h5, h6, h6c, h7, h8, h9, h10, h11, h12⟩ := hp
  constructor
  · intro d hd; exact Nat.le_trans (h1 d (by omega)) (hm d)
  · intro d hd; exact Nat.le_trans (h2 d (by omega)) (hm d)
  · intro hp m hmm d hd; exact Nat.le_trans (h3 hp m hmm d hd) (hm d)
  · grind
  · grind
  · grind
  · grind
  · grind
  · grind
  · intro hp d hd; exact Nat.le_trans (h9 hp d (by omega)) (hm d)
  · grind
  · grind
  · grind

theorem gate_mono_stepC (s : St) (k j : Nat) (hk : k < s.K) (hj : j < s.h k) (hI : Inv s) (d : Nat) :
    gate s d ≤ gate (stepC s k j) d := by
  unfold gate
  rw [stepC_cons]; unfold upd
  show (s.cons (s.K - 1) d).cur ≤ _
  have hK : (stepC s k j).K = s.K := rfl
  rw [hK]
  by_cases hh : s.K - 1 = k ∧ d = j
  · simp only [hh, and_self, if_true]
    have := cur_mono s k j _ (hI.2 k j hk hj)
    obtain ⟨rfl, rfl⟩ := hh
    exact this
  · simp only [hh, if_false]; exact Nat.le_refl _

theorem stepProd_todo (x : PSt) : (stepProd x).p.todo = if x.p.pc = .start then x.p.todo.tail else x.p.todo := by
  cases hpc : x.p.pc <;> simp only [stepProd, hpc, reduceCtorEq, if_false, if_true]
  case start => cases x.p.todo <;> rfl
  all_goals ((repeat' split) <;> rfl)

theorem stepProd_cursor (x : PSt) :
    (stepProd x).s.cursor = if x.p.pc = .publish then x.p.stop else x.s.cursor := by
  cases hpc : x.p.pc <;> simp only [stepProd, hpc, reduceCtorEq, ite_false, ite_true] <;> (repeat' split) <;> rfl

theorem cursor_mono_prod (x : PSt) (h : PInvAll x) : x.s.cursor ≤ (stepProd x).s.cursor := by
  rw [stepProd_cursor]; split
  · have := h.2.2.1.wr (.inr ‹_›); omega
  · exact Nat.le_refl _

theorem cons_same_prod (x : PSt) : (stepProd x).s.cons = x.s.cons ∧ (stepProd x).s.K = x.s.K ∧
    (stepProd x).s.h = x.s.h ∧ (stepProd x).s.n = x.s.n ∧ (stepProd x).s.blocking = x.s.blocking := by
  cases hpc : x.p.pc <;> simp only [stepProd, hpc] <;> (try split) <;> (try split) <;> simp

theorem todo_prod_mem (x : PSt) (b : Nat) (h : b ∈ (stepProd x).p.todo) : b ∈ x.p.todo := by
  rw [stepProd_todo] at h; split at h
  · exact List.mem_of_mem_tail h
  · exact h

theorem mtx_other {m m' : Option Tid} {t u : Tid} (hne : t ≠ u)
    (h : m' = m ∨ (m = none ∧ m' = some t) ∨ (m = some t ∧ m' = none)) : m' = some u ↔ m = some u := by
  rcases h with h | ⟨h1, h2⟩ | ⟨h1, h2⟩
  · rw [h]
  · rw [h1, h2]; simp [hne]
  · rw [h1, h2]; simp [hne]

def xC (x : PSt) (k j : Nat) : PSt := { x with s := stepC x.s k j }

theorem stepX_cons_in (x : PSt) {k j : Nat} (hk : k < x.s.K) (hj : j < x.s.h k) : stepX x (.cons k j) = xC x k j := by
  simp [stepX, hk, hj, xC]

theorem stepX_cons_out (x : PSt) {k j : Nat} (h : ¬(k < x.s.K ∧ j < x.s.h k)) : stepX x (.cons k j) = x := by
  simp [stepX, h]

theorem inv_of_same_cons (s s' : St) (hI : Inv s) (hc : s'.cons = s.cons) (hK : s'.K = s.K) (hh : s'.h = s.h)
    (hcur : s.cursor ≤ s'.cursor) : Inv s' := by
  refine ⟨by intro k hk; rw [hh]; rw [hK] at hk; exact hI.1 k hk, ?_⟩
  intro k j hk hj
  rw [hK] at hk; rw [hh] at hj; rw [hc]
  apply cinv_stable s _ k _ (hI.2 k j hk hj)
  · simp [ndeps, hh]
  · intro d; unfold dep; rw [hc]; split
    · exact hcur
    · exact Nat.le_refl _

theorem inv_stepX (x : PSt) (t : Tid) (h : PInvAll x) : PInvAll (stepX x t) := by
  cases t with
  | prod =>
    show PInvAll (stepProd x)
    obtain ⟨hc, hK', hh, _⟩ := cons_same_prod x
    exact ⟨inv_of_same_cons x.s _ h.1 hc hK' hh (cursor_mono_prod x h), hK' ▸ h.2.1, prod_own_step x h,
      fun b hm => h.2.2.2 b (todo_prod_mem x b hm)⟩
  | cons k j =>
    show PInvAll (if k < x.s.K ∧ j < x.s.h k then { x with s := stepC x.s k j } else x)
    split
    · rename_i hkj
      obtain ⟨hI, hK, hP, hb⟩ := h
      refine ⟨inv_stepC x.s k j hkj.1 hkj.2 hI, hK, ?_, hb⟩
      exact pinv_stable x.s _ x.p hP rfl (gate_mono_stepC x.s k j hkj.1 hkj.2 hI) rfl rfl
    · exact h

theorem runX_inv (I : PSt → Prop) (hI : ∀ x t, I x → I (stepX x t)) (x : PSt) (sched : List Tid) (h : I x) :
    I (runX x sched) := by
  unfold runX
  induction sched generalizing x with
  | nil => exact h
  | cons t ts ih => exact ih _ (hI x t h)

theorem inv_run (x : PSt) (sched : List Tid) (h : PInvAll x) : PInvAll (runX x sched) :=
  runX_inv PInvAll inv_stepX x sched h

theorem inv_init (n K : Nat) (h : Nat → Nat) (blocking : Bool) (batches : List Nat)
    (hK : 0 < K) (hh : ∀ k, k < K → 0 < h k) (hb : ∀ b, b ∈ batches → 1 ≤ b) :
    PInvAll (mk n K h blocking batches) := by
  refine ⟨⟨hh, ?_⟩, hK, ?_, hb⟩
  · intro k j hk hj
    constructor <;> simp [mk, dep]
  · constructor <;> simp [mk, gate, PPc.idle, PPc.draining, PPc.drained]
    exact Tiles.nil 0

/-- no handler cursor is ahead of the producer cursor: up the chain of stages, stage `k+1` waits on stage `k`, stage 0 on
the producer (by induction on the stage, through handler 0 of each stage) -/
theorem chain_up (s : St) (hI : Inv s) : ∀ k j, k < s.K → j < s.h k → (s.cons k j).cur ≤ s.cursor := by
  intro k
  induction k with
  | zero =>
    intro j hk hj
    have := (hI.2 0 j hk hj).curDep 0 (by simp [ndeps])
    simpa [dep] using this
  | succ k ih =>
    intro j hk hj
    have hpos := hI.1 k (by omega)
    have := (hI.2 (k+1) j hk hj).curDep 0 (by simp [ndeps]; exact hpos)
    simp [dep] at this
    exact Nat.le_trans this (ih 0 (by omega) hpos)

theorem avail_le_cursor (s : St) (hI : Inv s) (k j : Nat) (hk : k < s.K) (hj : j < s.h k)
    (hpc : (s.cons k j).pc = .checkAvail ∨ (s.cons k j).pc = .bUnlockGo ∨ (s.cons k j).pc = .handle ∨
           (s.cons k j).pc = .publish) :
    (s.cons k j).avail ≤ s.cursor := by
  have hpos := ndeps_pos s hI.1 k hk
  have := (hI.2 k j hk hj).availLe hpc 0 hpos
  cases k with
  | zero => simpa [dep] using this
  | succ k =>
    simp [dep] at this
    exact Nat.le_trans this (chain_up s hI k 0 (by omega) (hI.1 k (by omega)))

theorem le_earlier_cur (s : St) (hI : Inv s) (k : Nat) : ∀ m, k ≤ s.K → (∀ d, d < ndeps s k → m ≤ dep s k d) →
    ∀ k' j', k' < k → j' < s.h k' → m ≤ (s.cons k' j').cur := by
  induction k with
  | zero => intro _ _ _ k' _ hk'; omega
  | succ k ih =>
    intro m hk hm k' j' hk' hj'
    have hdep : ∀ d, d < s.h k → m ≤ (s.cons k d).cur := fun d hd => by
      simpa [dep] using hm d (by simpa [ndeps] using hd)
    by_cases he : k' = k
    · subst he; exact hdep j' hj'
    · have h0 := hI.1 k (by omega)
      exact Nat.le_trans (hdep 0 h0) (ih _ (by omega) (hI.2 k 0 (by omega) h0).curDep k' j' (by omega) hj')

theorem below_all (s : St) (hI : Inv s) (hK : 0 < s.K) (m : Nat) (hm : ∀ d, d < ngate s → m ≤ gate s d)
    (k j : Nat) (hk : k < s.K) (hj : j < s.h k) : m ≤ (s.cons k j).cur :=
  le_earlier_cur s hI s.K m (Nat.le_refl _) (by simpa [ndeps, dep, ngate, gate, Nat.ne_of_gt hK] using hm) k j hk hj

/-- **no-lap**: while the producer is writing sequence `w`, every handler that is handling sequence `i` has
`i < w < i + n` — so the two never touch the same slot (`mod n`). -/
theorem no_lap (x : PSt) (h : PInvAll x) (hw : x.p.pc = .write) (hww : x.p.w ≤ x.p.stop)
    (k j : Nat) (hk : k < x.s.K) (hj : j < x.s.h k)
    (hc : (x.s.cons k j).pc = .handle) (hi : (x.s.cons k j).i ≤ (x.s.cons k j).avail) :
    (x.s.cons k j).i < x.p.w ∧ x.p.w < (x.s.cons k j).i + x.s.n := by
  obtain ⟨hI, hK, hP, hb⟩ := h
  have hav := avail_le_cursor x.s hI k j hk hj (by simp [hc])
  have hci := hI.2 k j hk hj
  have hnext := hci.nextEq (by simp [hc])
  have hige := hci.iGe hc
  have hwr := hP.wr (by simp [hw])
  have hmin := below_all x.s hI hK x.p.min hP.minLe k j (by omega) hj
  have hca := hci.curAvail (by simp [hc])
  constructor
  · rcases hwr.1 with h1 | ⟨h1, h2⟩ <;> omega
  · omega

/-- a state reachable in a well-formed single-producer pipeline: any ring size, any topology with at least one stage and at
least one handler per stage, either wait strategy, any list of batches of at least one event, **any schedule** -/
def Reachable (x : PSt) : Prop :=
  ∃ (n K : Nat) (h : Nat → Nat) (blocking : Bool) (batches : List Nat) (sched : List Tid),
    0 < K ∧ (∀ k, k < K → 0 < h k) ∧ (∀ b, b ∈ batches → 1 ≤ b) ∧ x = runX (mk n K h blocking batches) sched

theorem reachable_inv {x : PSt} (hr : Reachable x) : PInvAll x := by
  obtain ⟨n, K, h, bl, bs, sched, hK, hh, hb, rfl⟩ := hr
  exact inv_run _ sched (inv_init n K h bl bs hK hh hb)

theorem reachable_step {x : PSt} (hr : Reachable x) (t : Tid) : Reachable (stepX x t) := by
  obtain ⟨n, K, h, bl, bs, sched, hK, hh, hb, rfl⟩ := hr
  exact ⟨n, K, h, bl, bs, sched ++ [t], hK, hh, hb, by simp [runX, List.foldl_append]⟩

def sumTo : Nat → (Nat → Nat) → Nat
  | 0, _ => 0
  | n+1, f => sumTo n f + f n

theorem sumTo_le (n : Nat) (f g : Nat → Nat) (h : ∀ i, i < n → f i ≤ g i) : sumTo n f ≤ sumTo n g := by
  induction n with
  | zero => simp [sumTo]
  | succ n ih =>
    simp only [sumTo]
    have := ih (fun i hi => h i (by omega)); have := h n (by omega); omega

theorem sumTo_lt (n : Nat) (f g : Nat → Nat) (h : ∀ i, i < n → f i ≤ g i) (i : Nat) (hi : i < n) (hs : f i < g i) :
    sumTo n f < sumTo n g := by
  induction n with
  | zero => omega
  | succ n ih =>
    simp only [sumTo]
    by_cases hin : i = n
    · subst hin
      have := sumTo_le i f g (fun a ha => h a (by omega)); omega
    · have := ih (fun a ha => h a (by omega)) (by omega); have := h n (by omega); omega

theorem sumTo2_le (K : Nat) (h : Nat → Nat) (f g : Nat → Nat → Nat)
    (hle : ∀ k j, k < K → j < h k → f k j ≤ g k j) :
    sumTo K (fun k => sumTo (h k) (fun j => f k j)) ≤ sumTo K (fun k => sumTo (h k) (fun j => g k j)) :=
  sumTo_le _ _ _ (fun k hk => sumTo_le _ _ _ (fun j hj => hle k j hk hj))

theorem sumTo2_lt (K : Nat) (h : Nat → Nat) (f g : Nat → Nat → Nat)
    (hle : ∀ k j, k < K → j < h k → f k j ≤ g k j) (k j : Nat) (hk : k < K) (hj : j < h k) (hlt : f k j < g k j) :
    sumTo K (fun k => sumTo (h k) (fun j => f k j)) < sumTo K (fun k => sumTo (h k) (fun j => g k j)) :=
  sumTo_lt _ _ _ (fun a ha => sumTo_le _ _ _ (fun b hb => hle a b ha hb)) k hk
    (sumTo_lt _ _ _ (fun b hb => hle k b hk hb) j hj hlt)

end Ring
