import DcVerif.Model.RingHB
import DcVerif.Lemmas.HandlerClock
/-!
The ghost (vector-clock) invariant of `Model/RingHB.lean` and its preservation by every step of every thread — all
program points of both wait strategies — hence for **every schedule**, ring size, topology and batch list.

All clauses of `HInv` are of the form "clock entry ≥ local counter"; clocks only grow along a thread's own steps, a
location's clock is only replaced by its single writer's (larger) clock. The proofs are generic in the two orderings
`set` / `get` and need exactly the hypotheses `set.isRelease = true` and `get.isAcquire = true`; `Props/C05.lean`
discharges them for `Gen.Orderings.seqSet` / `seqGet` by evaluation, so weakening either ordering in the source
breaks that obligation.
-/
namespace RingHB
open Ring Gen.Orderings

def VC.le (a b : VC) : Prop := a.pw ≤ b.pw ∧ ∀ k j, a.ha k j ≤ b.ha k j

theorem Covers.mono {K : Nat} {h : Nat → Nat} {n : Nat} {v v' : VC} {k b b' : Nat}
    (hc : Covers K h n v k b) (hv : v.le v') (hb : b' ≤ b) : Covers K h n v' k b' := by
  obtain ⟨h1, h2, h3⟩ := hc
  obtain ⟨l1, l2⟩ := hv
  constructor
  · intro hb1; have := h1 (by omega); omega
  · intro k' j' hk hK hj; have := h2 k' j' hk hK hj; have := l2 k' j'; omega
  · intro k' j' hK hj; have := h3 k' j' hK hj; have := l2 k' j'; omega

theorem Covers.weaken {K : Nat} {h : Nat → Nat} {n : Nat} {v : VC} {k k' b : Nat}
    (hc : Covers K h n v k b) (hk : k' ≤ k) : Covers K h n v k' b :=
  ⟨hc.pw, fun a j ha hK hj => hc.prev a j (by omega) hK hj, hc.old⟩

theorem covers_combine {K : Nat} {h : Nat → Nat} {n : Nat} {v : VC} {k m : Nat}
    (h1 : Covers K h n v (k - 1) m) (h2 : 0 < k → ∀ d, d < h (k-1) → m ≤ v.ha (k-1) d) :
    Covers K h n v k m := by
  refine ⟨h1.pw, ?_, h1.old⟩
  intro k' j' hk hK hj
  by_cases hlt : k' < k - 1
  · exact h1.prev k' j' hlt hK hj
  · have : k' = k - 1 := by omega
    subst this
    exact h2 (by omega) j' hj

theorem le_join_left (a b : VC) : a.le (a.join b) := ⟨Nat.le_max_left _ _, fun _ _ => Nat.le_max_left _ _⟩
theorem le_join_right (a b : VC) : b.le (a.join b) := ⟨Nat.le_max_right _ _, fun _ _ => Nat.le_max_right _ _⟩
theorem le_refl' (a : VC) : a.le a := ⟨Nat.le_refl _, fun _ _ => Nat.le_refl _⟩
theorem le_incH (a : VC) (k j : Nat) : a.le (a.incH k j) := by
  refine ⟨Nat.le_refl _, fun k' j' => ?_⟩
  simp only [VC.incH]; split <;> omega

def clocks : Clocks VC :=
  { ha := VC.ha, bot := {}, join := VC.join, incH := VC.incH, ha_join := fun _ _ _ _ => rfl, ha_incH := fun _ _ _ _ _ => rfl }

theorem coverage (K : Nat) (h : Nat → Nat) (n : Nat) : Coverage clocks h (Covers K h n) :=
  ⟨fun hc => hc.mono (le_join_left _ _) (Nat.le_refl _), fun hc hb => hc.mono (le_join_right _ _) hb,
   fun hc => hc.mono (le_incH _ _ _) (Nat.le_refl _), covers_combine⟩

theorem consV_eq (get : Ord) (s : HSt) (k j : Nat) :
    consV get s k j = consClock clocks get s.x.s k j (s.x.s.cons k j) (s.vcC k j) (s.lcH k j) (depClock s k) := rfl

theorem consL_eq (set : Ord) (s : HSt) (k j : Nat) :
    consL set s k j = cursorClock clocks set (s.x.s.cons k j) (s.vcC k j) (s.lcH k j) := rfl

/-- clock `c` knows no more about a thread's accesses than the thread itself (`op`, `oh k j`: the owners' own entries) -/
def Dom (op : Nat) (oh : Nat → Nat → Nat) (c : VC) : Prop := c.pw ≤ op ∧ ∀ k j, c.ha k j ≤ oh k j

def oh (vcC : Nat → Nat → VC) : Nat → Nat → Nat := fun k j => (vcC k j).ha k j

theorem Dom.mono {op op' : Nat} {oh oh' : Nat → Nat → Nat} {c : VC} (h : Dom op oh c) (h1 : op ≤ op')
    (h2 : ∀ k j, oh k j ≤ oh' k j) : Dom op' oh' c :=
  ⟨Nat.le_trans h.1 h1, fun k j => Nat.le_trans (h.2 k j) (h2 k j)⟩

theorem Dom.join {op : Nat} {oh : Nat → Nat → Nat} {a b : VC} (ha : Dom op oh a) (hb : Dom op oh b) :
    Dom op oh (a.join b) :=
  ⟨Nat.max_le.2 ⟨ha.1, hb.1⟩, fun k j => Nat.max_le.2 ⟨ha.2 k j, hb.2 k j⟩⟩

structure HInv (s : HSt) : Prop where
  lCur : Covers s.x.s.K s.x.s.h s.x.s.n s.lcCur 0 s.x.s.cursor
  hc   : ∀ k j, k < s.x.s.K → j < s.x.s.h k →
           HKnow clocks (Covers s.x.s.K s.x.s.h s.x.s.n) k j (s.x.s.cons k j) (s.vcC k j) (s.lcH k j)
  pOwn : s.vcP.pw = if s.x.p.pc = .write then s.x.p.w else s.x.p.nextWrite
  pMin : ∀ k j, k < s.x.s.K → j < s.x.s.h k → s.x.p.min ≤ s.vcP.ha k j ∧ s.x.p.cached ≤ s.vcP.ha k j
  pLd  : (s.x.p.pc = .gateLoad ∨ s.x.p.pc = .drainLoad) → ∀ m, s.x.p.acc = some m →
           (0 < s.x.p.idx → ∀ k j, k < s.x.s.K - 1 → j < s.x.s.h k → m ≤ s.vcP.ha k j) ∧
           (∀ d, d < s.x.p.idx → m ≤ s.vcP.ha (s.x.s.K - 1) d)
  zCur : Dom s.vcP.pw (oh s.vcC) s.lcCur
  zH   : ∀ a b, Dom s.vcP.pw (oh s.vcC) (s.lcH a b)
  zC   : ∀ a b, Dom s.vcP.pw (oh s.vcC) (s.vcC a b)
  zP   : Dom s.vcP.pw (oh s.vcC) s.vcP

theorem raceFree_of_inv (s : HSt) (hP : PInvAll s.x) (hH : HInv s) : RaceFree s := by
  constructor
  · intro k j hk hj hpc hi
    exact ((hH.hc k j hk hj).cAv (by simp [availPc, hpc])).mono (le_refl' _) hi
  · intro hpc hw k j hk hj
    have := (hH.pMin k j hk hj).1
    have := (hP.2.2.1.wr (by simp [hpc])).2.2.2.1
    omega

theorem stepH_x (set get : Ord) (s : HSt) (t : Tid) : (stepH set get s t).x = stepX s.x t := by
  cases t with
  | prod => rfl
  | cons k j => simp only [stepH, stepX]; split <;> rfl

theorem runH_x (set get : Ord) (s : HSt) (sched : List Tid) : (runH set get s sched).x = runX s.x sched := by
  unfold runH runX
  induction sched generalizing s with
  | nil => rfl
  | cons t ts ih => simp only [List.foldl_cons]; rw [ih, stepH_x]

@[simp] theorem updV_same (f : Nat → Nat → VC) (k j : Nat) (v : VC) : updV f k j v k j = v := by simp [updV]
theorem updV_other (f : Nat → Nat → VC) (k j k' j' : Nat) (v : VC) (h : ¬(k' = k ∧ j' = j)) :
    updV f k j v k' j' = f k' j' := by simp [updV, h]
@[simp] theorem upd_same (f : Nat → Nat → Cons) (k j : Nat) (c : Cons) : upd f k j c k j = c := by simp [upd]
theorem upd_other (f : Nat → Nat → Cons) (k j k' j' : Nat) (c : Cons) (h : ¬(k' = k ∧ j' = j)) :
    upd f k j c k' j' = f k' j' := by simp [upd, h]

/-- a handler's step preserves the clock invariant (cursor stores Release, cursor loads Acquire): what the stepping
handler's clocks know by `HKnow.step`; the other handlers and the producer are untouched; the handler's own entry only
grows, and its new clock and its cursor's new clock are joins of dominated clocks -/
theorem hinv_cons (set get : Ord) (hset : set.isRelease = true) (hget : get.isAcquire = true)
    (s : HSt) (k j : Nat) (hk : k < s.x.s.K) (hj : j < s.x.s.h k)
    (hP : PInvAll s.x) (hH : HInv s) : HInv (stepH set get s (.cons k j)) := by
  simp only [stepH, hk, hj, and_self, if_true]
  have depZ : ∀ d, Dom s.vcP.pw (oh s.vcC) (depClock s k d) := by
    intro d; unfold depClock; split
    · exact hH.zCur
    · exact hH.zH _ _
  have hv : (s.vcC k j).le (consV get s k j) :=
    consClock_cases clocks get s.x.s k j _ _ _ _ (s.vcC k j).le (le_refl' _) (le_join_left _ _)
      (fun _ => le_join_left _ _) (fun _ _ => le_incH _ _ _)
  have hoh : ∀ a b, oh s.vcC a b ≤ oh (updV s.vcC k j (consV get s k j)) a b := by
    intro a b
    by_cases he : a = k ∧ b = j
    · obtain ⟨rfl, rfl⟩ := he; simp only [oh, updV_same]; exact hv.2 a b
    · simp only [oh, updV_other _ _ _ _ _ _ he]; exact Nat.le_refl _
  have old : ∀ c, Dom s.vcP.pw (oh s.vcC) c → Dom s.vcP.pw (oh (updV s.vcC k j (consV get s k j))) c :=
    fun c hc => hc.mono (Nat.le_refl _) hoh
  have hv' : Dom s.vcP.pw (oh (updV s.vcC k j (consV get s k j))) (consV get s k j) := by
    refine consClock_cases clocks get s.x.s k j _ _ _ _ (Dom s.vcP.pw (oh (updV s.vcC k j (consV get s k j))))
      (old _ (hH.zC k j)) ((old _ (hH.zC k j)).join (old _ (hH.zH k j)))
      (fun d => (old _ (hH.zC k j)).join (old _ (depZ d))) (fun hpc hle => ⟨(hH.zC k j).1, fun a b => ?_⟩)
    have e : consV get s k j = (s.vcC k j).incH k j := by simp [consV, hpc, hle]
    by_cases he : a = k ∧ b = j
    · obtain ⟨rfl, rfl⟩ := he; simp only [oh, updV_same, e]; exact Nat.le_refl _
    · simp only [oh, updV_other _ _ _ _ _ _ he]
      show ((s.vcC k j).incH k j).ha a b ≤ _
      simp only [VC.incH, he, if_false]; exact (hH.zC k j).2 a b
  have hl' : Dom s.vcP.pw (oh (updV s.vcC k j (consV get s k j))) (consL set s k j) :=
    cursorClock_cases clocks set _ _ _ (Dom s.vcP.pw (oh (updV s.vcC k j (consV get s k j))))
      (old _ (hH.zC k j)) (old _ (hH.zH k j)) ⟨Nat.zero_le _, fun _ _ => Nat.zero_le _⟩
  refine ⟨hH.lCur, ?_, hH.pOwn, hH.pMin, hH.pLd, old _ hH.zCur, ?_, ?_, old _ hH.zP⟩
  · intro a b ha hb
    by_cases he : a = k ∧ b = j
    · obtain ⟨rfl, rfl⟩ := he
      simp only [updV_same, stepC_cons, upd_same, consV_eq, consL_eq]
      exact HKnow.step clocks get set hset hget s.x.s a b (coverage _ _ _) _ (hP.1.2 a b hk hj)
        (ndeps_pos s.x.s hP.1.1 a hk) _ _ _ (dep_covered clocks s.x.s a hk s.lcCur s.vcC s.lcH hH.lCur hH.hc)
        ((hH.zH a b).2 a b) (fun d => (depZ d).2 a b) (hH.hc a b hk hj)
    · simp only [updV_other _ _ _ _ _ _ he, stepC_cons, upd_other _ _ _ _ _ _ he]; exact hH.hc a b ha hb
  · intro a b
    by_cases he : a = k ∧ b = j
    · obtain ⟨rfl, rfl⟩ := he; simp only [updV_same]; exact hl'
    · simp only [updV_other _ _ _ _ _ _ he]; exact old _ (hH.zH a b)
  · intro a b
    by_cases he : a = k ∧ b = j
    · obtain ⟨rfl, rfl⟩ := he; simp only [updV_same]; exact hv'
    · simp only [updV_other _ _ _ _ _ _ he]; exact old _ (hH.zC a b)

theorem hinv_prod_frame (s : HSt) (hH : HInv s) (vP lC : VC)
    (g1 : Covers s.x.s.K s.x.s.h s.x.s.n lC 0 (stepProd s.x).s.cursor)
    (g2 : vP.pw = if (stepProd s.x).p.pc = .write then (stepProd s.x).p.w else (stepProd s.x).p.nextWrite)
    (g3 : ∀ k j, k < s.x.s.K → j < s.x.s.h k → (stepProd s.x).p.min ≤ vP.ha k j ∧ (stepProd s.x).p.cached ≤ vP.ha k j)
    (g4 : ((stepProd s.x).p.pc = .gateLoad ∨ (stepProd s.x).p.pc = .drainLoad) → ∀ m, (stepProd s.x).p.acc = some m →
           (0 < (stepProd s.x).p.idx → ∀ k j, k < s.x.s.K - 1 → j < s.x.s.h k → m ≤ vP.ha k j) ∧
           (∀ d, d < (stepProd s.x).p.idx → m ≤ vP.ha (s.x.s.K - 1) d))
    (g5 : s.vcP.pw ≤ vP.pw) (g6 : Dom vP.pw (oh s.vcC) vP) (g7 : Dom vP.pw (oh s.vcC) lC) :
    HInv { s with x := stepProd s.x, vcP := vP, lcCur := lC } := by
  obtain ⟨ec, eK, eh, en, _⟩ := cons_same_prod s.x
  have old : ∀ c, Dom s.vcP.pw (oh s.vcC) c → Dom vP.pw (oh s.vcC) c :=
    fun c hc => hc.mono g5 (fun _ _ => Nat.le_refl _)
  refine ⟨?_, ?_, g2, ?_, ?_, g7, fun a b => old _ (hH.zH a b), fun a b => old _ (hH.zC a b), g6⟩
  · show Covers (stepProd s.x).s.K (stepProd s.x).s.h (stepProd s.x).s.n lC 0 (stepProd s.x).s.cursor
    rw [eK, eh, en]; exact g1
  · intro k j hk hj
    show HKnow clocks (Covers (stepProd s.x).s.K (stepProd s.x).s.h (stepProd s.x).s.n) k j
      ((stepProd s.x).s.cons k j) (s.vcC k j) (s.lcH k j)
    rw [eK, eh, en, ec]; exact hH.hc k j (eK ▸ hk) (eh ▸ hj)
  · intro k j hk hj; exact g3 k j (eK ▸ hk) (eh ▸ hj)
  · show ((stepProd s.x).p.pc = .gateLoad ∨ (stepProd s.x).p.pc = .drainLoad) → ∀ m, (stepProd s.x).p.acc = some m →
         (0 < (stepProd s.x).p.idx → ∀ k j, k < (stepProd s.x).s.K - 1 → j < (stepProd s.x).s.h k → m ≤ vP.ha k j) ∧
         (∀ d, d < (stepProd s.x).p.idx → m ≤ vP.ha ((stepProd s.x).s.K - 1) d)
    rw [eK, eh]; exact g4

/-- a producer step that touches neither its clock nor its cursor (mutex / condvar / `is_done` operations, internal
branches of `next` and `drain`) -/
theorem hinv_prod_quiet (s : HSt) (hH : HInv s)
    (hcur : (stepProd s.x).s.cursor = s.x.s.cursor)
    (hpw : (if (stepProd s.x).p.pc = .write then (stepProd s.x).p.w else (stepProd s.x).p.nextWrite) =
           (if s.x.p.pc = .write then s.x.p.w else s.x.p.nextWrite))
    (hmin : ((stepProd s.x).p.min = s.x.p.min ∨ (stepProd s.x).p.min = s.x.p.cached) ∧
            ((stepProd s.x).p.cached = s.x.p.cached ∨ (stepProd s.x).p.cached = s.x.p.min))
    (hacc : ((stepProd s.x).p.pc = .gateLoad ∨ (stepProd s.x).p.pc = .drainLoad) → (stepProd s.x).p.acc = none) :
    HInv { s with x := stepProd s.x, vcP := s.vcP, lcCur := s.lcCur } := by
  apply hinv_prod_frame s hH s.vcP s.lcCur
  · rw [hcur]; exact hH.lCur
  · rw [hpw]; exact hH.pOwn
  · intro k j hk hj
    have := hH.pMin k j hk hj
    rcases hmin with ⟨h1 | h1, h2 | h2⟩ <;> rw [h1, h2] <;> simp [this]
  · intro h m hm; rw [hacc h] at hm; cases hm
  · exact Nat.le_refl _
  · exact hH.zP
  · exact hH.zCur

/-- program points of the producer that neither load nor store a cursor, nor write a slot, nor move `min`/`cached`
in a way that needs the producer invariant -/
def quietP : PPc → Bool
  | .gateCheck | .gateLoad | .drainLoad | .write | .publish => false
  | _ => true

theorem stepProd_quiet (x : PSt) (hq : quietP x.p.pc = true) :
    (stepProd x).s.cursor = x.s.cursor ∧ (stepProd x).p.pc ≠ .write ∧ (stepProd x).p.nextWrite = x.p.nextWrite ∧
    ((stepProd x).p.min = x.p.min ∨ (stepProd x).p.min = x.p.cached) ∧ (stepProd x).p.cached = x.p.cached ∧
    (((stepProd x).p.pc = .gateLoad ∨ (stepProd x).p.pc = .drainLoad) → (stepProd x).p.acc = none) := by
  cases hpc : x.p.pc <;> simp only [hpc, quietP, Bool.false_eq_true] at hq <;>
    simp only [stepProd, hpc] <;> (repeat' split) <;> simp [hpc]

/-- the two load loops (`gateLoad` in `next`, `drainLoad` in `drain`) are the same code -/
theorem stepProd_load (x : PSt) (hpc : x.p.pc = .gateLoad ∨ x.p.pc = .drainLoad) :
    stepProd x =
      if x.p.idx < ngate x.s then { x with p := { x.p with acc := minOpt x.p.acc (gate x.s x.p.idx), idx := x.p.idx + 1 } }
      else { x with p := { x.p with min := x.p.acc.getD 0,
                                    pc := if x.p.pc = .gateLoad then .gateCheck else .drainCheck } } := by
  rcases hpc with h | h <;> simp [stepProd, h]

theorem prod_clocks_quiet (set get : Ord) (s : HSt) (hq : quietP s.x.p.pc = true) :
    prodV get s = s.vcP ∧ prodL set s = s.lcCur := by
  cases hpc : s.x.p.pc <;> simp only [hpc, quietP, Bool.false_eq_true] at hq <;> simp [prodV, prodL, hpc]

/-- `gateLoad` / `drainLoad`: an acquire load of the gating cursor `idx`, whose clock covers its value as seen from the last
stage; when all are loaded, the minimum is known for every handler of every stage -/
theorem hinv_prod_load (set get : Ord) (hget : get.isAcquire = true) (s : HSt) (hP : PInvAll s.x) (hH : HInv s)
    (hpc : s.x.p.pc = .gateLoad ∨ s.x.p.pc = .drainLoad) :
    HInv { s with x := stepProd s.x, vcP := prodV get s, lcCur := prodL set s } := by
  obtain ⟨hI, hK, hPI, _⟩ := hP
  have hgpos := ngate_pos s.x.s hI.1 hK
  have e3 : prodL set s = s.lcCur := by rcases hpc with h | h <;> simp [prodL, h]
  have hst := stepProd_load s.x hpc
  rw [e3]
  by_cases hlt : s.x.p.idx < ngate s.x.s
  · have e2 : prodV get s = s.vcP.join (s.lcH (s.x.s.K - 1) s.x.p.idx) := by
      rcases hpc with h | h <;> simp [prodV, h, hlt, loadClock, hget]
    obtain ⟨gc1, gc2⟩ := (hH.hc (s.x.s.K - 1) s.x.p.idx (by omega) (by simpa [ngate] using hlt)).lH
    have hpw : (s.vcP.join (s.lcH (s.x.s.K - 1) s.x.p.idx)).pw = s.vcP.pw := Nat.max_eq_left (hH.zH _ _).1
    rw [if_pos hlt] at hst
    rw [e2]
    apply hinv_prod_frame s hH _ s.lcCur <;> (try rw [hst])
    · exact hH.lCur
    · rw [hpw]; exact hH.pOwn
    · intro k j hk hj
      have h1 := hH.pMin k j hk hj
      have h2 := (le_join_left s.vcP (s.lcH (s.x.s.K - 1) s.x.p.idx)).2 k j
      exact ⟨Nat.le_trans h1.1 h2, Nat.le_trans h1.2 h2⟩
    · intro _ m hm
      refine ⟨fun _ k j hk hj => ?_, minOpt_step_le_of_le _ _ _ _ (fun m0 hacc d hd => ?_) (hPI.accSome hpc) ?_ m hm⟩
      · exact Nat.le_trans (Nat.le_trans (minOpt_le _ _ _ hm).1 (gc1.prev k j hk (by omega) hj)) (Nat.le_max_right _ _)
      · exact Nat.le_trans ((hH.pLd hpc m0 hacc).2 d hd) (Nat.le_max_left _ _)
      · exact Nat.le_trans gc2 (Nat.le_max_right _ _)
    · rw [hpw]; exact Nat.le_refl _
    · rw [hpw]; exact hH.zP.join (hH.zH _ _)
    · rw [hpw]; exact hH.zCur
  · have e2 : prodV get s = s.vcP := by rcases hpc with h | h <;> simp [prodV, h, hlt]
    rw [if_neg hlt] at hst
    rw [e2]
    apply hinv_prod_frame s hH s.vcP s.lcCur <;> (try rw [hst])
    · exact hH.lCur
    · rw [hH.pOwn]; rcases hpc with h | h <;> simp [h]
    · intro k j hk hj
      refine ⟨?_, (hH.pMin k j hk hj).2⟩
      have hidx : s.x.p.idx = ngate s.x.s := by have := hPI.idxLe hpc; omega
      have hsome := hPI.accSome hpc (by omega)
      show s.x.p.acc.getD 0 ≤ _
      cases hacc : s.x.p.acc with
      | none => simp [hacc] at hsome
      | some m =>
        obtain ⟨b1, b2⟩ := hH.pLd hpc m hacc
        by_cases hkl : k < s.x.s.K - 1
        · exact b1 (by omega) k j hkl hj
        · have : k = s.x.s.K - 1 := by omega
          subst this
          exact b2 j (by rw [hidx]; simpa [ngate] using hj)
    · intro h; rcases hpc with h' | h' <;> simp [h'] at h
    · exact Nat.le_refl _
    · exact hH.zP
    · exact hH.zCur

theorem hinv_prod_write (set get : Ord) (s : HSt) (hP : PInvAll s.x) (hH : HInv s) (hpc : s.x.p.pc = .write) :
    HInv { s with x := stepProd s.x, vcP := prodV get s, lcCur := prodL set s } := by
  have e3 : prodL set s = s.lcCur := by simp [prodL, hpc]
  have hwr := hP.2.2.1.wr (by simp [hpc])
  have a7 := hH.pOwn
  rw [e3]
  by_cases hle : s.x.p.w ≤ s.x.p.stop
  · have e2 : prodV get s = s.vcP.incP := by simp [prodV, hpc, hle]
    have hst : stepProd s.x =
        { s.x with p := { s.x.p with w := s.x.p.w + 1, written := s.x.p.written ++ [s.x.p.w] } } := by
      simp [stepProd, hpc, hle]
    rw [e2]
    apply hinv_prod_frame s hH _ s.lcCur <;> (try rw [hst])
    · exact hH.lCur
    · rw [if_pos hpc] at a7; show s.vcP.pw + 1 = _; rw [if_pos hpc, a7]
    · exact hH.pMin
    · intro h; rcases h with h | h <;> rw [hpc] at h <;> cases h
    · exact Nat.le_succ _
    · exact ⟨Nat.le_refl _, hH.zP.2⟩
    · exact ⟨Nat.le_trans hH.zCur.1 (Nat.le_succ _), hH.zCur.2⟩
  · have e2 : prodV get s = s.vcP := by simp [prodV, hpc, hle]
    have hst : stepProd s.x = { s.x with p := { s.x.p with pc := .publish } } := by simp [stepProd, hpc, hle]
    rw [e2]
    apply hinv_prod_quiet s hH <;> rw [hst]
    · simp only [hpc, reduceCtorEq, if_false, if_true]; omega
    · exact ⟨Or.inl rfl, Or.inl rfl⟩
    · intro h; rcases h with h | h <;> cases h

/-- `publish`, `cursor.set(hi)`: a release store of the producer cursor; the published value is covered by the producer's
clock -/
theorem hinv_prod_publish (set get : Ord) (hset : set.isRelease = true) (s : HSt) (hP : PInvAll s.x) (hH : HInv s)
    (hpc : s.x.p.pc = .publish) : HInv { s with x := stepProd s.x, vcP := prodV get s, lcCur := prodL set s } := by
  have e2 : prodV get s = s.vcP := by simp [prodV, hpc]
  have e3 : prodL set s = s.vcP := by simp [prodL, hpc, storeClock, hset]
  have hwr := hP.2.2.1.wr (by simp [hpc])
  have a7 := hH.pOwn
  have hs : (stepProd s.x).s.cursor = s.x.p.stop ∧ (stepProd s.x).p.min = s.x.p.min ∧
      (stepProd s.x).p.cached = s.x.p.cached ∧ (stepProd s.x).p.nextWrite = s.x.p.nextWrite ∧
      ((stepProd s.x).p.pc = .pLock ∨ (stepProd s.x).p.pc = .start) := by
    simp only [stepProd, hpc]; split <;> simp
  obtain ⟨hs1, hs2, hs3, hs4, hs5⟩ := hs
  rw [e2, e3]
  apply hinv_prod_frame s hH s.vcP s.vcP
  · rw [hs1]
    refine ⟨?_, ?_, ?_⟩
    · intro _; simp [hpc] at a7; omega
    · intro k' j' h0; omega
    · intro k' j' hk' hj'; have := (hH.pMin k' j' hk' hj').1; omega
  · rw [a7, hs4]; rcases hs5 with h' | h' <;> simp [hpc, h']
  · rw [hs2, hs3]; exact hH.pMin
  · intro h; rcases hs5 with h' | h' <;> rcases h with h | h <;> simp [h'] at h
  · exact Nat.le_refl _
  · exact hH.zP
  · exact hH.zP

theorem hinv_prod_gateCheck (set get : Ord) (s : HSt) (hP : PInvAll s.x) (hH : HInv s) (hpc : s.x.p.pc = .gateCheck) :
    HInv { s with x := stepProd s.x, vcP := prodV get s, lcCur := prodL set s } := by
  have e2 : prodV get s = s.vcP := by simp [prodV, hpc]
  have e3 : prodL set s = s.lcCur := by simp [prodL, hpc]
  have hcl := hP.2.2.1.claim (by simp [hpc])
  rw [e2, e3]
  apply hinv_prod_quiet s hH <;> simp only [stepProd, hpc] <;> split <;> simp
  omega

theorem hinv_prod (set get : Ord) (hset : set.isRelease = true) (hget : get.isAcquire = true)
    (s : HSt) (hP : PInvAll s.x) (hH : HInv s) : HInv (stepH set get s .prod) := by
  simp only [stepH]
  by_cases hq : quietP s.x.p.pc = true
  ·
    obtain ⟨e1, e2, e3, e4, e5, e6⟩ := stepProd_quiet s.x hq
    have hw : s.x.p.pc ≠ .write := fun h => by rw [h] at hq; cases hq
    rw [(prod_clocks_quiet set get s hq).1, (prod_clocks_quiet set get s hq).2]
    exact hinv_prod_quiet s hH e1 (by rw [if_neg e2, if_neg hw, e3]) ⟨e4, Or.inl e5⟩ e6
  cases hpc : s.x.p.pc <;> simp only [hpc, quietP, not_true_eq_false] at hq
  case gateLoad => exact hinv_prod_load set get hget s hP hH (Or.inl hpc)
  case drainLoad => exact hinv_prod_load set get hget s hP hH (Or.inr hpc)
  case write => exact hinv_prod_write set get s hP hH hpc
  case publish => exact hinv_prod_publish set get hset s hP hH hpc
  case gateCheck => exact hinv_prod_gateCheck set get s hP hH hpc

def HGood (s : HSt) : Prop := PInvAll s.x ∧ HInv s

theorem hgood_step (set get : Ord) (hset : set.isRelease = true) (hget : get.isAcquire = true)
    (s : HSt) (t : Tid) (h : HGood s) : HGood (stepH set get s t) := by
  refine ⟨?_, ?_⟩
  · rw [stepH_x]; exact inv_stepX s.x t h.1
  · cases t with
    | prod => exact hinv_prod set get hset hget s h.1 h.2
    | cons k j =>
      by_cases hv : k < s.x.s.K ∧ j < s.x.s.h k
      · exact hinv_cons set get hset hget s k j hv.1 hv.2 h.1 h.2
      · simp only [stepH, hv, if_false]; exact h.2

theorem hgood_run (set get : Ord) (hset : set.isRelease = true) (hget : get.isAcquire = true)
    (s : HSt) (sched : List Tid) (h : HGood s) : HGood (runH set get s sched) := by
  unfold runH
  induction sched generalizing s with
  | nil => exact h
  | cons t ts ih => exact ih _ (hgood_step set get hset hget s t h)

theorem hgood_init (n K : Nat) (h : Nat → Nat) (blocking : Bool) (batches : List Nat)
    (hK : 0 < K) (hh : ∀ k, k < K → 0 < h k) (hb : ∀ b, b ∈ batches → 1 ≤ b) :
    HGood (mkH n K h blocking batches) := by
  have hz : ∀ (op : Nat) (oh : Nat → Nat → Nat), Dom op oh {} := fun _ _ => ⟨Nat.zero_le _, fun _ _ => Nat.zero_le _⟩
  have hcov : ∀ k, Covers K h n {} k 0 := fun k => ⟨fun h0 => absurd h0 (by omega), fun _ _ _ _ _ => Nat.zero_le _, fun _ _ _ _ => Nat.zero_le _⟩
  refine ⟨inv_init n K h blocking batches hK hh hb, hcov 0, fun k j _ _ => ?_, rfl, fun _ _ _ _ => ⟨Nat.le_refl _, Nat.le_refl _⟩,
    fun hp => ?_, hz _ _, fun _ _ => hz _ _, fun _ _ => hz _ _, hz _ _⟩
  · exact ⟨⟨hcov k, Nat.le_refl _⟩, rfl, hcov k, fun _ => hcov k, fun hp => by cases hp⟩
  · simp [mkH, mk] at hp

end RingHB
