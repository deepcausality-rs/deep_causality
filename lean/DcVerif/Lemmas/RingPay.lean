import DcVerif.Model.RingPay
import DcVerif.Lemmas.Ring
/-!
Slot contents along every schedule: each live slot holds the written value transformed by exactly those mutable handlers
that have already handled its sequence; hence what a handler of stage `k` sees for sequence `i` is the written value
transformed by all mutable handlers of the stages below `k`, in stage order (`PayInv.saw`).

The two counters the invariant is stated with are lengths of ghost lists of `Model/Ring.lean` — a handler's `progress` is
the length of its `log`, the producer's `wNext` the length of `written` — so how a step moves them is read off how it
extends the list. What a handler call does to the expected content of a slot (`expectUpTo_stepC`, `expectUpTo_handling`,
`expectUpTo_handled`, `slot_handled`) is a fact about `Ring.St` alone and serves the multi-producer layer as well.
-/
namespace RingPay
open Ring

structure PayInv (c : PCfg) (s : PaySt) : Prop where
  fits  : ∀ k j, k < s.x.s.K → j < s.x.s.h k → wNext s.x.p ≤ (s.x.s.cons k j).cur + s.x.s.n + 1
  slots : ∀ q, q < wNext s.x.p → wNext s.x.p ≤ q + s.x.s.n →
            s.slot (q % s.x.s.n) = expectUpTo c s.x.s s.x.s.K q (c.pay q)
  saw   : ∀ k j, k < s.x.s.K → j < s.x.s.h k → ∀ e, e ∈ s.seen k j → e.2 = expectBelow c k (c.pay e.1)

theorem mod_ne_of_close {a b n : Nat} (hab : a < b) (hn : b < a + n) : a % n ≠ b % n := by
  intro heq
  have h2 : (b - a) % n = 0 := Nat.sub_mod_eq_zero_of_mod_eq heq.symm
  have h3 : b - a < n := by omega
  rw [Nat.mod_eq_of_lt h3] at h2
  omega

theorem mod_ne_of_window {q i w n : Nat} (hq : q < w) (hqn : w ≤ q + n) (hi : i < w) (hin : w ≤ i + n) (hne : q ≠ i) :
    q % n ≠ i % n := by
  rcases Nat.lt_or_gt_of_ne hne with h | h
  · exact mod_ne_of_close h (by omega)
  · exact fun e => mod_ne_of_close h (by omega) e.symm

theorem stepCons_log (s : St) (k j : Nat) (c : Cons) :
    (stepCons s k j c).log = if c.pc = .handle ∧ c.i ≤ c.avail then c.log ++ [c.i] else c.log := by
  cases hpc : c.pc <;> simp only [stepCons, hpc, reduceCtorEq, false_and, true_and, if_false] <;> (repeat' split) <;> rfl

theorem log_eq_range_progress {s : St} {k : Nat} {c : Cons} (h : CInv s k c) : c.log = List.range' 1 (progress c) := by
  unfold progress
  split
  · exact h.logH ‹_›
  · split
    · exact h.logP ‹_›
    · exact h.logO ‹_› ‹_›

theorem progress_eq_length {s : St} {k : Nat} {c : Cons} (h : CInv s k c) : progress c = c.log.length := by
  rw [log_eq_range_progress h, List.length_range']

theorem progress_stepCons (s : St) (k j : Nat) (hk : k < s.K) (hI : Inv s) (cc : Cons) (h : CInv s k cc) :
    progress (stepCons s k j cc) = if cc.pc = .handle ∧ cc.i ≤ cc.avail then progress cc + 1 else progress cc := by
  rw [progress_eq_length (own_step s k j hk hI cc h), progress_eq_length h, stepCons_log]
  split
  · rw [List.length_append]; rfl
  · rfl

theorem progress_between {s : St} {k : Nat} {cc : Cons} (h : CInv s k cc) :
    cc.cur ≤ progress cc ∧ ∀ d, d < ndeps s k → progress cc ≤ dep s k d := by
  unfold progress
  split
  · rename_i hp
    have := h.iGe hp; have := h.nextEq (by simp [hp]); have := h.iLe hp
    exact ⟨by omega, fun d hd => by have := h.availLe (by simp [hp]) d hd; omega⟩
  · split
    · rename_i _ hp
      exact ⟨by have := h.curAvail (by simp [hp]); omega, h.availLe (by simp [hp])⟩
    · exact ⟨Nat.le_refl _, h.curDep⟩

theorem mem_log_of_le_cur (s : St) (hI : Inv s) (k j : Nat) (hk : k < s.K) (hj : j < s.h k) (q : Nat) (h1 : 1 ≤ q)
    (h2 : q ≤ (s.cons k j).cur) : q ∈ (s.cons k j).log := by
  have hc := hI.2 k j hk hj
  have := (progress_between hc).1
  rw [log_eq_range_progress hc, List.mem_range'_1]; omega

theorem progress_handle {s : St} {k : Nat} {cc : Cons} (h : CInv s k cc) (hp : cc.pc = .handle) :
    progress cc + 1 = cc.i := by
  have := h.iGe hp; have := h.nextEq (by simp [hp])
  simp only [progress, hp, if_true]; omega

theorem progress_le_earlier_cur (s : St) (hI : Inv s) (k j : Nat) (hk : k < s.K) (hj : j < s.h k)
    (k' j' : Nat) (hk' : k' < k) (hj' : j' < s.h k') : progress (s.cons k j) ≤ (s.cons k' j').cur :=
  le_earlier_cur s hI k _ (Nat.le_of_lt hk) (progress_between (hI.2 k j hk hj)).2 k' j' hk' hj'

theorem handling_le_earlier (s : St) (hI : Inv s) (k j : Nat) (hk : k < s.K) (hj : j < s.h k)
    (hpc : (s.cons k j).pc = .handle) (hi : (s.cons k j).i ≤ (s.cons k j).avail)
    (k' j' : Nat) (hk' : k' < k) (hj' : j' < s.h k') : (s.cons k j).i ≤ progress (s.cons k' j') :=
  Nat.le_trans hi (Nat.le_trans
    (le_earlier_cur s hI k _ (by omega) ((hI.2 k j hk hj).availLe (by simp [hpc])) k' j' hk' hj')
    (progress_between (hI.2 k' j' (by omega) hj')).1)

theorem expectUpTo_congr (c : PCfg) (s s' : St) (K' q v : Nat)
    (h : ∀ k', k' < K' → c.mutH k' 0 = true → (q ≤ progress (s'.cons k' 0) ↔ q ≤ progress (s.cons k' 0))) :
    expectUpTo c s' K' q v = expectUpTo c s K' q v := by
  induction K' with
  | zero => rfl
  | succ K' ih =>
    simp only [expectUpTo]
    rw [ih (fun k' hk' hm => h k' (by omega) hm)]
    by_cases hm : c.mutH K' 0 = true
    · have := h K' (by omega) hm
      simp only [hm, true_and, this]
    · simp [hm]

theorem expectUpTo_unapplied (c : PCfg) (s : St) (q v k : Nat) :
    ∀ K', k ≤ K' → (∀ k', k ≤ k' → k' < K' → c.mutH k' 0 = true → ¬ q ≤ progress (s.cons k' 0)) →
      expectUpTo c s K' q v = expectUpTo c s k q v := by
  intro K'
  induction K' with
  | zero => intro hk _; have : k = 0 := by omega
            subst this; rfl
  | succ K' ih =>
    intro hk h
    by_cases he : k = K' + 1
    · subst he; rfl
    · simp only [expectUpTo]
      rw [ih (by omega) (fun k' h1 h2 hm => h k' h1 (by omega) hm)]
      by_cases hm : c.mutH K' 0 = true
      · have := h K' (by omega) (by omega) hm
        simp [this]
      · simp [hm]

theorem expectUpTo_applied (c : PCfg) (s : St) (q v : Nat) (hq : 1 ≤ q) :
    ∀ k, (∀ k', k' < k → c.mutH k' 0 = true → q ≤ progress (s.cons k' 0)) →
      expectUpTo c s k q v = expectBelow c k v := by
  intro k
  induction k with
  | zero => intro _; rfl
  | succ k ih =>
    intro h
    simp only [expectUpTo, expectBelow]
    rw [ih (fun k' hk' hm => h k' (by omega) hm)]
    by_cases hm : c.mutH k 0 = true
    · have := h k (by omega) hm
      simp [hm, hq, this]
    · simp [hm]

theorem expectUpTo_zero (c : PCfg) (s : St) (K' v : Nat) : expectUpTo c s K' 0 v = v := by
  induction K' with
  | zero => rfl
  | succ K' ih => simp [expectUpTo, ih]

theorem expectUpTo_cons_eq (c : PCfg) {s s' : St} (h : s'.cons = s.cons) (K' q v : Nat) :
    expectUpTo c s' K' q v = expectUpTo c s K' q v :=
  expectUpTo_congr c s s' K' q v (by intro k' _ _; rw [h])

theorem cur_le_stepC (s : St) (hI : Inv s) (k j : Nat) (hk : k < s.K) (hj : j < s.h k) (k' j' : Nat) :
    (s.cons k' j').cur ≤ ((stepC s k j).cons k' j').cur := by
  by_cases he : k' = k ∧ j' = j
  · obtain ⟨rfl, rfl⟩ := he
    rw [stepC_own]; exact cur_mono s k' j' _ (hI.2 k' j' hk hj)
  · rw [stepC_other _ _ _ _ _ he]; exact Nat.le_refl _

theorem expectUpTo_stepC (c : PCfg) (s : St) (hI : Inv s) (k j : Nat) (hk : k < s.K) (hj : j < s.h k) (K' q v : Nat)
    (h : k < K' → (s.cons k j).pc = .handle ∧ (s.cons k j).i ≤ (s.cons k j).avail → q ≠ (s.cons k j).i) :
    expectUpTo c (stepC s k j) K' q v = expectUpTo c s K' q v := by
  apply expectUpTo_congr
  intro k' hk' _
  by_cases he : k' = k ∧ (0 : Nat) = j
  · obtain ⟨rfl, rfl⟩ := he
    rw [stepC_own, progress_stepCons s k' 0 hk hI _ (hI.2 k' 0 hk hj)]
    split
    · rename_i hh
      have := h hk' hh; have := progress_handle (hI.2 k' 0 hk hj) hh.1; omega
    · exact Iff.rfl
  · rw [stepC_other _ _ _ _ _ he]

theorem handling_not_reached (c : PCfg) (s : St) (hI : Inv s) (hT : Topo c s) (k j : Nat) (hk : k < s.K) (hj : j < s.h k)
    (hpc : (s.cons k j).pc = .handle) (k' : Nat) (hkk : k ≤ k') (hk' : k' < s.K) (hm : c.mutH k' 0 = true) :
    ¬ (s.cons k j).i ≤ progress (s.cons k' 0) := by
  have hci := hI.2 k j hk hj
  have hpos := hI.1 k' hk'
  by_cases he : k' = k
  · -- a mutable handler is alone in its stage
    subst he
    have : j = 0 := by have := hT k' 0 hk hpos hm; omega
    subst this
    have := progress_handle hci hpc; omega
  · have := progress_le_earlier_cur s hI k' 0 hk' hpos k j (by omega) hj
    have := hci.iGe hpc; have := hci.nextEq (by simp [hpc]); omega

theorem expectUpTo_handling (c : PCfg) (s : St) (hI : Inv s) (hT : Topo c s) (k j : Nat) (hk : k < s.K) (hj : j < s.h k)
    (hpc : (s.cons k j).pc = .handle) (hi : (s.cons k j).i ≤ (s.cons k j).avail) (v : Nat) :
    expectUpTo c s s.K (s.cons k j).i v = expectBelow c k v := by
  have hi1 : 1 ≤ (s.cons k j).i := by have := progress_handle (hI.2 k j hk hj) hpc; omega
  rw [expectUpTo_unapplied c s _ _ k s.K (by omega) (fun k' => handling_not_reached c s hI hT k j hk hj hpc k'),
    expectUpTo_applied c s _ _ hi1 k
      (fun k' hkk _ => handling_le_earlier s hI k j hk hj hpc hi k' 0 hkk (hI.1 k' (by omega)))]

theorem expectUpTo_handled (c : PCfg) (s : St) (hI : Inv s) (hT : Topo c s) (k j : Nat) (hk : k < s.K) (hj : j < s.h k)
    (hpc : (s.cons k j).pc = .handle) (hi : (s.cons k j).i ≤ (s.cons k j).avail) (v : Nat) :
    expectUpTo c (stepC s k j) s.K (s.cons k j).i v =
      if c.mutH k j then c.tf k j (expectBelow c k v) else expectBelow c k v := by
  have hci := hI.2 k j hk hj
  have hpi := progress_handle hci hpc
  -- stages above `k` still have not reached `i`, stages below are unchanged
  rw [expectUpTo_unapplied c (stepC s k j) _ _ (k + 1) s.K (by omega)
    (by intro k' hkk hk' hm
        rw [stepC_other _ _ _ _ _ (by omega)]
        exact handling_not_reached c s hI hT k j hk hj hpc k' (by omega) hk' hm)]
  simp only [expectUpTo]
  rw [expectUpTo_stepC c s hI k j hk hj k _ _ (fun h => absurd h (Nat.lt_irrefl k)),
    expectUpTo_applied c s _ _ (by omega) k
      (fun k' hkk _ => handling_le_earlier s hI k j hk hj hpc hi k' 0 hkk (hI.1 k' (by omega)))]
  by_cases hm : c.mutH k 0 = true
  · have : j = 0 := by have := hT k 0 hk (hI.1 k hk) hm; omega
    subst this
    rw [stepC_own, progress_stepCons s k 0 hk hI _ hci]
    simp only [hm, hpc, hi, and_self, if_true, true_and]
    rw [if_pos (by omega)]
  · have hmj : c.mutH k j = false := by
      cases hc' : c.mutH k j
      · rfl
      · have : j = 0 := by have := hT k j hk hj hc'; omega
        subst this; exact absurd hc' hm
    simp only [hm, hmj, false_and, if_false, Bool.false_eq_true]

theorem slot_handled (c : PCfg) (s : St) (hI : Inv s) (hT : Topo c s) (k j : Nat) (hk : k < s.K) (hj : j < s.h k)
    (hpc : (s.cons k j).pc = .handle) (hi : (s.cons k j).i ≤ (s.cons k j).avail) (slot val : Nat → Nat)
    (hv : slot ((s.cons k j).i % s.n) = expectUpTo c s s.K (s.cons k j).i (val (s.cons k j).i))
    (q : Nat) (hq : slot (q % s.n) = expectUpTo c s s.K q (val q))
    (hmod : q ≠ (s.cons k j).i → q % s.n ≠ (s.cons k j).i % s.n) :
    (if c.mutH k j then updN slot ((s.cons k j).i % s.n) (c.tf k j (slot ((s.cons k j).i % s.n))) else slot) (q % s.n) =
      expectUpTo c (stepC s k j) s.K q (val q) := by
  by_cases he : q = (s.cons k j).i
  · subst he
    rw [expectUpTo_handled c s hI hT k j hk hj hpc hi, ← expectUpTo_handling c s hI hT k j hk hj hpc hi, ← hv]
    split <;> simp [updN]
  · rw [expectUpTo_stepC c s hI k j hk hj _ _ _ (fun _ _ => he), ← hq]
    split
    · simp [updN, hmod he]
    · rfl

theorem mem_updL_snoc {f : Nat → Nat → List (Nat × Nat)} {k j k' j' : Nat} {a e : Nat × Nat}
    (h : e ∈ updL f k j (f k j ++ [a]) k' j') : e ∈ f k' j' ∨ (k' = k ∧ j' = j ∧ e = a) := by
  unfold updL at h
  split at h
  · rename_i hkj
    obtain ⟨rfl, rfl⟩ := hkj
    rcases List.mem_append.1 h with h | h
    · exact Or.inl h
    · exact Or.inr ⟨rfl, rfl, List.mem_singleton.1 h⟩
  · exact Or.inl h

theorem seen_log_stepC (s : St) (k j : Nat) (seen : Nat → Nat → List (Nat × Nat)) (v : Nat)
    (h : ∀ k j, (seen k j).map (·.1) = (s.cons k j).log) (k' j' : Nat) :
    ((if (s.cons k j).pc = .handle ∧ (s.cons k j).i ≤ (s.cons k j).avail
        then updL seen k j (seen k j ++ [((s.cons k j).i, v)]) else seen) k' j').map (·.1) =
      ((stepC s k j).cons k' j').log := by
  by_cases he : k' = k ∧ j' = j
  · obtain ⟨rfl, rfl⟩ := he
    rw [stepC_own, stepCons_log, ← h]
    split <;> simp [updL]
  · rw [stepC_other _ _ _ _ _ he, ← h]
    split <;> simp [updL, he]

theorem progress_le_cursor (s : St) (hI : Inv s) (k j : Nat) (hk : k < s.K) (hj : j < s.h k) :
    progress (s.cons k j) ≤ s.cursor := by
  have := (progress_between (hI.2 k j hk hj)).2 0 (ndeps_pos s hI.1 k hk)
  unfold dep at this
  split at this
  · exact this
  · exact Nat.le_trans this (chain_up s hI (k - 1) 0 (by omega) (hI.1 (k - 1) (by omega)))

theorem ppc_phase (pc : PPc) :
    pc.idle = true ∨ (pc = .gateCheck ∨ pc = .gateLoad) ∨ (pc = .write ∨ pc = .publish) := by
  cases pc <;> simp [PPc.idle]

theorem cursor_lt_wNext (x : PSt) (hP : PInv x.s x.p) : x.s.cursor = 0 ∨ x.s.cursor + 1 ≤ wNext x.p := by
  unfold wNext
  rcases ppc_phase x.p.pc with hi | hc | hw
  · rw [if_neg (by rintro (h | h) <;> rw [h] at hi <;> cases hi)]
    rcases hP.nw hi with h1 | ⟨h1, h2⟩ <;> omega
  · rw [if_neg (by rintro (h | h) <;> rcases hc with hc | hc <;> rw [h] at hc <;> cases hc)]
    have := hP.claim hc
    rcases this.1 with h1 | ⟨h1, h2⟩ <;> omega
  · rw [if_pos hw]
    have := hP.wr hw
    rcases this.1 with h1 | ⟨h1, h2⟩ <;> omega

theorem stepProd_written (x : PSt) :
    (stepProd x).p.written = if x.p.pc = .write ∧ x.p.w ≤ x.p.stop then x.p.written ++ [x.p.w] else x.p.written := by
  cases hpc : x.p.pc <;> simp only [stepProd, hpc, reduceCtorEq, false_and, true_and, if_false] <;> (repeat' split) <;> rfl

theorem wNext_eq_length {s : St} {p : Prod} (hP : PInv s p) : wNext p = p.written.length := by
  rw [hP.wrote, List.length_range']; rfl

theorem wNext_stepProd (x : PSt) (hA : PInvAll x) :
    wNext (stepProd x).p = if x.p.pc = .write ∧ x.p.w ≤ x.p.stop then wNext x.p + 1 else wNext x.p := by
  rw [wNext_eq_length (prod_own_step x hA), wNext_eq_length hA.2.2.1, stepProd_written]
  split
  · rw [List.length_append]; rfl
  · rfl

theorem stepPay_prod (c : PCfg) (s : PaySt) : stepPay c s .prod =
    { s with x := stepX s.x .prod,
             slot := if s.x.p.pc = .write ∧ s.x.p.w ≤ s.x.p.stop
                       then updN s.slot (s.x.p.w % s.x.s.n) (c.pay s.x.p.w) else s.slot } := by
  simp only [stepPay]
  split <;> rfl

theorem payinv_prod (c : PCfg) (s : PaySt) (hA : PInvAll s.x) (h : PayInv c s) : PayInv c (stepPay c s .prod) := by
  obtain ⟨hc, hK', hh, hn, _⟩ := cons_same_prod s.x
  have hw := wNext_stepProd s.x hA
  obtain ⟨hI, hK, hP, hb⟩ := hA
  rw [stepPay_prod]
  constructor
  · intro k j hk hj
    show wNext (stepProd s.x).p ≤ ((stepProd s.x).s.cons k j).cur + (stepProd s.x).s.n + 1
    have hk : k < s.x.s.K := hK' ▸ hk
    have hj : j < s.x.s.h k := hh ▸ hj
    rw [hw, hc, hn]
    split
    · -- a slot write of `w`: the claim was checked against the slowest handler cursor
      rename_i hwr
      have := hP.wr (Or.inl hwr.1)
      have := below_all s.x.s hI hK s.x.p.min hP.minLe k j (by omega) hj
      simp only [wNext, hwr.1, true_or, if_true]; omega
    · exact h.fits k j hk hj
  · intro q hq hqn
    simp only [stepX] at hq hqn ⊢
    rw [hw] at hq hqn
    rw [hn] at hqn ⊢
    rw [hK', expectUpTo_cons_eq c hc]
    split
    · rename_i hwr
      rw [if_pos hwr] at hq hqn
      have hwn : wNext s.x.p = s.x.p.w := by simp [wNext, hwr.1]
      rw [hwn] at hq hqn
      by_cases he : q = s.x.p.w
      · -- the fresh slot: no handler has reached `w`
        subst he
        simp only [updN, if_true]
        by_cases h0 : s.x.p.w = 0
        · rw [h0, expectUpTo_zero]
        · have hcl := cursor_lt_wNext s.x hP
          have hwr' := hP.wr (Or.inl hwr.1)
          rw [hwn] at hcl
          rw [expectUpTo_unapplied c s.x.s _ _ 0 s.x.s.K (Nat.zero_le _)]
          · rfl
          · intro k' _ hk' hm hle
            have := progress_le_cursor s.x.s hI k' 0 hk' (hI.1 k' hk')
            rcases hwr'.1 with h1 | ⟨h1, h2⟩ <;> omega
      · have hlt : q < s.x.p.w := by omega
        have hne := mod_ne_of_close hlt (by omega : s.x.p.w < q + s.x.s.n)
        simp only [updN, hne, if_false]
        exact h.slots q (by omega) (by omega)
    · rename_i hnw
      rw [if_neg hnw] at hq hqn
      exact h.slots q hq hqn
  · intro k j hk hj e he
    exact h.saw k j (hK' ▸ hk) (hh ▸ hj) e he

theorem payinv_cons (c : PCfg) (s : PaySt) (k j : Nat) (hk : k < s.x.s.K) (hj : j < s.x.s.h k)
    (hA : PInvAll s.x) (hT : Topo c s.x.s) (h : PayInv c s) : PayInv c (stepPay c s (.cons k j)) := by
  obtain ⟨hI, hK, hP, hb⟩ := hA
  have hx : stepX s.x (.cons k j) = { s.x with s := stepC s.x.s k j } := by simp [stepX, hk, hj]
  have hfits : ∀ k' j', k' < s.x.s.K → j' < s.x.s.h k' →
      wNext s.x.p ≤ ((stepC s.x.s k j).cons k' j').cur + s.x.s.n + 1 := fun k' j' hk' hj' => by
    have := h.fits k' j' hk' hj'; have := cur_le_stepC s.x.s hI k j hk hj k' j'; omega
  simp only [stepPay, hk, hj, and_self, if_true]
  split
  · -- the handler is invoked for `i`, which is inside the window of live slots
    rename_i hh
    have hci := hI.2 k j hk hj
    have hiw : (s.x.s.cons k j).i < wNext s.x.p := by
      have := avail_le_cursor s.x.s hI k j hk hj (by simp [hh.1])
      have := progress_handle hci hh.1
      rcases cursor_lt_wNext s.x hP with h0 | h0 <;> omega
    have hiw' : wNext s.x.p ≤ (s.x.s.cons k j).i + s.x.s.n := by
      have := h.fits k j hk hj; have := hci.iGe hh.1; have := hci.nextEq (by simp [hh.1]); omega
    have hv := h.slots _ hiw hiw'
    refine ⟨by rw [hx]; exact hfits, ?_, ?_⟩
    · intro q hq hqn
      rw [hx] at hq hqn ⊢
      exact slot_handled c s.x.s hI hT k j hk hj hh.1 hh.2 s.slot c.pay hv q (h.slots q hq hqn)
        (mod_ne_of_window hq hqn hiw hiw')
    · intro k' j' hk' hj' e he
      rw [hx] at hk' hj'
      rcases mem_updL_snoc he with he | ⟨rfl, rfl, rfl⟩
      · exact h.saw k' j' hk' hj' e he
      · exact hv.trans (expectUpTo_handling c s.x.s hI hT k' j' hk hj hh.1 hh.2 _)
  ·
    rename_i hnh
    refine ⟨by rw [hx]; exact hfits, ?_, ?_⟩
    · intro q hq hqn
      rw [hx] at hq hqn ⊢
      show s.slot (q % s.x.s.n) = expectUpTo c (stepC s.x.s k j) s.x.s.K q (c.pay q)
      rw [expectUpTo_stepC c s.x.s hI k j hk hj _ _ _ (fun _ hh => absurd hh hnh)]
      exact h.slots q hq hqn
    · intro k' j' hk' hj' e he
      rw [hx] at hk' hj'
      exact h.saw k' j' hk' hj' e he

theorem Topo.congr {c : PCfg} {s s' : St} (h : Topo c s) (hK : s'.K = s.K) (hh : s'.h = s.h) : Topo c s' := by
  intro k j hk hj hm
  rw [hK] at hk; rw [hh] at hj ⊢
  exact h k j hk hj hm

theorem topo_step (c : PCfg) (x : PSt) (t : Tid) (h : Topo c x.s) : Topo c (stepX x t).s := by
  cases t with
  | prod => exact h.congr (cons_same_prod x).2.1 (cons_same_prod x).2.2.1
  | cons k j =>
    show Topo c (if k < x.s.K ∧ j < x.s.h k then { x with s := stepC x.s k j } else x).s
    split <;> exact h

def PayGood (c : PCfg) (s : PaySt) : Prop := PInvAll s.x ∧ Topo c s.x.s ∧ PayInv c s

theorem paygood_step (c : PCfg) (s : PaySt) (t : Tid) (h : PayGood c s) : PayGood c (stepPay c s t) := by
  obtain ⟨hA, hT, hP⟩ := h
  refine ⟨by rw [stepPay_x]; exact inv_stepX s.x t hA, by rw [stepPay_x]; exact topo_step c s.x t hT, ?_⟩
  cases t with
  | prod => exact payinv_prod c s hA hP
  | cons k j =>
    by_cases hkj : k < s.x.s.K ∧ j < s.x.s.h k
    · exact payinv_cons c s k j hkj.1 hkj.2 hA hT hP
    · have : stepPay c s (.cons k j) = s := by simp [stepPay, hkj]
      rw [this]; exact hP

theorem paygood_run (c : PCfg) (s : PaySt) (sched : List Tid) (h : PayGood c s) : PayGood c (runPay c s sched) :=
  List.foldlRecOn sched (stepPay c) h (fun s hs t _ => paygood_step c s t hs)

theorem paygood_init (c : PCfg) (n K : Nat) (h : Nat → Nat) (blocking : Bool) (batches : List Nat)
    (hK : 0 < K) (hh : ∀ k, k < K → 0 < h k) (hb : ∀ b, b ∈ batches → 1 ≤ b)
    (hT : ∀ k j, k < K → j < h k → c.mutH k j = true → h k = 1) :
    PayGood c (mkPay n K h blocking batches) := by
  refine ⟨inv_init n K h blocking batches hK hh hb, hT, ?_⟩
  constructor
  · intro k j _ _; simp [mkPay, mk, wNext]
  · intro q hq; simp [mkPay, mk, wNext] at hq
  · intro k j _ _ e he; simp [mkPay] at he

theorem seen_eq_log_step (c : PCfg) (s : PaySt) (t : Tid)
    (h : ∀ k j, (s.seen k j).map (·.1) = (s.x.s.cons k j).log) :
    ∀ k j, ((stepPay c s t).seen k j).map (·.1) = ((stepPay c s t).x.s.cons k j).log := by
  intro k' j'
  cases t with
  | prod =>
    rw [stepPay_prod]
    show (s.seen k' j').map (·.1) = ((stepProd s.x).s.cons k' j').log
    rw [(cons_same_prod s.x).1]; exact h k' j'
  | cons k j =>
    simp only [stepPay, stepX]
    split
    · have := seen_log_stepC s.x.s k j s.seen (s.slot ((s.x.s.cons k j).i % s.x.s.n)) h k' j'
      split <;> rename_i hh
      · rw [if_pos hh] at this; exact this
      · rw [if_neg hh] at this; exact this
    · exact h k' j'

end RingPay
