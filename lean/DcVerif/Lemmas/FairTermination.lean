/-!
`step : S → T → S` moves the scheduled thread; a schedule is an infinite sequence `σ : Nat → T`; `run step σ s i`
is the state after the first `i` scheduled steps.

Two rules, both for a global measure `μ : S → Nat` that never increases, a predicate `ready s t` and a
per-thread `rank t : S → Nat`:

* `fair_termination` (weak fairness — every thread of `P` is scheduled infinitely often): if (A1) in every
  non-terminal state some thread of `P` is ready, (A2) a ready thread's own step decreases `μ`, or decreases its
  rank and keeps it ready, (A3) any other thread's step decreases `μ` or leaves that rank and readiness alone, then
  every weakly fair schedule reaches a terminal state.
* `fair_termination_sf` (weak fairness + strong fairness): steps may be *disabled* (`enabled s t` false — the
  scheduled step is then a stutter as far as `t`'s rank and readiness are concerned). (A2) is only required of
  enabled steps. A ready thread is enabled whenever the lock is `free`; when it is not free some thread of `P`
  `hold`s it, and the holder releases it after at most `hrank` own (always enabled) steps. Under a schedule
  that is weakly fair and *strongly* fair (a thread that is enabled infinitely often takes an enabled step infinitely
  often) every run reaches a terminal state.

The first rule is the second with `enabled = free = True`.
-/
namespace Fair

variable {S T : Type}

def run (step : S → T → S) (σ : Nat → T) (s : S) : Nat → S
  | 0 => s
  | i + 1 => step (run step σ s i) (σ i)

def WeakFair (P : T → Prop) (σ : Nat → T) : Prop := ∀ t, P t → ∀ n, ∃ m, n ≤ m ∧ σ m = t

def StrongFair (step : S → T → S) (enabled : S → T → Prop) (P : T → Prop) (σ : Nat → T) (s : S) : Prop :=
  ∀ t, P t → (∀ n, ∃ m, n ≤ m ∧ enabled (run step σ s m) t) →
    ∀ n, ∃ m, n ≤ m ∧ σ m = t ∧ enabled (run step σ s m) t

section
variable (step : S → T → S) (P : T → Prop) (I : S → Prop) (terminal : S → Prop)
  (enabled : S → T → Prop) (ready : S → T → Prop) (μ : S → Nat) (rank : T → S → Nat)
  (free : S → Prop) (hold : S → T → Prop) (hrank : S → Nat)

theorem run_inv (hI : ∀ s t, I s → I (step s t)) (σ : Nat → T) (s : S) (h0 : I s) : ∀ i, I (run step σ s i) := by
  intro i
  induction i with
  | zero => exact h0
  | succ i ih => exact hI _ _ ih

theorem run_mono (hI : ∀ s t, I s → I (step s t)) (hmono : ∀ s t, I s → μ (step s t) ≤ μ s)
    (σ : Nat → T) (s : S) (h0 : I s) (i : Nat) : ∀ d, μ (run step σ s (i + d)) ≤ μ (run step σ s i) := by
  intro d
  induction d with
  | zero => exact Nat.le_refl _
  | succ d ih =>
    have := hmono _ (σ (i + d)) (run_inv step I hI σ s h0 (i + d))
    show μ (step (run step σ s (i + d)) (σ (i + d))) ≤ _
    omega

theorem until_scheduled (σ : Nat → T) (t : T) (Q : Nat → Prop) (hQ : ∀ n, σ n ≠ t → Q n → Q (n + 1))
    (m' : Nat) (hσ : σ m' = t) : ∀ d m, m + d = m' → Q m → ∃ n, m ≤ n ∧ σ n = t ∧ Q n := by
  intro d
  induction d with
  | zero => intro m hm h; exact ⟨m, Nat.le_refl _, by rw [show m = m' by omega]; exact hσ, h⟩
  | succ d ih =>
    intro m hm h
    by_cases hs : σ m = t
    · exact ⟨m, Nat.le_refl _, hs, h⟩
    · obtain ⟨n, h1, h2⟩ := ih (m + 1) (by omega) (hQ m hs h)
      exact ⟨n, by omega, h2⟩

theorem eventually_free
    (hI : ∀ s t, I s → I (step s t))
    (hmono : ∀ s t, I s → μ (step s t) ≤ μ s)
    (hhold : ∀ s, I s → ¬ free s → ∃ u, P u ∧ hold s u)
    (hhown : ∀ s u, I s → hold s u →
        μ (step s u) < μ s ∨ free (step s u) ∨ (hrank (step s u) < hrank s ∧ hold (step s u) u))
    (hhoth : ∀ s u v, I s → hold s u → v ≠ u →
        μ (step s v) < μ s ∨ free (step s v) ∨ (hrank (step s v) ≤ hrank s ∧ hold (step s v) u))
    (σ : Nat → T) (s : S) (h0 : I s) (hwf : WeakFair P σ) :
    ∀ i, ∃ m, i ≤ m ∧ (free (run step σ s m) ∨ μ (run step σ s m) < μ (run step σ s i)) := by
  have hinv := run_inv step I hI σ s h0
  have hmon := run_mono step I μ hI hmono σ s h0
  intro i
  apply Classical.byContradiction
  intro hno
  -- otherwise, from `i` on, the lock is never free and no step lowers `μ`
  have hnf : ∀ m, i ≤ m → ¬ free (run step σ s m) := fun m hm hf => hno ⟨m, hm, Or.inl hf⟩
  have hnd : ∀ m, i ≤ m → ¬ μ (step (run step σ s m) (σ m)) < μ (run step σ s m) := by
    intro m hm hlt
    have := hmon i (m - i)
    rw [show i + (m - i) = m by omega] at this
    exact hno ⟨m + 1, by omega, Or.inr (by show μ (step _ _) < _; omega)⟩
  obtain ⟨u, hPu, hu⟩ := hhold _ (hinv i) (hnf i (Nat.le_refl _))
  -- so the holder keeps the lock, the others leave its rank alone, and each of its own turns lowers the rank
  have key : ∀ r i', i ≤ i' → hold (run step σ s i') u → hrank (run step σ s i') ≤ r → False := by
    intro r
    induction r using Nat.strongRecOn with
    | ind r ih =>
      intro i' hii' hh hr
      obtain ⟨m, hm, hσ⟩ := hwf u hPu i'
      obtain ⟨n, hn, hσn, hin, hh', hr'⟩ := until_scheduled σ u
        (fun n => i ≤ n ∧ hold (run step σ s n) u ∧ hrank (run step σ s n) ≤ r)
        (fun n hne ⟨h1, h2, h3⟩ => by
          rcases hhoth _ u (σ n) (hinv n) h2 hne with h | h | ⟨h4, h5⟩
          · exact absurd h (hnd n h1)
          · exact absurd h (hnf (n + 1) (by omega))
          · exact ⟨by omega, h5, Nat.le_trans h4 h3⟩)
        m hσ (m - i') i' (by omega) ⟨hii', hh, hr⟩
      rcases hhown _ u (hinv n) hh' with h | h | ⟨h1, h2⟩
      · exact hnd n hin (hσn ▸ h)
      · exact hnf (n + 1) (by omega) (by show free (step _ (σ n)); rw [hσn]; exact h)
      · exact ih (hrank (step (run step σ s n) u)) (by omega) (n + 1) (by omega)
          (by show hold (step _ (σ n)) u; rw [hσn]; exact h2)
          (by show hrank (step _ (σ n)) ≤ _; rw [hσn]; exact Nat.le_refl _)
  exact key _ i (Nat.le_refl _) hu (Nat.le_refl _)

theorem eventually_taken
    (hI : ∀ s t, I s → I (step s t))
    (hmono : ∀ s t, I s → μ (step s t) ≤ μ s)
    (hoth : ∀ s t u, I s → ready s t → (u ≠ t ∨ ¬ enabled s t) →
        μ (step s u) < μ s ∨ (rank t (step s u) ≤ rank t s ∧ ready (step s u) t))
    (hen : ∀ s t, I s → ready s t → free s → enabled s t)
    (hhold : ∀ s, I s → ¬ free s → ∃ u, P u ∧ hold s u)
    (hhown : ∀ s u, I s → hold s u →
        μ (step s u) < μ s ∨ free (step s u) ∨ (hrank (step s u) < hrank s ∧ hold (step s u) u))
    (hhoth : ∀ s u v, I s → hold s u → v ≠ u →
        μ (step s v) < μ s ∨ free (step s v) ∨ (hrank (step s v) ≤ hrank s ∧ hold (step s v) u))
    (σ : Nat → T) (s : S) (h0 : I s) (hwf : WeakFair P σ) (hsf : StrongFair step enabled P σ s)
    (t : T) (hPt : P t) (i : Nat) (hr : ready (run step σ s i) t) :
    ∃ m, i ≤ m ∧ (μ (run step σ s m) < μ (run step σ s i) ∨
      (σ m = t ∧ enabled (run step σ s m) t ∧ ready (run step σ s m) t ∧
       rank t (run step σ s m) ≤ rank t (run step σ s i) ∧ μ (run step σ s m) = μ (run step σ s i))) := by
  have hinv := run_inv step I hI σ s h0
  apply Classical.byContradiction
  intro hno
  have hno' : ∀ m, i ≤ m → ¬ (μ (run step σ s m) < μ (run step σ s i) ∨
      (σ m = t ∧ enabled (run step σ s m) t ∧ ready (run step σ s m) t ∧
       rank t (run step σ s m) ≤ rank t (run step σ s i) ∧ μ (run step σ s m) = μ (run step σ s i))) :=
    fun m hm h => hno ⟨m, hm, h⟩
  -- nothing ever happens to `t`
  have stay : ∀ d, μ (run step σ s (i + d)) = μ (run step σ s i) ∧ ready (run step σ s (i + d)) t ∧
      rank t (run step σ s (i + d)) ≤ rank t (run step σ s i) := by
    intro d
    induction d with
    | zero => exact ⟨rfl, hr, Nat.le_refl _⟩
    | succ d ih =>
      obtain ⟨h1, h2, h3⟩ := ih
      have hcase : σ (i + d) ≠ t ∨ ¬ enabled (run step σ s (i + d)) t := by
        by_cases hu : σ (i + d) = t
        · right
          intro he
          exact hno' (i + d) (by omega) (Or.inr ⟨hu, he, h2, h3, h1⟩)
        · exact Or.inl hu
      have hnd := hno' (i + (d + 1)) (by omega)
      have e : run step σ s (i + (d + 1)) = step (run step σ s (i + d)) (σ (i + d)) := rfl
      rw [e] at hnd ⊢
      have hle := hmono _ (σ (i + d)) (hinv (i + d))
      rcases hoth _ t (σ (i + d)) (hinv (i + d)) h2 hcase with h | ⟨h4, h5⟩
      · exact absurd (Or.inl (by omega)) hnd
      · refine ⟨?_, h5, by omega⟩
        apply Classical.byContradiction
        intro hne
        exact hnd (Or.inl (by omega))
  -- hence `t` is enabled infinitely often
  have hinf : ∀ n, ∃ m, n ≤ m ∧ enabled (run step σ s m) t := by
    intro n
    obtain ⟨m, hm, h⟩ := eventually_free step P I μ free hold hrank hI hmono hhold hhown hhoth σ s h0 hwf (i + n)
    have e : m = i + (m - i) := by omega
    obtain ⟨h1, h2, h3⟩ := stay (m - i)
    rw [← e] at h1 h2 h3
    rcases h with h | h
    · exact ⟨m, by omega, hen _ t (hinv m) h2 h⟩
    · have := (stay n).1
      omega
  obtain ⟨m, hm, hσ, he⟩ := hsf t hPt hinf i
  have e : m = i + (m - i) := by omega
  obtain ⟨h1, h2, h3⟩ := stay (m - i)
  rw [← e] at h1 h2 h3
  exact hno' m hm (Or.inr ⟨hσ, he, h2, h3, h1⟩)

/-- **Fair termination under weak + strong fairness.** `hex` is (A1); `hown` is (A2), asked of enabled steps only; `hoth`
is (A3), which also covers the thread's own step when it is disabled; `hen` / `hhold` / `hhown` / `hhoth` are the conditions
on the lock: a ready thread is enabled when the lock is free, otherwise a thread of `P` holds it and releases it within
`hrank` of its own steps. -/
theorem fair_termination_sf
    (hI : ∀ s t, I s → I (step s t))
    (hmono : ∀ s t, I s → μ (step s t) ≤ μ s)
    (hex : ∀ s, I s → ¬ terminal s → ∃ t, P t ∧ ready s t)
    (hown : ∀ s t, I s → ready s t → enabled s t →
        μ (step s t) < μ s ∨ (rank t (step s t) < rank t s ∧ ready (step s t) t))
    (hoth : ∀ s t u, I s → ready s t → (u ≠ t ∨ ¬ enabled s t) →
        μ (step s u) < μ s ∨ (rank t (step s u) ≤ rank t s ∧ ready (step s u) t))
    (hen : ∀ s t, I s → ready s t → free s → enabled s t)
    (hhold : ∀ s, I s → ¬ free s → ∃ u, P u ∧ hold s u)
    (hhown : ∀ s u, I s → hold s u →
        μ (step s u) < μ s ∨ free (step s u) ∨ (hrank (step s u) < hrank s ∧ hold (step s u) u))
    (hhoth : ∀ s u v, I s → hold s u → v ≠ u →
        μ (step s v) < μ s ∨ free (step s v) ∨ (hrank (step s v) ≤ hrank s ∧ hold (step s v) u))
    (σ : Nat → T) (s : S) (h0 : I s) (hwf : WeakFair P σ) (hsf : StrongFair step enabled P σ s) :
    ∃ n, terminal (run step σ s n) := by
  have hinv := run_inv step I hI σ s h0
  -- a ready thread of rank ≤ r brings `μ` down
  have drop : ∀ (t : T), P t → ∀ r i, ready (run step σ s i) t → rank t (run step σ s i) ≤ r →
      ∃ m, i ≤ m ∧ μ (run step σ s m) < μ (run step σ s i) := by
    intro t hPt r
    induction r using Nat.strongRecOn with
    | ind r ih =>
      intro i hr hrk
      obtain ⟨m, hm, h⟩ := eventually_taken step P I enabled ready μ rank free hold hrank hI hmono hoth hen hhold
        hhown hhoth σ s h0 hwf hsf t hPt i hr
      rcases h with h | ⟨hσ, he, hrd, hrk', hμ⟩
      · exact ⟨m, hm, h⟩
      · have e : run step σ s (m + 1) = step (run step σ s m) t := by rw [← hσ]; rfl
        rcases hown _ t (hinv m) hrd he with h | ⟨h1, h2⟩
        · exact ⟨m + 1, by omega, by rw [e]; omega⟩
        · have hle := hmono _ t (hinv m)
          obtain ⟨m', hm', h'⟩ := ih (rank t (step (run step σ s m) t)) (by omega) (m + 1) (by rw [e]; exact h2)
            (by rw [e]; exact Nat.le_refl _)
          rw [e] at h'
          exact ⟨m', by omega, by omega⟩
  have main : ∀ M i, μ (run step σ s i) ≤ M → ∃ n, terminal (run step σ s n) := by
    intro M
    induction M using Nat.strongRecOn with
    | ind M ih =>
      intro i hM
      by_cases hnt : terminal (run step σ s i)
      · exact ⟨i, hnt⟩
      obtain ⟨t, hPt, hr⟩ := hex _ (hinv i) hnt
      obtain ⟨m, _, h⟩ := drop t hPt _ i hr (Nat.le_refl _)
      exact ih (μ (run step σ s m)) (by omega) m (Nat.le_refl _)
  exact main (μ s) 0 (Nat.le_refl _)

/-- **Fair termination under weak fairness** (every step is enabled): `hex` is (A1), `hown` (A2), `hoth` (A3). -/
theorem fair_termination
    (hI : ∀ s t, I s → I (step s t))
    (hmono : ∀ s t, I s → μ (step s t) ≤ μ s)
    (hex : ∀ s, I s → ¬ terminal s → ∃ t, P t ∧ ready s t)
    (hown : ∀ s t, I s → ready s t →
        μ (step s t) < μ s ∨ (rank t (step s t) < rank t s ∧ ready (step s t) t))
    (hoth : ∀ s t u, I s → u ≠ t → ready s t →
        μ (step s u) < μ s ∨ (rank t (step s u) ≤ rank t s ∧ ready (step s u) t))
    (σ : Nat → T) (s : S) (h0 : I s) (hwf : WeakFair P σ) :
    ∃ n, terminal (run step σ s n) := by
  apply fair_termination_sf step P I terminal (fun _ _ => True) ready μ rank (fun _ => True) (fun _ _ => False)
    (fun _ => 0) hI hmono hex
  · intro s t hs hr _; exact hown s t hs hr
  · intro s t u hs hr hu
    rcases hu with hu | hu
    · exact hoth s t u hs hu hr
    · exact absurd trivial hu
  · intros; trivial
  · intro s _ hf; exact absurd trivial hf
  · intro s u _ hh; exact absurd hh id
  · intro s u v _ hh; exact absurd hh id
  · exact h0
  · exact hwf
  · intro t hPt _ n
    obtain ⟨m, hm, hσ⟩ := hwf t hPt n
    exact ⟨m, hm, hσ, trivial⟩

/-! ## strong fairness is only needed for the lock steps

If every step of a thread that is neither a lock step (`atLock`) nor past its end (`finished`) is enabled, and only the
thread itself moves it away from such a step, then weak fairness takes care of these steps and strong fairness has to be
assumed of the lock steps only. -/

def LockFair (atLock : S → T → Prop) (σ : Nat → T) (s : S) : Prop :=
  ∀ t, P t → (∀ n, ∃ m, n ≤ m ∧ atLock (run step σ s m) t ∧ enabled (run step σ s m) t) →
    ∀ n, ∃ m, n ≤ m ∧ σ m = t ∧ atLock (run step σ s m) t ∧ enabled (run step σ s m) t

theorem strongFair_of_lockFair (atLock finished : S → T → Prop)
    (hplain : ∀ s t, ¬ atLock s t → ¬ finished s t → enabled s t)
    (hnf : ∀ s t, enabled s t → ¬ finished s t)
    (hoth : ∀ s t u, u ≠ t → ¬ atLock s t → ¬ finished s t → ¬ atLock (step s u) t ∧ ¬ finished (step s u) t)
    (σ : Nat → T) (s : S) (hwf : WeakFair P σ) (hlf : LockFair step P enabled atLock σ s) :
    StrongFair step enabled P σ s := by
  intro t hPt hinf n
  by_cases hA : ∀ n, ∃ m, n ≤ m ∧ atLock (run step σ s m) t ∧ enabled (run step σ s m) t
  · obtain ⟨m, hm, h1, _, h3⟩ := hlf t hPt hA n
    exact ⟨m, hm, h1, h3⟩
  · -- from some point on the thread is never at an enabled lock step: whenever enabled it is at a plain step, and
    -- stays there until it is scheduled
    have hA' : ∃ N, ∀ m, N ≤ m → ¬(atLock (run step σ s m) t ∧ enabled (run step σ s m) t) := by
      apply Classical.byContradiction
      intro hno
      apply hA
      intro n
      apply Classical.byContradiction
      intro hno2
      exact hno ⟨n, fun m hm hh => hno2 ⟨m, hm, hh⟩⟩
    obtain ⟨N, hN⟩ := hA'
    obtain ⟨m, hm, he⟩ := hinf (n + N)
    have hpl : ¬ atLock (run step σ s m) t := fun hh => hN m (by omega) ⟨hh, he⟩
    obtain ⟨m', hm', hσ⟩ := hwf t hPt m
    obtain ⟨m'', h4, h5, h6, h7⟩ := until_scheduled σ t
      (fun n => ¬ atLock (run step σ s n) t ∧ ¬ finished (run step σ s n) t)
      (fun n hu h => hoth _ t (σ n) hu h.1 h.2) m' hσ (m' - m) m (by omega) ⟨hpl, hnf _ t he⟩
    exact ⟨m'', by omega, h5, hplain _ t h6 h7⟩

theorem run_fixed (σ : Nat → T) (s : S) (n : Nat) (hfix : ∀ t, step (run step σ s n) t = run step σ s n) :
    ∀ d, run step σ s (n + d) = run step σ s n := by
  intro d
  induction d with
  | zero => rfl
  | succ d ih => show step (run step σ s (n + d)) (σ (n + d)) = _; rw [ih]; exact hfix _

theorem lockFair_of_terminates (atLock : S → T → Prop) (σ : Nat → T) (s : S) (n : Nat)
    (hfix : ∀ t, step (run step σ s n) t = run step σ s n) (hdis : ∀ t, P t → ¬ enabled (run step σ s n) t) :
    LockFair step P enabled atLock σ s := by
  intro t hPt hinf _
  obtain ⟨m, hm, _, he⟩ := hinf n
  rw [show m = n + (m - n) by omega, run_fixed step σ s n hfix] at he
  exact absurd he (hdis t hPt)

end
end Fair
