import DcVerif.Spec.ShortestPath
import DcVerif.Lemmas.ShortestPathFW
/-! Correctness of the shortest-path oracle (C15, C10). `Walk`, `omin`, `oadd`, `fw` are those of `FW` again, so
`fw_correct` is `FW.fw_correct`; the table `fwMat` holds the same values, walks and `Path`s of a `Spec.DiGraph`
correspond, `pathWeight`/`checkPath` recognise exactly the real paths. Not the same as in `FW`: here the one-vertex path has
weight 0 (`pathWeight [_] = some 0`, with `minDistWith a a = some 0`), in `FW` a path has at least one edge
(`FW.pathWeight [_] = none`); and `checkPath` takes the graph, `FW.checkPath` its weight function. -/
namespace Spec.ShortestPath
open Spec Spec.DiGraph

theorem walk_iff (w : Wt) (u v : Nat) (is : List Nat) (c : Nat) : FW.Walk w u v is c ↔ Walk w u v is c := by
  constructor
  · intro h
    induction h with
    | edge he => exact .edge he
    | cons he _ ih => exact .cons he ih
  · intro h
    induction h with
    | edge he => exact .edge he
    | cons he _ ih => exact .cons he ih

theorem omin_eq (a b : Option Nat) : omin a b = FW.omin a b := by cases a <;> cases b <;> rfl

theorem oadd_eq (a b : Option Nat) : oadd a b = FW.oadd a b := by cases a <;> cases b <;> rfl

theorem fw_eq (w : Wt) (k u v : Nat) : fw w k u v = FW.fw w k u v := by
  induction k generalizing u v with
  | zero => rfl
  | succ k ih => simp only [fw, FW.fw, ih, omin_eq, oadd_eq]

/-- **C15 oracle**: with all vertices `< n`, `fw n u v` is the minimum walk weight, and `none`
    exactly when there is no walk at all. -/
theorem fw_correct (w : Wt) (n u v : Nat) :
    (∀ d, fw w n u v = some d →
        (∃ is, Walk w u v is d) ∧ ∀ is c, Walk w u v is c → (∀ x, x ∈ is → x < n) → d ≤ c) ∧
    (fw w n u v = none → ∀ is c, Walk w u v is c → (∀ x, x ∈ is → x < n) → False) := by
  simp only [fw_eq, ← walk_iff]
  exact FW.fw_correct w n u v

theorem get_eq (d : Mat) (u v : Nat) : d.get u v = FW.Mat.get d u v := by
  unfold Mat.get FW.Mat.get
  cases d[u]? with
  | none => rfl
  | some row => dsimp only; cases row[v]? <;> rfl

theorem fwMat_eq_table (w : Wt) (n : Nat) : ∀ k, fwMat w n k = FW.table w n k
  | 0 => rfl
  | k+1 => by simp only [fwMat, FW.table, fwMat_eq_table w n k, get_eq, omin_eq, oadd_eq]; rfl

theorem fwMat_eq (w : Wt) (n : Nat) (k : Nat) (hk : k ≤ n) (u v : Nat) (hu : u < n) (hv : v < n) :
    (fwMat w n k).get u v = fw w k u v := by
  rw [get_eq, fwMat_eq_table, fw_eq]; exact FW.table_get w n k hk u v hu hv

theorem weights_some_mem (s : DiGraph) (a b c : Nat) (h : weights s a b = some c) : (a, b, c) ∈ s.edges :=
  FW.mem_of_find_weight h

theorem mem_weights (s : DiGraph) (hn : (s.edges.map (fun e => (e.1, e.2.1))).Nodup) (a b c : Nat)
    (h : (a, b, c) ∈ s.edges) : weights s a b = some c := by
  unfold weights
  generalize s.edges = l at hn h
  induction l with
  | nil => cases h
  | cons e l ih =>
    rw [List.map_cons, List.nodup_cons] at hn
    rw [List.find?_cons]
    rcases List.mem_cons.1 h with rfl | h
    · simp
    · have : (e.1 == a && e.2.1 == b) = false := by
        rw [← Bool.not_eq_true, Bool.and_eq_true, beq_iff_eq, beq_iff_eq]
        exact fun he => hn.1 (List.mem_map.2 ⟨(a, b, c), h, by rw [he.1, he.2]⟩)
      rw [this]; exact ih hn.2 h

theorem lt_bound (s : DiGraph) (i : Nat) (h : s.live i = true) : i < bound s := by
  unfold live at h; unfold bound
  generalize s.nodes = l at h
  induction l with
  | nil => simp at h
  | cons e l ih =>
    simp only [List.any_cons, Bool.or_eq_true, beq_iff_eq] at h
    simp only [List.foldr_cons]
    rcases h with h | h
    · omega
    · have := ih h; omega

theorem walk_path (s : DiGraph) {u v : Nat} {is : List Nat} {c : Nat} (h : Walk (weights s) u v is c) :
    Path s u v (u :: (is ++ [v])) c := by
  induction h with
  | edge he => exact Path.cons (weights_some_mem s _ _ _ he) (Path.single _)
  | cons he _ ih => exact Path.cons (weights_some_mem s _ _ _ he) ih

theorem path_walk (s : DiGraph) (hn : (s.edges.map (fun e => (e.1, e.2.1))).Nodup) {u b : Nat} {p : List Nat} {c : Nat}
    (h : Path s u b p c) : (p = [u] ∧ u = b ∧ c = 0) ∨ ∃ is, p = u :: (is ++ [b]) ∧ Walk (weights s) u b is c := by
  induction h with
  | single a => exact Or.inl ⟨rfl, rfl, rfl⟩
  | @cons u v b p c c' he _ ih =>
    have hw := mem_weights s hn _ _ _ he
    right
    rcases ih with ⟨rfl, rfl, rfl⟩ | ⟨is, rfl, hwalk⟩
    · exact ⟨[], rfl, Walk.edge hw⟩
    · exact ⟨v :: is, rfl, Walk.cons hw hwalk⟩

theorem pathWeight_path (s : DiGraph) : ∀ (p : List Nat) (a c : Nat), p.head? = some a →
    pathWeight (weights s) p = some c → ∃ b, p.getLast? = some b ∧ Path s a b p c := by
  intro p
  induction p with
  | nil => intro a c h; cases h
  | cons x rest ih =>
    intro a c hh hw
    cases Option.some.inj hh
    cases rest with
    | nil => cases Option.some.inj hw; exact ⟨x, rfl, Path.single x⟩
    | cons y rest =>
      obtain ⟨c1, c2, h1, h2, rfl⟩ := FW.oadd_eq_some ((oadd_eq ..).symm.trans hw)
      obtain ⟨b, hb, hp⟩ := ih y c2 rfl h2
      exact ⟨b, by rw [List.getLast?_cons_cons]; exact hb, Path.cons (weights_some_mem s _ _ _ h1) hp⟩

theorem path_ends (s : DiGraph) {a b : Nat} {p : List Nat} {c : Nat} (h : Path s a b p c) :
    p.head? = some a ∧ p.getLast? = some b := by
  induction h with
  | single a => exact ⟨rfl, rfl⟩
  | @cons u v b p c c' _ hp ih =>
    refine ⟨rfl, ?_⟩
    cases p with
    | nil => cases ih.1
    | cons y rest => rw [List.getLast?_cons_cons]; exact ih.2

theorem path_pathWeight (s : DiGraph) (hn : (s.edges.map (fun e => (e.1, e.2.1))).Nodup) {a b : Nat} {p : List Nat}
    {c : Nat} (h : Path s a b p c) : pathWeight (weights s) p = some c := by
  induction h with
  | single a => rfl
  | @cons u v b p c c' he hp ih =>
    obtain ⟨t, rfl⟩ := List.head?_eq_some_iff.1 (path_ends s hp).1
    simp only [pathWeight, mem_weights s hn _ _ _ he, ih, oadd]

theorem checkPath_iff (s : DiGraph) (hn : (s.edges.map (fun e => (e.1, e.2.1))).Nodup) (a b : Nat) (p : List Nat) (c : Nat) :
    checkPath s a b p = some c ↔ Path s a b p c := by
  unfold checkPath
  constructor
  · intro h
    split at h
    · rename_i hc
      obtain ⟨b', hb', hp⟩ := pathWeight_path s p a c hc.1 h
      cases Option.some.inj (hb'.symm.trans hc.2)
      exact hp
    · cases h
  · intro h
    rw [if_pos (path_ends s h), path_pathWeight s hn h]

/-- **the distance oracle is correct**: `minDist` is the least weight of a real path, and `none` exactly when there is
no path at all -/
theorem minDist_correct (s : DiGraph) (h : Spec.DiGraph.WF s) (a b : Nat) :
    (∀ d, minDist s a b = some d → (∃ p, Path s a b p d) ∧ ∀ q c, Path s a b q c → d ≤ c) ∧
    (minDist s a b = none → ∀ q c, ¬ Path s a b q c) := by
  unfold minDist minDistWith
  by_cases hab : a = b
  · subst hab
    rw [if_pos rfl]
    refine ⟨?_, fun h => by cases h⟩
    intro d hd
    cases Option.some.inj hd
    exact ⟨⟨[a], Path.single a⟩, fun _ _ _ => Nat.zero_le _⟩
  · rw [if_neg hab, distMat, get_eq, fwMat_eq_table]
    -- every end point of an edge is live, hence below `bound s`: the table covers all walks
    have hbd : FW.Bounded (weights s) (bound s) := fun x y c hxy =>
      have hl := h.edgesLive _ (weights_some_mem s x y c hxy)
      ⟨lt_bound s x hl.1, lt_bound s y hl.2⟩
    obtain ⟨hsome, hnone⟩ := FW.dist_correct (weights s) (bound s) a b hbd
    have hwalk : ∀ q c, Path s a b q c → ∃ is, FW.Walk (weights s) a b is c := by
      intro q c hq
      rcases path_walk s h.edgesNodup hq with ⟨_, hab', _⟩ | ⟨is, _, hw⟩
      · exact absurd hab' hab
      · exact ⟨is, (walk_iff ..).2 hw⟩
    refine ⟨fun d hd => ?_, fun hn q c hq => ?_⟩
    · obtain ⟨⟨is, hw⟩, hmin⟩ := hsome d hd
      refine ⟨⟨_, walk_path s ((walk_iff ..).1 hw)⟩, fun q c hq => ?_⟩
      obtain ⟨is', hw'⟩ := hwalk q c hq
      exact hmin is' c hw'
    · obtain ⟨is', hw'⟩ := hwalk q c hq
      exact hnone.1 hn ⟨is', c, hw'⟩

end Spec.ShortestPath
