import DcVerif.Model.UGraph
/-! Helper lemmas for C08/C09/C15: association lists, canonical sorting, the petgraph id allocator,
and the well-formedness invariant of `Model.UGraph` with its preservation by every operation. -/
namespace Model.UGraph
open Spec Spec.DiGraph

/-- key membership as the boolean the code computes -/
def has {β : Type} (m : List (Nat × β)) (k : Nat) : Bool := m.any (fun e => e.1 == k)

theorem has_cons {β : Type} (e : Nat × β) (m : List (Nat × β)) (k : Nat) :
    has (e :: m) k = (e.1 == k || has m k) := rfl

theorem mGet_cons {β : Type} (e : Nat × β) (m : List (Nat × β)) (k : Nat) :
    mGet (e :: m) k = if e.1 = k then some e.2 else mGet m k := by
  unfold mGet; rw [List.find?_cons]
  cases h : e.1 == k
  · rw [if_neg (ne_of_beq_false h)]
  · rw [if_pos (eq_of_beq h)]; rfl

theorem mRemove_cons {β : Type} (e : Nat × β) (m : List (Nat × β)) (k : Nat) :
    mRemove (e :: m) k = if e.1 = k then mRemove m k else e :: mRemove m k := by
  unfold mRemove; rw [List.filter_cons]
  by_cases h : e.1 = k <;> simp [h]

theorem has_iff_mem {β : Type} (m : List (Nat × β)) (k : Nat) : has m k = true ↔ k ∈ m.map (·.1) := by
  induction m with
  | nil => simp [has]
  | cons e m ih =>
    rw [has_cons, Bool.or_eq_true, ih, List.map_cons, List.mem_cons, beq_iff_eq]
    constructor <;> (rintro (h | h); exact Or.inl h.symm; exact Or.inr h)

theorem has_false_iff {β : Type} (m : List (Nat × β)) (k : Nat) : has m k = false ↔ k ∉ m.map (·.1) := by
  rw [← has_iff_mem]; cases has m k <;> simp

theorem mGet_isSome {β : Type} (m : List (Nat × β)) (k : Nat) : (mGet m k).isSome = has m k := by
  induction m with
  | nil => rfl
  | cons e m ih =>
    rw [mGet_cons, has_cons]
    by_cases h : e.1 = k <;> simp [h, ih]

/-- the `index_map` that goes with the `node_map` `m`: every live index mapped to itself (`WF.indexSync`) -/
def sync (m : List (Nat × Nat)) : List (Nat × Nat) := m.map (fun e => (e.1, e.1))

theorem sync_cons (e : Nat × Nat) (m : List (Nat × Nat)) : sync (e :: m) = (e.1, e.1) :: sync m := rfl

theorem mGet_sync (m : List (Nat × Nat)) (i : Nat) : mGet (sync m) i = if has m i then some i else none := by
  induction m with
  | nil => rfl
  | cons e m ih =>
    rw [sync_cons, mGet_cons, has_cons, ih]
    by_cases h : e.1 = i <;> simp [h]

theorem has_sync (m : List (Nat × Nat)) (i : Nat) : has (sync m) i = has m i := by
  rw [← mGet_isSome, mGet_sync]; cases has m i <;> rfl

theorem sync_mRemove (m : List (Nat × Nat)) (k : Nat) : mRemove (sync m) k = sync (mRemove m k) := by
  induction m with
  | nil => rfl
  | cons e m ih =>
    rw [sync_cons, mRemove_cons, mRemove_cons, ih]
    by_cases h : e.1 = k <;> simp [h, sync_cons]

theorem has_mRemove {β : Type} (m : List (Nat × β)) (k j : Nat) : has (mRemove m k) j = (has m j && j != k) := by
  unfold has mRemove
  rw [List.any_filter]
  induction m with
  | nil => rfl
  | cons e m ih =>
    rw [List.any_cons, List.any_cons, ih, Bool.and_or_distrib_right]
    congr 1
    cases h : e.1 == j
    · rw [Bool.and_false, Bool.false_and]
    · rw [eq_of_beq h, Bool.and_true, Bool.true_and]

theorem mRemove_of_not_has {β : Type} (m : List (Nat × β)) (k : Nat) (h : has m k = false) :
    mRemove m k = m := by
  unfold mRemove
  rw [List.filter_eq_self]
  intro a ha
  rw [has_false_iff] at h
  simp only [bne_iff_ne, ne_eq]
  intro e; exact h (List.mem_map.2 ⟨a, ha, e⟩)

theorem mInsert_fresh {β : Type} (m : List (Nat × β)) (k : Nat) (v : β) (h : has m k = false) :
    mInsert m k v = (k, v) :: m := by
  unfold mInsert; rw [← mRemove, mRemove_of_not_has m k h]

theorem mem_of_mGet {β : Type} {m : List (Nat × β)} {k : Nat} {v : β} (h : mGet m k = some v) : (k, v) ∈ m := by
  obtain ⟨⟨k', v'⟩, hf, rfl⟩ := Option.map_eq_some_iff.1 h
  have hk := List.find?_some hf
  cases eq_of_beq hk
  exact List.mem_of_find?_eq_some hf

theorem nodup_map_filter {α β : Type} (f : α → β) (l : List α) (p : α → Bool) (h : (l.map f).Nodup) :
    ((l.filter p).map f).Nodup :=
  List.Nodup.sublist (List.Sublist.map _ List.filter_sublist) h

theorem eq_of_nodup_map {α β : Type} (f : α → β) {l : List α} (hn : (l.map f).Nodup) {x y : α} (hx : x ∈ l)
    (hy : y ∈ l) (h : f x = f y) : x = y :=
  List.Pairwise.forall_of_forall_of_flip (R := fun x y => f x = f y → x = y) (fun _ _ _ => rfl)
    ((List.pairwise_map.1 hn).imp fun hne h => absurd h hne)
    ((List.pairwise_map.1 hn).imp fun hne h => absurd h.symm hne) hx hy h

theorem length_filter_key {α β : Type} [BEq β] [LawfulBEq β] (f : α → β) (l : List α) (k : β)
    (hn : (l.map f).Nodup) (hk : k ∈ l.map f) : (l.filter (fun e => f e != k)).length + 1 = l.length := by
  induction l with
  | nil => cases hk
  | cons e l ih =>
    rw [List.map_cons, List.nodup_cons] at hn
    rw [List.filter_cons]
    by_cases he : f e = k
    · have : l.filter (fun e => f e != k) = l :=
        List.filter_eq_self.2 fun x hx => bne_iff_ne.2 fun hxk => hn.1 (he ▸ hxk ▸ List.mem_map_of_mem hx)
      rw [he, bne_self_eq_false, this]; rfl
    · have hk' : k ∈ l.map f := by
        rcases List.mem_cons.1 hk with h | h
        · exact absurd h.symm he
        · exact h
      rw [if_pos (bne_iff_ne.2 he), List.length_cons, List.length_cons, ih hn.2 hk']

theorem mGet_mRemove_ne {β : Type} (m : List (Nat × β)) (k j : Nat) (h : j ≠ k) :
    mGet (mRemove m k) j = mGet m j := by
  induction m with
  | nil => rfl
  | cons e m ih =>
    rw [mRemove_cons, mGet_cons]
    by_cases he : e.1 = k
    · have : ¬ e.1 = j := by omega
      rw [if_pos he, if_neg this, ih]
    · rw [if_neg he, mGet_cons, ih]

theorem mGet_mInsert {β : Type} (m : List (Nat × β)) (k : Nat) (v : β) (i : Nat) :
    mGet (mInsert m k v) i = if i = k then some v else mGet m i := by
  unfold mInsert; rw [mGet_cons, ← mRemove]
  by_cases h : i = k
  · rw [if_pos h.symm, if_pos h]
  · rw [if_neg (fun e => h e.symm), if_neg h, mGet_mRemove_ne _ _ _ h]

theorem mGet_eq_none_iff {β : Type} (m : List (Nat × β)) (k : Nat) : mGet m k = none ↔ has m k = false := by
  rw [← mGet_isSome]; cases mGet m k <;> simp

theorem pairLe_trans (a b c : Nat × Nat) : pairLe a b = true → pairLe b c = true → pairLe a c = true := by
  simp only [pairLe, Bool.or_eq_true, Bool.and_eq_true, decide_eq_true_eq, beq_iff_eq]; omega

theorem pairLe_total (a b : Nat × Nat) : (pairLe a b || pairLe b a) = true := by
  simp only [pairLe, Bool.or_eq_true, Bool.and_eq_true, decide_eq_true_eq, beq_iff_eq]; omega

theorem pairLe_antisymm (a b : Nat × Nat) : pairLe a b = true → pairLe b a = true → a = b := by
  simp only [pairLe, Bool.or_eq_true, Bool.and_eq_true, decide_eq_true_eq, beq_iff_eq]
  intro h1 h2
  apply Prod.ext <;> omega

theorem insertBy_perm {α : Type} (le : α → α → Bool) (a : α) (l : List α) : (insertBy le a l).Perm (a :: l) := by
  induction l with
  | nil => exact List.Perm.refl _
  | cons b l ih =>
    unfold insertBy
    split
    · exact List.Perm.refl _
    · exact (List.Perm.cons b ih).trans (List.Perm.swap a b l)

theorem isort_cons {α : Type} (le : α → α → Bool) (a : α) (l : List α) :
    isort le (a :: l) = insertBy le a (isort le l) := rfl

theorem isort_perm {α : Type} (le : α → α → Bool) (l : List α) : (isort le l).Perm l := by
  induction l with
  | nil => exact List.Perm.refl _
  | cons a l ih => rw [isort_cons]; exact (insertBy_perm le a _).trans (List.Perm.cons a ih)

theorem insertBy_pairwise {α : Type} {le : α → α → Bool}
    (htr : ∀ a b c, le a b = true → le b c = true → le a c = true) (htot : ∀ a b, (le a b || le b a) = true)
    (a : α) (l : List α) (h : l.Pairwise (fun x y => le x y = true)) :
    (insertBy le a l).Pairwise (fun x y => le x y = true) := by
  induction l with
  | nil => simp [insertBy]
  | cons b l ih =>
    rw [List.pairwise_cons] at h
    unfold insertBy
    split
    · rename_i hab
      exact List.pairwise_cons.2
        ⟨List.forall_mem_cons.2 ⟨hab, fun x hx => htr _ _ _ hab (h.1 x hx)⟩, List.pairwise_cons.2 h⟩
    · rename_i hab
      have hba : le b a = true := (Bool.or_eq_true_iff.1 (htot a b)).resolve_left hab
      refine List.pairwise_cons.2 ⟨fun x hx => ?_, ih h.2⟩
      rcases List.mem_cons.1 ((insertBy_perm le a l).mem_iff.1 hx) with rfl | hx
      · exact hba
      · exact h.1 x hx

theorem isort_pairwise {α : Type} {le : α → α → Bool}
    (htr : ∀ a b c, le a b = true → le b c = true → le a c = true) (htot : ∀ a b, (le a b || le b a) = true)
    (l : List α) : (isort le l).Pairwise (fun x y => le x y = true) := by
  induction l with
  | nil => exact List.Pairwise.nil
  | cons a l ih => rw [isort_cons]; exact insertBy_pairwise htr htot a _ ih

theorem sortPairs_perm {l₁ l₂ : List (Nat × Nat)} (h : l₁.Perm l₂) : sortPairs l₁ = sortPairs l₂ := by
  apply List.Perm.eq_of_pairwise (le := fun a b => pairLe a b = true)
  · intro a b _ _; exact pairLe_antisymm a b
  · exact isort_pairwise pairLe_trans pairLe_total l₁
  · exact isort_pairwise pairLe_trans pairLe_total l₂
  · exact ((isort_perm pairLe l₁).trans h).trans (isort_perm pairLe l₂).symm

theorem sortNat_perm (l : List Nat) : (sortNat l).Perm l := isort_perm _ l

theorem mem_sortNat (l : List Nat) (a : Nat) : a ∈ sortNat l ↔ a ∈ l := (sortNat_perm l).mem_iff

theorem nodup_sortNat (l : List Nat) (h : l.Nodup) : (sortNat l).Nodup :=
  (sortNat_perm l).symm.nodup h

theorem filter_or_perm {α : Type} (p q : α → Bool) (l : List α) (hd : ∀ x ∈ l, ¬ (p x = true ∧ q x = true)) :
    (l.filter (fun x => p x || q x)).Perm (l.filter p ++ l.filter q) := by
  induction l with
  | nil => simp
  | cons x l ih =>
    have ih := ih (fun y hy => hd y (List.mem_cons_of_mem _ hy))
    have hx := hd x List.mem_cons_self
    simp only [List.filter_cons]
    cases hp : p x <;> cases hq : q x
    · simpa using ih
    · simp only [Bool.false_or, if_true, Bool.false_eq_true, if_false]
      exact (List.Perm.cons x ih).trans List.perm_middle.symm
    · simp only [Bool.true_or, if_true, Bool.false_eq_true, if_false, List.cons_append]
      exact List.Perm.cons x ih
    · exact absurd ⟨hp, hq⟩ hx

namespace IdStore

theorem isLive_iff (s : IdStore) (i : Nat) : s.isLive i = true ↔ i < s.upper ∧ i ∉ s.removed := by
  simp [isLive]

/-- the bookkeeping invariant of `IdStorage`: removed ids are distinct and below the upper bound -/
structure Ok (s : IdStore) : Prop where
  nodup : s.removed.Nodup
  lt : ∀ r ∈ s.removed, r < s.upper

theorem add_spec (s : IdStore) (h : Ok s) :
    s.isLive s.add.2 = false ∧ (∀ i, s.add.1.isLive i = (s.isLive i || i == s.add.2)) ∧ Ok s.add.1 ∧
    s.add.1.upper + s.removed.length = s.upper + 1 + s.add.1.removed.length := by
  obtain ⟨hn, hl⟩ := h
  unfold add
  cases hs : s.removed with
  | nil =>
    refine ⟨by simp [isLive], fun i => ?_, ⟨by simp, by simp⟩, by simp⟩
    rw [Bool.eq_iff_iff]; simp [isLive, hs]; omega
  | cons r rest =>
    rw [hs] at hn hl
    have hr : r < s.upper := hl r List.mem_cons_self
    rw [List.nodup_cons] at hn
    refine ⟨by simp [isLive, hs], fun i => ?_, ⟨hn.2, fun x hx => hl x (List.mem_cons_of_mem _ hx)⟩, by simp; omega⟩
    rw [Bool.eq_iff_iff]
    simp only [isLive, hs, Bool.and_eq_true, decide_eq_true_eq, Bool.not_eq_true', Bool.or_eq_true,
      beq_iff_eq, List.contains_eq_mem, decide_eq_false_iff_not, List.mem_cons, not_or]
    grind

theorem remove_spec (s : IdStore) (id : Nat) (h : Ok s) (hlive : s.isLive id = true) :
    ∃ s', s.remove id = some s' ∧ (∀ i, s'.isLive i = (s.isLive i && i != id)) ∧ Ok s' ∧
      s'.upper + 1 + s.removed.length = s.upper + s'.removed.length := by
  obtain ⟨hn, hl⟩ := h
  have hl' := (isLive_iff s id).1 hlive
  unfold remove
  rw [hlive]
  by_cases hu : s.upper - id = 1
  · rw [if_neg (by simp), if_pos (by simpa using hu)]
    refine ⟨_, rfl, fun i => ?_, ⟨hn, fun r hr => ?_⟩, by simp only; omega⟩
    · rw [Bool.eq_iff_iff]
      simp only [isLive, Bool.and_eq_true, decide_eq_true_eq, Bool.not_eq_true', bne_iff_ne, ne_eq,
        List.contains_eq_mem, decide_eq_false_iff_not]
      grind
    · have h1 := hl r hr
      have : r ≠ id := fun e => hl'.2 (e ▸ hr)
      simp only; omega
  · rw [if_neg (by simp), if_neg (by simpa using hu)]
    refine ⟨_, rfl, fun i => ?_, ⟨List.nodup_cons.2 ⟨hl'.2, hn⟩, fun r hr => ?_⟩, by simp only [List.length_cons]; omega⟩
    · rw [Bool.eq_iff_iff]
      simp only [isLive, Bool.and_eq_true, decide_eq_true_eq, Bool.not_eq_true', bne_iff_ne, ne_eq,
        List.contains_eq_mem, decide_eq_false_iff_not, List.mem_cons, not_or]
      grind
    · rcases List.mem_cons.1 hr with rfl | hr
      · exact hl'.1
      · exact hl r hr
theorem mem_liveIds (s : IdStore) (i : Nat) : i ∈ s.liveIds ↔ s.isLive i = true := by
  simp [liveIds, isLive]

end IdStore

/-- the (row, column) of a cell -/
def pr (e : Edge) : Nat × Nat := (e.1, e.2.1)

structure EdgesOk (g : UGraph) : Prop where
  nodup : (g.adj.map pr).Nodup
  nb : g.nbEdges = g.adj.length

theorem hasCell_iff (g : UGraph) (a b : Nat) : g.hasCell a b = true ↔ (a, b) ∈ g.adj.map pr := by
  simp only [hasCell, List.any_eq_true, List.mem_map, pr, Bool.and_eq_true, beq_iff_eq]
  constructor
  · rintro ⟨e, he, h1, h2⟩; exact ⟨e, he, by rw [h1, h2]⟩
  · rintro ⟨e, he, h⟩; injection h with h1 h2; exact ⟨e, he, h1, h2⟩

theorem petRemoveEdge_spec (g : UGraph) (a b : Nat) (h : EdgesOk g) (hc : g.hasCell a b = true) :
    ∃ g', g.petRemoveEdge a b = some g' ∧ EdgesOk g' ∧
      g'.adj = g.adj.filter (fun e => !(e.1 == a && e.2.1 == b)) ∧
      g'.ids = g.ids ∧ g'.nodeMap = g.nodeMap ∧ g'.indexMap = g.indexMap ∧ g'.root = g.root := by
  have hmem := (hasCell_iff g a b).1 hc
  have hlen : (g.adj.filter (fun e => !(e.1 == a && e.2.1 == b))).length + 1 = g.adj.length :=
    length_filter_key pr g.adj (a, b) h.nodup hmem
  have hnb : (g.nbEdges == 0) = false := by have := h.nb; simp; omega
  refine ⟨{ g with adj := g.adj.filter (fun e => !(e.1 == a && e.2.1 == b)), nbEdges := g.nbEdges - 1 }, ?_,
    ⟨?_, ?_⟩, rfl, rfl, rfl, rfl, rfl⟩
  · unfold petRemoveEdge; rw [hc, hnb]; rfl
  · exact nodup_map_filter _ _ _ h.nodup
  · have := h.nb; simp only; omega

/-- the loop `for (a,b) in cells { graph.remove_edge(a,b) }` over distinct existing cells removes exactly them -/
theorem removeCells_spec (cs : List (Nat × Nat)) : ∀ (g : UGraph), EdgesOk g → cs.Nodup →
    (∀ c ∈ cs, g.hasCell c.1 c.2 = true) →
    ∃ g', g.removeCells cs = some g' ∧ EdgesOk g' ∧ g'.adj = g.adj.filter (fun e => !cs.contains (pr e)) ∧
      g'.ids = g.ids ∧ g'.nodeMap = g.nodeMap ∧ g'.indexMap = g.indexMap ∧ g'.root = g.root := by
  induction cs with
  | nil =>
    intro g h _ _
    exact ⟨g, rfl, h, (List.filter_eq_self.2 (by intro e _; simp)).symm, rfl, rfl, rfl, rfl⟩
  | cons c cs ih =>
    intro g h hn hc
    obtain ⟨a, b⟩ := c
    rw [List.nodup_cons] at hn
    obtain ⟨g1, h1, hok1, hadj1, hids1, hnm1, him1, hroot1⟩ :=
      petRemoveEdge_spec g a b h (hc (a, b) List.mem_cons_self)
    have hc1 : ∀ c ∈ cs, g1.hasCell c.1 c.2 = true := by
      intro c hcm
      have hne : c ≠ (a, b) := fun e => hn.1 (e ▸ hcm)
      have := (hasCell_iff g c.1 c.2).1 (hc c (List.mem_cons_of_mem _ hcm))
      rw [hasCell_iff, hadj1]
      obtain ⟨e, he, hp⟩ := List.mem_map.1 this
      refine List.mem_map.2 ⟨e, List.mem_filter.2 ⟨he, ?_⟩, hp⟩
      show (pr e != (a, b)) = true
      rw [hp]; exact bne_iff_ne.2 hne
    obtain ⟨g2, h2, hok2, hadj, hids, hnm, him, hroot⟩ := ih g1 hok1 hn.2 hc1
    refine ⟨g2, by simp only [removeCells, h1, h2], hok2, ?_, ?_, ?_, ?_, ?_⟩
    · rw [hadj, hadj1]; simp only [List.filter_filter]
      apply List.filter_congr
      intro e _
      rw [List.contains_cons, Bool.not_or, Bool.and_comm]
      rfl
    · rw [hids, hids1]
    · rw [hnm, hnm1]
    · rw [him, him1]
    · rw [hroot, hroot1]

/-- a list `cs` of positions that enumerates (in any order) the cells selected by `q`: its members are distinct existing
cells, and removing them removes exactly the selected cells (`removeNode_ok` needs this of `rowOf` / `colOf`, which list the
cells in ascending order, not in the order of `adj`) -/
theorem cells_perm (g : UGraph) (h : EdgesOk g) (q : Nat × Nat → Bool) (cs : List (Nat × Nat))
    (hp : cs.Perm ((g.adj.filter (fun e => q (pr e))).map pr)) :
    cs.Nodup ∧ (∀ c ∈ cs, g.hasCell c.1 c.2 = true) ∧
    g.adj.filter (fun e => !cs.contains (pr e)) = g.adj.filter (fun e => !q (pr e)) := by
  have hmem : ∀ c, c ∈ cs ↔ c ∈ g.adj.map pr ∧ q c = true := by
    intro c
    rw [hp.mem_iff, List.mem_map]
    constructor
    · rintro ⟨e, he, rfl⟩
      exact ⟨List.mem_map_of_mem (List.mem_filter.1 he).1, (List.mem_filter.1 he).2⟩
    · rintro ⟨hm, hq⟩
      obtain ⟨e, he, rfl⟩ := List.mem_map.1 hm
      exact ⟨e, List.mem_filter.2 ⟨he, hq⟩, rfl⟩
  refine ⟨hp.nodup_iff.2 (nodup_map_filter _ _ _ h.nodup),
    fun c hc => (hasCell_iff g c.1 c.2).2 ((hmem c).1 hc).1, ?_⟩
  apply List.filter_congr
  intro e he
  congr 1
  rw [Bool.eq_iff_iff, List.contains_iff_mem, hmem]
  exact ⟨fun h => h.2, fun h => ⟨List.mem_map_of_mem he, h⟩⟩

theorem row_perm (g : UGraph) (k : Nat) :
    ((g.rowOf k).map (fun b => (k, b))).Perm ((g.adj.filter (fun e => e.1 == k)).map pr) := by
  refine ((sortNat_perm _).map _).trans (List.Perm.of_eq ?_)
  rw [List.map_map]
  apply List.map_congr_left
  intro e he
  have : e.1 = k := by simpa using (List.mem_filter.1 he).2
  simp [pr, this]

theorem col_perm (g : UGraph) (k : Nat) :
    ((g.colOf k).map (fun a => (a, k))).Perm ((g.adj.filter (fun e => e.2.1 == k)).map pr) := by
  refine ((sortNat_perm _).map _).trans (List.Perm.of_eq ?_)
  rw [List.map_map]
  apply List.map_congr_left
  intro e he
  have : e.2.1 = k := by simpa using (List.mem_filter.1 he).2
  simp [pr, this]

theorem row_cells (g : UGraph) (h : EdgesOk g) (k : Nat) :
    ((g.rowOf k).map (fun b => (k, b))).Nodup ∧ (∀ c ∈ (g.rowOf k).map (fun b => (k, b)), g.hasCell c.1 c.2 = true) ∧
    g.adj.filter (fun e => !((g.rowOf k).map (fun b => (k, b))).contains (pr e)) = g.adj.filter (fun e => e.1 != k) :=
  cells_perm g h (fun c => c.1 == k) _ (row_perm g k)

theorem col_cells (g : UGraph) (h : EdgesOk g) (k : Nat) :
    ((g.colOf k).map (fun a => (a, k))).Nodup ∧ (∀ c ∈ (g.colOf k).map (fun a => (a, k)), g.hasCell c.1 c.2 = true) ∧
    g.adj.filter (fun e => !((g.colOf k).map (fun a => (a, k))).contains (pr e)) = g.adj.filter (fun e => e.2.1 != k) :=
  cells_perm g h (fun c => c.2 == k) _ (col_perm g k)

/-- `get_all_edges` lists every cell once (in some order) when every row index is a key of `node_map` -/
theorem allEdges_perm (g : UGraph) (hk : (g.nodeMap.map (·.1)).Nodup)
    (hl : ∀ e ∈ g.adj, has g.nodeMap e.1 = true) : g.allEdges.Perm (g.adj.map pr) := by
  have key : ∀ ks : List Nat, ks.Nodup →
      (ks.flatMap (fun k => (g.rowOf k).map (fun b => (k, b)))).Perm ((g.adj.filter (fun e => ks.contains e.1)).map pr) := by
    intro ks
    induction ks with
    | nil => intro _; simp
    | cons k ks ih =>
      intro hn
      rw [List.nodup_cons] at hn
      rw [List.flatMap_cons]
      have h2 : (g.adj.filter (fun e => (k :: ks).contains e.1)).Perm
          (g.adj.filter (fun e => e.1 == k) ++ g.adj.filter (fun e => ks.contains e.1)) := by
        have : (fun e : Edge => (k :: ks).contains e.1) = (fun e => e.1 == k || ks.contains e.1) := by
          funext e; rw [List.contains_cons]
        rw [this]
        apply filter_or_perm
        intro e _ ⟨h1, h2⟩
        rw [beq_iff_eq] at h1
        rw [List.contains_iff_mem] at h2
        exact hn.1 (h1 ▸ h2)
      refine ((row_perm g k).append (ih hn.2)).trans ?_
      rw [← List.map_append]
      exact (h2.map pr).symm
  have := key (g.nodeMap.map (·.1)) hk
  have hall : g.adj.filter (fun e => (g.nodeMap.map (·.1)).contains e.1) = g.adj := by
    rw [List.filter_eq_self]
    intro e he
    rw [List.contains_iff_mem]
    exact (has_iff_mem _ _).1 (hl e he)
  rw [hall] at this
  have e : g.allEdges = (g.nodeMap.map (·.1)).flatMap (fun k => (g.rowOf k).map (fun b => (k, b))) := by
    simp [allEdges, List.flatMap_map]
  rw [e]; exact this

/-- well-formedness of the implementation state: what keeps petgraph's allocator, the matrix, its counter and
the two maps of `UltraMatrixGraph` in step -/
structure WF (g : UGraph) : Prop where
  keysNodup : (g.nodeMap.map (·.1)).Nodup
  indexSync : g.indexMap = sync g.nodeMap
  liveIff : ∀ i, g.ids.isLive i = has g.nodeMap i
  idsOk : g.ids.Ok
  count : g.ids.upper = g.nodeMap.length + g.ids.removed.length
  edgesLive : ∀ e ∈ g.adj, has g.nodeMap e.1 = true ∧ has g.nodeMap e.2.1 = true
  edgesOk : EdgesOk g

theorem wf_init : WF init :=
  ⟨List.nodup_nil, rfl, fun i => by simp [init, IdStore.isLive, has], ⟨List.nodup_nil, fun _ h => by simp [init] at h⟩, rfl,
    fun _ h => by simp [init] at h, ⟨List.nodup_nil, rfl⟩⟩

namespace WF
variable {g : UGraph}

theorem containsNode (h : WF g) (i : Nat) : g.containsNode i = has g.nodeMap i := by
  unfold UGraph.containsNode; rw [mGet_isSome, h.indexSync, has_sync]

theorem mGet_index (h : WF g) (i : Nat) : mGet g.indexMap i = if has g.nodeMap i then some i else none := by
  rw [h.indexSync, mGet_sync]

theorem mGet_index_of_contains (h : WF g) {i : Nat} (hi : g.containsNode i = true) : mGet g.indexMap i = some i := by
  rw [h.mGet_index, ← h.containsNode, hi]; rfl

theorem getNode (h : WF g) (i : Nat) : g.getNode i = mGet g.nodeMap i := by
  unfold UGraph.getNode
  rw [h.containsNode, h.mGet_index]
  cases hi : has g.nodeMap i
  · simp [(mGet_eq_none_iff _ _).2 hi]
  · simp

theorem hasCell_live (h : WF g) {a b : Nat} (hc : g.hasCell a b = true) :
    has g.nodeMap a = true ∧ has g.nodeMap b = true := by
  rw [hasCell, List.any_eq_true] at hc
  obtain ⟨e, he, hp⟩ := hc
  simp only [Bool.and_eq_true, beq_iff_eq] at hp
  have := h.edgesLive e he
  rw [hp.1, hp.2] at this; exact this

theorem containsEdge (h : WF g) (a b : Nat) : g.containsEdge a b = g.hasCell a b := by
  unfold UGraph.containsEdge
  rw [h.containsNode, h.containsNode, h.mGet_index, h.mGet_index]
  cases ha : has g.nodeMap a <;> cases hb : has g.nodeMap b <;> simp
  all_goals
    cases hc : g.hasCell a b
    · rfl
    · have := h.hasCell_live hc; simp_all

theorem abs (h : WF g) : Spec.DiGraph.WF (abs g) := ⟨h.keysNodup, h.edgesLive, h.edgesOk.nodup⟩

theorem len (h : WF g) : g.ids.len = some g.nodeMap.length := by
  unfold IdStore.len
  have := h.count
  rw [if_pos (by omega)]; congr 1; omega

end WF

theorem addNode_eq (g : UGraph) (v : Nat) :
    g.addNode v = ({ g with ids := g.ids.add.1, nodeMap := mInsert g.nodeMap g.ids.add.2 v,
                            indexMap := mInsert g.indexMap g.ids.add.2 g.ids.add.2 }, g.ids.add.2) := rfl

theorem addNode_ok {g : UGraph} (h : WF g) (v : Nat) :
    WF (g.addNode v).1 ∧ has g.nodeMap (g.addNode v).2 = false ∧
    (g.addNode v).1.nodeMap = ((g.addNode v).2, v) :: g.nodeMap ∧
    (g.addNode v).1.indexMap = ((g.addNode v).2, (g.addNode v).2) :: g.indexMap ∧
    (g.addNode v).1.adj = g.adj ∧ (g.addNode v).1.root = g.root := by
  obtain ⟨hfresh, hlive, hok, hcnt⟩ := IdStore.add_spec g.ids h.idsOk
  rw [addNode_eq]
  generalize g.ids.add = r at *
  obtain ⟨ids', id⟩ := r
  dsimp only at hfresh hlive hok hcnt ⊢
  have hf : has g.nodeMap id = false := by rw [← h.liveIff]; exact hfresh
  have hf2 : has g.indexMap id = false := by rw [h.indexSync, has_sync]; exact hf
  rw [mInsert_fresh _ _ _ hf, mInsert_fresh _ _ _ hf2]
  refine ⟨⟨?_, ?_, ?_, hok, ?_, ?_, ⟨h.edgesOk.nodup, h.edgesOk.nb⟩⟩, hf, rfl, rfl, rfl, rfl⟩
  · simp only [List.map_cons, List.nodup_cons]
    exact ⟨(has_false_iff _ _).1 hf, h.keysNodup⟩
  · simp only [h.indexSync, sync_cons]
  · intro i; simp only [hlive, h.liveIff, has_cons]
    rw [Bool.or_comm]; congr 1
    exact BEq.comm
  · have := h.count; simp only [List.length_cons]; omega
  · intro e he
    have := h.edgesLive e he
    simp only [has_cons, this.1, this.2, Bool.or_true, and_self]

theorem addRoot_ok {g : UGraph} (h : WF g) (v : Nat) :
    WF (g.addRoot v).1 ∧ has g.nodeMap (g.addRoot v).2 = false ∧
    (g.addRoot v).1.nodeMap = ((g.addRoot v).2, v) :: g.nodeMap ∧
    (g.addRoot v).1.adj = g.adj ∧ (g.addRoot v).1.root = some (g.addRoot v).2 := by
  obtain ⟨hwf, hf, hnm, him, hadj, _⟩ := addNode_ok h v
  have e : g.addRoot v =
      ({ (g.addNode v).1 with
          root := some (g.addNode v).2
          indexMap := mInsert (g.addNode v).1.indexMap (g.addNode v).2 (g.addNode v).2 }, (g.addNode v).2) := rfl
  rw [e]
  generalize g.addNode v = r at *
  obtain ⟨g1, idx⟩ := r
  dsimp only at hwf hf hnm him hadj ⊢
  have hf2 : has g.indexMap idx = false := by rw [h.indexSync, has_sync]; exact hf
  have e2 : mInsert g1.indexMap idx idx = g1.indexMap := by
    unfold mInsert
    rw [← mRemove, him, mRemove_cons, if_pos rfl, mRemove_of_not_has _ _ hf2]
  rw [e2]
  exact ⟨⟨hwf.keysNodup, hwf.indexSync, hwf.liveIff, hwf.idsOk, hwf.count, hwf.edgesLive,
    ⟨hwf.edgesOk.nodup, hwf.edgesOk.nb⟩⟩, hf, hnm, hadj, rfl⟩

/-- petgraph's `remove_node` on a node with no incident cell left (`hno`) clears nothing and only retires the id; it does not
adjust `nb_edges`, which is why `remove_node` removes the incident cells one by one beforehand -/
theorem petRemoveNode_spec (g : UGraph) (k : Nat) (hok : g.ids.Ok) (hlive : g.ids.isLive k = true)
    (hno : ∀ e ∈ g.adj, e.1 ≠ k ∧ e.2.1 ≠ k) :
    ∃ s', g.petRemoveNode k = some { g with ids := s' } ∧ (∀ i, s'.isLive i = (g.ids.isLive i && i != k)) ∧ s'.Ok ∧
      s'.upper + 1 + g.ids.removed.length = g.ids.upper + s'.removed.length := by
  obtain ⟨s', hs, h1, h2, h3⟩ := IdStore.remove_spec g.ids k hok hlive
  refine ⟨s', ?_, h1, h2, h3⟩
  unfold petRemoveNode
  simp only [hs]
  have : g.adj.filter (fun e => !((e.1 == k && g.ids.liveIds.contains e.2.1) || (e.2.1 == k && g.ids.liveIds.contains e.1)))
      = g.adj := by
    rw [List.filter_eq_self]
    intro e he
    have := hno e he
    have h1 : (e.1 == k) = false := beq_false_of_ne this.1
    have h2 : (e.2.1 == k) = false := beq_false_of_ne this.2
    rw [h1, h2]; rfl
  rw [this]

theorem removeNode_err (ver : Version) {g : UGraph} (h : WF g) (i : Nat) (hi : has g.nodeMap i = false) :
    g.removeNode ver i = (g, .err) := by
  unfold removeNode; rw [h.containsNode, hi]; rfl

/-- the cells of row `i`, then those of column `i` of what is left, go through `removeCells` (`row_cells` / `col_cells` say that each
list is duplicate-free, holds existing cells and removes exactly that row / column); then `petRemoveNode_spec` applies, and
both maps drop `i` -/
theorem removeNode_ok {g : UGraph} (h : WF g) (i : Nat) (hi : has g.nodeMap i = true) :
    ∃ g', g.removeNode .repaired i = (g', .ok) ∧ WF g' ∧ g'.nodeMap = mRemove g.nodeMap i ∧
      g'.adj = g.adj.filter (fun e => e.1 != i && e.2.1 != i) ∧ g'.root = g.root := by
  obtain ⟨hn, hc, hf⟩ := row_cells g h.edgesOk i
  obtain ⟨g1, h1, hok1, hadj1, hids1, hnm1, him1, hroot1⟩ := removeCells_spec _ g h.edgesOk hn hc
  obtain ⟨hn', hc', hf'⟩ := col_cells g1 hok1 i
  obtain ⟨g2, h2, hok2, hadj2, hids2, hnm2, him2, hroot2⟩ := removeCells_spec _ g1 hok1 hn' hc'
  have hadj : g2.adj = g.adj.filter (fun e => e.1 != i && e.2.1 != i) := by
    rw [hadj2, hf', hadj1, hf, List.filter_filter]
    apply List.filter_congr; intro e _; rw [Bool.and_comm]
  have hno : ∀ e ∈ g2.adj, e.1 ≠ i ∧ e.2.1 ≠ i := by
    intro e he
    rw [hadj] at he
    simpa using (List.mem_filter.1 he).2
  have hlive : g2.ids.isLive i = true := by rw [hids2, hids1, h.liveIff, hi]
  have hidsok : g2.ids.Ok := by rw [hids2, hids1]; exact h.idsOk
  obtain ⟨s', h3, hl3, hok3, hcnt3⟩ := petRemoveNode_spec g2 i hidsok hlive hno
  refine ⟨{ g2 with ids := s', nodeMap := mRemove g2.nodeMap i, indexMap := mRemove g2.indexMap i }, ?_, ?_, ?_, hadj, ?_⟩
  · unfold removeNode
    rw [h.containsNode, hi, h.mGet_index, hi]
    simp only [Bool.not_true, Bool.false_eq_true, if_false, if_true, h1, h2, h3]
  · rw [hids2, hids1] at hl3 hcnt3
    have hlen : (mRemove g.nodeMap i).length + 1 = g.nodeMap.length :=
      length_filter_key (fun e : Nat × Nat => e.1) g.nodeMap i h.keysNodup ((has_iff_mem _ _).1 hi)
    refine ⟨?_, ?_, ?_, hok3, ?_, ?_, ⟨hok2.nodup, hok2.nb⟩⟩
    · simp only [hnm2, hnm1]; exact nodup_map_filter _ _ _ h.keysNodup
    · simp only [hnm2, hnm1, him2, him1, h.indexSync, sync_mRemove]
    · intro j; simp only [hnm2, hnm1, hl3, h.liveIff, has_mRemove]
    · have := h.count; simp only [hnm2, hnm1]; omega
    · intro e he
      simp only [hnm2, hnm1, has_mRemove]
      have hne := hno e he
      have hm : e ∈ g.adj := by rw [hadj] at he; exact (List.mem_filter.1 he).1
      have := h.edgesLive e hm
      simp [this.1, this.2, hne.1, hne.2]
  · simp only [hnm2, hnm1]
  · simp only [hroot2, hroot1]

theorem addEdgeW_nodeMap (g : UGraph) (a b w : Nat) : (g.addEdgeW a b w).1.nodeMap = g.nodeMap := by
  have hpet : ∀ k l g', petAddEdge g k l w = some g' → g'.nodeMap = g.nodeMap := by
    intro k l g' hp
    unfold petAddEdge at hp
    split at hp <;> cases hp
    rfl
  unfold addEdgeW
  repeat' split
  all_goals first | rfl | exact hpet _ _ _ ‹_›

/-- when the guard of `add_edge(_with_weight)`, taken as one boolean, holds, the edge is appended and nothing else changes -/
theorem addEdgeW_spec {g : UGraph} (h : WF g) (a b w : Nat) :
    (has g.nodeMap a && has g.nodeMap b && !g.hasCell a b) = true →
      ∃ g', g.addEdgeW a b w = (g', .ok) ∧ WF g' ∧ g'.nodeMap = g.nodeMap ∧ g'.adj = g.adj ++ [(a, b, w)] ∧
        g'.root = g.root := by
  intro hg
  simp only [Bool.and_eq_true, Bool.not_eq_true'] at hg
  obtain ⟨⟨ha, hb⟩, hc⟩ := hg
  refine ⟨{ g with adj := g.adj ++ [(a, b, w)], nbEdges := g.nbEdges + 1 }, ?_, ?_, rfl, rfl, rfl⟩
  · unfold addEdgeW petAddEdge
    rw [h.containsNode, h.containsNode, h.containsEdge, h.mGet_index, h.mGet_index, ha, hb, hc]
    simp only [Bool.not_true, Bool.false_eq_true, if_false, if_true, hc]
  · refine ⟨h.keysNodup, h.indexSync, h.liveIff, h.idsOk, h.count, ?_, ⟨?_, ?_⟩⟩
    · intro e he
      rcases List.mem_append.1 he with he | he
      · exact h.edgesLive e he
      · have : e = (a, b, w) := by simpa using he
        subst this; exact ⟨ha, hb⟩
    · have hnot : (a, b) ∉ g.adj.map pr := by
        rw [← hasCell_iff, hc]; simp
      simp only [List.map_append, List.map_cons, List.map_nil]
      rw [List.nodup_append]
      refine ⟨h.edgesOk.nodup, by simp, ?_⟩
      intro x hx y hy
      have : y = (a, b) := by simpa [pr] using hy
      subst this
      exact fun e => hnot (e ▸ hx)
    · have := h.edgesOk.nb; simp only [List.length_append, List.length_cons, List.length_nil]; omega

theorem addEdgeW_err {g : UGraph} (h : WF g) (a b w : Nat)
    (hg : (has g.nodeMap a && has g.nodeMap b && !g.hasCell a b) = false) : g.addEdgeW a b w = (g, .err) := by
  unfold addEdgeW
  rw [h.containsNode, h.containsNode, h.containsEdge]
  cases ha : has g.nodeMap a <;> cases hb : has g.nodeMap b <;> cases hc : g.hasCell a b <;> simp_all

theorem removeEdge_ok {g : UGraph} (h : WF g) (a b : Nat) (hc : g.hasCell a b = true) :
    ∃ g', g.removeEdge .repaired a b = (g', .ok) ∧ WF g' ∧ g'.nodeMap = g.nodeMap ∧
      g'.adj = g.adj.filter (fun e => !(e.1 == a && e.2.1 == b)) ∧ g'.root = g.root := by
  obtain ⟨ha, hb⟩ := h.hasCell_live hc
  obtain ⟨g1, h1, hok1, hadj1, hids1, hnm1, him1, hroot1⟩ := petRemoveEdge_spec g a b h.edgesOk hc
  refine ⟨g1, ?_, ?_, hnm1, hadj1, hroot1⟩
  · unfold removeEdge
    rw [h.containsNode, h.containsNode, h.containsEdge, h.mGet_index, h.mGet_index, ha, hb, hc]
    simp only [Bool.not_true, Bool.false_eq_true, if_false, if_true, h1]
  · refine ⟨by rw [hnm1]; exact h.keysNodup, by rw [him1, hnm1]; exact h.indexSync,
      by rw [hids1, hnm1]; exact h.liveIff, by rw [hids1]; exact h.idsOk, by rw [hids1, hnm1]; exact h.count, ?_, hok1⟩
    intro e he
    rw [hadj1] at he
    rw [hnm1]
    exact h.edgesLive e (List.mem_filter.1 he).1

theorem removeEdge_err (ver : Version) {g : UGraph} (h : WF g) (a b : Nat) (hc : g.hasCell a b = false) :
    g.removeEdge ver a b = (g, .err) := by
  unfold removeEdge
  rw [h.containsNode, h.containsNode, h.containsEdge, hc]
  cases has g.nodeMap a <;> cases has g.nodeMap b <;> rfl

/-! On a well-formed graph a `Result<(), _>` mutator fails and leaves the graph as it was, or succeeds, and then its
`contains_node` guards had passed. -/

theorem removeNode_answers {g : UGraph} (h : WF g) (i : Nat) :
    g.removeNode .repaired i = (g, .err) ∨ g.containsNode i = true ∧ ∃ g', g.removeNode .repaired i = (g', .ok) := by
  cases hi : has g.nodeMap i
  · exact .inl (removeNode_err .repaired h i hi)
  · exact .inr ⟨(h.containsNode i).trans hi, (removeNode_ok h i hi).imp fun _ => And.left⟩

theorem addEdgeW_answers {g : UGraph} (h : WF g) (a b w : Nat) :
    g.addEdgeW a b w = (g, .err) ∨
      (g.containsNode a = true ∧ g.containsNode b = true) ∧ ∃ g', g.addEdgeW a b w = (g', .ok) := by
  cases hc : (has g.nodeMap a && has g.nodeMap b && !g.hasCell a b)
  · exact .inl (addEdgeW_err h a b w hc)
  · have hab := Bool.and_eq_true_iff.1 (Bool.and_eq_true_iff.1 hc).1
    exact .inr ⟨⟨(h.containsNode a).trans hab.1, (h.containsNode b).trans hab.2⟩,
      (addEdgeW_spec h a b w hc).imp fun _ => And.left⟩

theorem removeEdge_answers {g : UGraph} (h : WF g) (a b : Nat) :
    g.removeEdge .repaired a b = (g, .err) ∨
      (g.containsNode a = true ∧ g.containsNode b = true) ∧ ∃ g', g.removeEdge .repaired a b = (g', .ok) := by
  cases hc : g.hasCell a b
  · exact .inl (removeEdge_err .repaired h a b hc)
  · have hab := h.hasCell_live hc
    exact .inr ⟨⟨(h.containsNode a).trans hab.1, (h.containsNode b).trans hab.2⟩,
      (removeEdge_ok h a b hc).imp fun _ => And.left⟩

theorem clear_ok (g : UGraph) : g.clear = init := rfl

end Model.UGraph
