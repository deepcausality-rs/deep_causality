import DcVerif.Model.RingMultiPay
import DcVerif.Lemmas.RingPay
import DcVerif.Lemmas.RingMultiSafe
/-!
Slot contents of pipelines fed by the **multi-producer** sequencer, along every schedule (ring sizes `2^k`, any topology whose
mutable handlers are alone in their stage, any number of writer threads, any batch lists).

Writers write concurrently and not in sequence order, so there is no single "number of written sequences". A sequence `q` is
*live* (`Live`) when it has been written to its slot and the high watermark is still less than a ring above it
(`hw < q + n`: nobody can even have *claimed* `q + n`, let alone overwritten the slot). The invariant `MPayInv`:

* `slots` — every live slot holds the value written for its sequence (`val q`), transformed by exactly those mutable handlers
  whose progress has reached `q`;
* `saw` — every `(sequence, payload)` pair handed to a handler of stage `k` is the written value transformed by all mutable
  handlers of the stages below `k` (`expectBelow`).

Why it is preserved: (1) a writer about to write `w` has `cursor < w ≤ hw < cursor + n` (release safety, `MRel`), so no handler
has reached `w` and every other live sequence has a different residue; (2) a handler about to handle `i` has `i ≤ cursor`, so
by release safety `i` has been written by its claimant, and `hw < cur + n < i + n` for its own published cursor `cur`
(`MFit` of `Lemmas/RingMultiSafe.lean`, from `has_capacity`), so `i` is live; (3) all live sequences lie in the window `(hw − n, hw]`: distinct residues.
Separately (`MOnce` of `Lemmas/RingMultiSafe.lean`, `MLogInv`): every sequence is written at most once, the ghost `val q` is the value of that write, and it is
the `pay` of the claimant's next item.
-/
namespace RingMultiPay
open Ring RingMulti RingPay

def Wrt (x : MSt) (q : Nat) : Prop := ∃ i, (q, i) ∈ x.written

/-- `q` is written and nothing a ring or more above it has even been claimed: its slot still belongs to it -/
def Live (x : MSt) (q : Nat) : Prop := 1 ≤ q ∧ x.hw < q + x.s.n ∧ Wrt x q

structure MPayInv (c : MPCfg) (s : MPaySt) : Prop where
  slots : ∀ q, Live s.x q → s.slot (q % s.x.s.n) = expectUpTo c.hc s.x.s s.x.s.K q (s.val q)
  saw   : ∀ k j, k < s.x.s.K → j < s.x.s.h k → ∀ e, e ∈ s.seen k j →
            1 ≤ e.1 ∧ e.1 ≤ s.x.s.cursor ∧ e.2 = expectBelow c.hc k (s.val e.1)

theorem stepMPay_write (c : MPCfg) (s : MPaySt) (i : Nat) (hi : i < s.x.P) (hpc : (s.x.wr i).pc = .write)
    (hw : (s.x.wr i).w ≤ (s.x.wr i).hi) :
    stepMPay c s (.writer i) =
      { s with x := stepWriter s.x i,
               slot := updN s.slot ((s.x.wr i).w % s.x.s.n) (c.pay i (s.cnt i) (s.x.wr i).w),
               cnt := updN s.cnt i (s.cnt i + 1),
               val := updN s.val (s.x.wr i).w (c.pay i (s.cnt i) (s.x.wr i).w),
               wlog := s.wlog ++ [((s.x.wr i).w, i, c.pay i (s.cnt i) (s.x.wr i).w)] } := by
  simp [stepMPay, stepM, hi, hpc, hw]

theorem stepMPay_nowrite (c : MPCfg) (s : MPaySt) (i : Nat)
    (h : ¬ (i < s.x.P ∧ (s.x.wr i).pc = .write ∧ (s.x.wr i).w ≤ (s.x.wr i).hi)) :
    stepMPay c s (.writer i) = { s with x := stepM s.x (.writer i) } := by
  simp only [stepMPay]; rw [if_neg h]

theorem mod_ne_of_hw {q i hw n : Nat} (hq : q ≤ hw) (hqn : hw < q + n) (hi : i ≤ hw) (hin : hw < i + n) (hne : q ≠ i) :
    q % n ≠ i % n :=
  mod_ne_of_window (w := hw + 1) (by omega) (by omega) (by omega) (by omega) hne

theorem mpayinv_frame (c : MPCfg) (s : MPaySt) (x' : MSt) (hc : x'.s.cons = s.x.s.cons) (hK : x'.s.K = s.x.s.K)
    (hh : x'.s.h = s.x.s.h) (hn : x'.s.n = s.x.s.n) (hcur : s.x.s.cursor ≤ x'.s.cursor)
    (hlive : ∀ q, Live x' q → Live s.x q) (h : MPayInv c s) : MPayInv c { s with x := x' } := by
  constructor
  · intro q hq
    show s.slot (q % x'.s.n) = expectUpTo c.hc x'.s x'.s.K q (s.val q)
    rw [hn, hK, expectUpTo_cons_eq c.hc hc]
    exact h.slots q (hlive q hq)
  · intro k j hk hj e he
    obtain ⟨h1, h2, h3⟩ := h.saw k j (hK ▸ hk) (hh ▸ hj) e he
    exact ⟨h1, Nat.le_trans h2 hcur, h3⟩

theorem mpayinv_writer (c : MPCfg) (s : MPaySt) (i : Nat) (hi : i < s.x.P) (hS : MSafe s.x) (hO : MOnce s.x)
    (h : MPayInv c s) : MPayInv c (stepMPay c s (.writer i)) := by
  have hI := hS.1.1.2.1
  obtain ⟨hcons, hK, hh, hn, _⟩ := stepWriter_frame s.x i
  have hwe : _ = if _ then _ else _ := stepWriter_written s.x i
  have hhw := stepWriter_hw_mono s.x i
  have hcm := stepWriter_cursor_mono s.x i hi hS.1.1.1
  by_cases hwr : (s.x.wr i).pc = .write ∧ (s.x.wr i).w ≤ (s.x.wr i).hi
  ·
    rw [stepMPay_write c s i hi hwr.1 hwr.2]
    rw [if_pos hwr] at hwe
    obtain ⟨hcw, hwc⟩ := writing_above_cursor s.x hS i hi hwr.1 hwr.2
    have hwin := hS.2.window
    have hhi := (hS.2.ws i hi).hiLe
    have hhw' : (stepWriter s.x i).hw = s.x.hw := by
      rw [stepWriter_eq]; exact if_neg (fun hcas => by rw [hwr.1] at hcas; exact absurd hcas.1 (by simp))
    constructor
    · rintro q ⟨hq1, hq2, i', hq3⟩
      show updN s.slot ((s.x.wr i).w % s.x.s.n) _ (q % (stepWriter s.x i).s.n) =
        expectUpTo c.hc (stepWriter s.x i).s (stepWriter s.x i).s.K q (updN s.val (s.x.wr i).w _ q)
      rw [hn, hK, expectUpTo_cons_eq c.hc hcons]
      rw [hhw', hn] at hq2
      by_cases he : q = (s.x.wr i).w
      · -- the fresh slot: `w` is above the cursor, so no handler has reached it
        subst he
        simp only [updN, if_true]
        rw [expectUpTo_unapplied c.hc s.x.s _ _ 0 s.x.s.K (Nat.zero_le _)]
        · rfl
        · intro k' _ hk' _ hle
          have := progress_le_cursor s.x.s hI k' 0 hk' (hI.1 k' hk')
          omega
      · have hq3' : (q, i') ∈ s.x.written := by
          rw [hwe, List.mem_append, List.mem_singleton] at hq3
          rcases hq3 with h1 | h1
          · exact h1
          · simp only [Prod.mk.injEq] at h1; exact absurd h1.1 he
        have hqle := (hO.le q i' hq3').2
        have hne := mod_ne_of_hw hqle hq2 (by omega : (s.x.wr i).w ≤ s.x.hw) (by omega) he
        simp only [updN, hne, he, if_false]
        exact h.slots q ⟨hq1, hq2, i', hq3'⟩
    · intro k j hk hj e he
      rw [hK] at hk; rw [hh] at hj
      obtain ⟨h1, h2, h3⟩ := h.saw k j hk hj e he
      refine ⟨h1, by show e.1 ≤ (stepWriter s.x i).s.cursor; omega, ?_⟩
      show e.2 = expectBelow c.hc k (updN s.val (s.x.wr i).w _ e.1)
      have : e.1 ≠ (s.x.wr i).w := by omega
      simp only [updN, this, if_false]
      exact h3
  · -- any other writer step: slots, logs and the written set are untouched, the high watermark may grow
    rw [stepMPay_nowrite c s i (fun hc => hwr hc.2), stepM_writer hi]
    rw [if_neg hwr] at hwe
    refine mpayinv_frame c s _ hcons hK hh hn hcm (fun q ⟨hq1, hq2, i', hq3⟩ => ?_) h
    rw [hn] at hq2; rw [hwe] at hq3
    exact ⟨hq1, by omega, i', hq3⟩

theorem mpayinv_drainer (c : MPCfg) (s : MPaySt) (h : MPayInv c s) : MPayInv c (stepMPay c s .drainer) := by
  show MPayInv c { s with x := stepDrainer s.x }
  rw [stepDrainer_eq]
  exact mpayinv_frame c s _ rfl rfl rfl rfl (Nat.le_refl _) (fun _ hq => hq) h

theorem hc_mutH (c : MPCfg) (k j : Nat) : c.hc.mutH k j = c.mutH k j := rfl
theorem hc_tf (c : MPCfg) (k j v : Nat) : c.hc.tf k j v = c.tf k j v := rfl

theorem mpayinv_cons (c : MPCfg) (s : MPaySt) (k j : Nat) (hk : k < s.x.s.K) (hj : j < s.x.s.h k)
    (hS : MSafe s.x) (hF : MFit s.x) (hO : MOnce s.x) (hT : Topo c.hc s.x.s) (h : MPayInv c s) :
    MPayInv c (stepMPay c s (.cons k j)) := by
  have hI := hS.1.1.2.1
  have hx : stepM s.x (.cons k j) = { s.x with s := stepC s.x.s k j } := by simp [stepM, hk, hj]
  simp only [stepMPay, hk, hj, and_self, if_true]
  split
  · -- the handler is invoked for `i`, which is published, hence written by its claimant, and still live
    rename_i hh
    have hci := hI.2 k j hk hj
    have hi1 : 1 ≤ (s.x.s.cons k j).i := by have := progress_handle hci hh.1; omega
    have hicur : (s.x.s.cons k j).i ≤ s.x.s.cursor := by
      have := avail_le_cursor s.x.s hI k j hk hj (by simp [hh.1]); omega
    obtain ⟨hihw, hiw, _⟩ := published_below_cursor s.x hS (s.x.s.cons k j).i hi1 hicur
    have hilive : Live s.x (s.x.s.cons k j).i := by
      have := hF k j hk hj; have := hci.iGe hh.1; have := hci.nextEq (by simp [hh.1])
      exact ⟨hi1, by omega, hiw⟩
    have hv := h.slots _ hilive
    constructor
    · rintro q ⟨hq1, hq2, hq3⟩
      rw [hx] at hq2 hq3 ⊢
      obtain ⟨i', hqw⟩ := hq3
      exact slot_handled c.hc s.x.s hI hT k j hk hj hh.1 hh.2 s.slot s.val hv q (h.slots q ⟨hq1, hq2, i', hqw⟩)
        (mod_ne_of_hw (hO.le q i' hqw).2 hq2 hihw hilive.2.1)
    · intro k' j' hk' hj' e he
      rw [hx] at hk' hj' ⊢
      rcases mem_updL_snoc he with he | ⟨rfl, rfl, rfl⟩
      · exact h.saw k' j' hk' hj' e he
      · exact ⟨hi1, hicur, hv.trans (expectUpTo_handling c.hc s.x.s hI hT k' j' hk hj hh.1 hh.2 _)⟩
  · -- any other consumer step: slots and logs untouched, nobody's progress changes
    rename_i hnh
    constructor
    · rintro q ⟨hq1, hq2, hq3⟩
      rw [hx] at hq2 hq3 ⊢
      show s.slot (q % s.x.s.n) = expectUpTo c.hc (stepC s.x.s k j) s.x.s.K q (s.val q)
      rw [expectUpTo_stepC c.hc s.x.s hI k j hk hj _ _ _ (fun _ hh => absurd hh hnh)]
      exact h.slots q ⟨hq1, hq2, hq3⟩
    · intro k' j' hk' hj' e he
      rw [hx] at hk' hj' ⊢
      exact h.saw k' j' hk' hj' e he

theorem snoc_eq_split {α : Type} (l : List α) (a b : α) (pre post : List α) (h : l ++ [a] = pre ++ b :: post) :
    (post = [] ∧ l = pre ∧ a = b) ∨ ∃ post', post = post' ++ [a] ∧ l = pre ++ b :: post' := by
  rcases List.eq_nil_or_concat post with rfl | ⟨L, z, rfl⟩
  · left
    have := List.append_inj' h (by simp)
    simp at this
    exact ⟨rfl, this⟩
  · right
    have h' : l ++ [a] = (pre ++ b :: L) ++ [z] := by simpa using h
    have := List.append_inj' h' (by simp)
    simp at this
    exact ⟨L, by rw [this.2]; simp, this.1⟩

structure MLogInv (c : MPCfg) (s : MPaySt) : Prop where
  /-- the log is the system's ghost list `written`, with values -/
  proj  : s.wlog.map (fun e => (e.1, e.2.1)) = s.x.written
  valOk : ∀ e, e ∈ s.wlog → s.val e.1 = e.2.2
  cntOk : ∀ i, s.cnt i = s.wlog.countP (fun e => e.2.1 == i)
  /-- the value of a write is the `pay` of the writer's next item: its `m`-th event, `m` = number of its earlier writes -/
  src   : ∀ pre e post, s.wlog = pre ++ e :: post →
            e.2.2 = c.pay e.2.1 (pre.countP (fun e' => e'.2.1 == e.2.1)) e.1

theorem stepMPay_log_frame (c : MPCfg) (s : MPaySt) (t : MTid)
    (h : ∀ i, t = .writer i → ¬ (i < s.x.P ∧ (s.x.wr i).pc = .write ∧ (s.x.wr i).w ≤ (s.x.wr i).hi)) :
    (stepMPay c s t).wlog = s.wlog ∧ (stepMPay c s t).val = s.val ∧ (stepMPay c s t).cnt = s.cnt ∧
    (stepMPay c s t).x.written = s.x.written := by
  cases t with
  | writer i =>
    have hn := h i rfl
    rw [stepMPay_nowrite c s i hn]
    refine ⟨rfl, rfl, rfl, ?_⟩
    show (if i < s.x.P then stepWriter s.x i else s.x).written = s.x.written
    split
    · rename_i hi
      rw [stepWriter_written, writtenAfterW, if_neg (fun hc => hn ⟨hi, hc⟩)]
    · rfl
  | drainer => exact ⟨rfl, rfl, rfl, by rw [stepMPay_x, stepM_drainer, stepDrainer_eq]⟩
  | cons k j =>
    simp only [stepMPay]
    split
    · rename_i hkj
      have hx : stepM s.x (.cons k j) = { s.x with s := stepC s.x.s k j } := by simp [stepM, hkj]
      split <;> exact ⟨rfl, rfl, rfl, by rw [hx]⟩
    · exact ⟨rfl, rfl, rfl, rfl⟩

theorem mloginv_step (c : MPCfg) (s : MPaySt) (t : MTid) (hO : MOnce s.x) (h : MLogInv c s) :
    MLogInv c (stepMPay c s t) := by
  by_cases hw : ∀ i, t = .writer i → ¬ (i < s.x.P ∧ (s.x.wr i).pc = .write ∧ (s.x.wr i).w ≤ (s.x.wr i).hi)
  · obtain ⟨h1, h2, h3, h4⟩ := stepMPay_log_frame c s t hw
    exact ⟨by rw [h1, h4]; exact h.proj, by rw [h1, h2]; exact h.valOk, by rw [h1, h3]; exact h.cntOk,
      by rw [h1]; exact h.src⟩
  · have : ∃ i, t = .writer i ∧ i < s.x.P ∧ (s.x.wr i).pc = .write ∧ (s.x.wr i).w ≤ (s.x.wr i).hi := by
      apply Classical.byContradiction
      intro hc
      exact hw (fun i ht hcond => hc ⟨i, ht, hcond⟩)
    obtain ⟨i, rfl, hi, hpc, hle⟩ := this
    rw [stepMPay_write c s i hi hpc hle]
    have hwe : _ = if _ then _ else _ := stepWriter_written s.x i
    rw [if_pos ⟨hpc, hle⟩] at hwe
    have hun : unwr (s.x.wr i) (s.x.wr i).w := ⟨hpc, Nat.le_refl _, hle⟩
    constructor
    · show (s.wlog ++ [_]).map _ = (stepWriter s.x i).written
      rw [hwe, List.map_append, h.proj]; rfl
    · intro e he
      show updN s.val (s.x.wr i).w _ e.1 = e.2.2
      rw [List.mem_append, List.mem_singleton] at he
      rcases he with he | rfl
      · have hne : e.1 ≠ (s.x.wr i).w := by
          intro heq
          have hm : (e.1, e.2.1) ∈ s.x.written := by
            rw [← h.proj]; exact List.mem_map.2 ⟨e, he, rfl⟩
          rw [heq] at hm
          exact hO.gone _ _ hm i hi hun
        simp only [updN, hne, if_false]
        exact h.valOk e he
      · simp [updN]
    · intro i'
      show updN s.cnt i (s.cnt i + 1) i' = (s.wlog ++ [_]).countP _
      rw [List.countP_append, List.countP_singleton, ← h.cntOk i']
      by_cases he : i' = i
      · subst he; simp [updN]
      · have : ¬ i = i' := fun e => he e.symm
        simp [updN, he, this]
    · intro pre e post heq
      have heq' : s.wlog ++ [((s.x.wr i).w, i, c.pay i (s.cnt i) (s.x.wr i).w)] = pre ++ e :: post := heq
      rcases snoc_eq_split _ _ _ _ _ heq' with ⟨_, h1, h2⟩ | ⟨post', _, h1⟩
      · subst h2
        show c.pay i (s.cnt i) (s.x.wr i).w = c.pay i (pre.countP _) (s.x.wr i).w
        rw [h.cntOk i, h1]
      · exact h.src pre e post' h1

theorem mseen_eq_log_step (c : MPCfg) (s : MPaySt) (t : MTid)
    (h : ∀ k j, (s.seen k j).map (·.1) = (s.x.s.cons k j).log) :
    ∀ k j, ((stepMPay c s t).seen k j).map (·.1) = ((stepMPay c s t).x.s.cons k j).log := by
  intro k' j'
  rw [stepMPay_x]
  cases t with
  | writer i =>
    -- writers and the draining thread touch neither the handler records nor `seen`
    have hc : (stepM s.x (.writer i)).s.cons = s.x.s.cons := by
      show (if i < s.x.P then stepWriter s.x i else s.x).s.cons = s.x.s.cons
      split
      · exact (stepWriter_frame s.x i).1
      · rfl
    simp only [stepMPay]
    split <;> (rw [hc]; exact h k' j')
  | drainer =>
    show (s.seen k' j').map (·.1) = ((stepDrainer s.x).s.cons k' j').log
    rw [(stepDrainer_frame s.x).1]; exact h k' j'
  | cons k j =>
    simp only [stepMPay, stepM]
    split
    · have := seen_log_stepC s.x.s k j s.seen (s.slot ((s.x.s.cons k j).i % s.x.s.n)) h k' j'
      split <;> rename_i hh
      · rw [if_pos hh] at this; exact this
      · rw [if_neg hh] at this; exact this
    · exact h k' j'

theorem mtopo_step (c : MPCfg) (x : MSt) (t : MTid) (h : Topo c.hc x.s) : Topo c.hc (stepM x t).s :=
  h.congr (stepM_cfg x t).K (stepM_cfg x t).h

structure MPayGood (c : MPCfg) (s : MPaySt) : Prop where
  safe : MSafeOwn s.x
  fit  : MFit s.x
  once : MOnce s.x
  topo : Topo c.hc s.x.s
  pay  : MPayInv c s
  log  : MLogInv c s
  seen : ∀ k j, (s.seen k j).map (·.1) = (s.x.s.cons k j).log

theorem mpaygood_step (c : MPCfg) (s : MPaySt) (t : MTid) (h : MPayGood c s) : MPayGood c (stepMPay c s t) := by
  obtain ⟨hS, hF, hO, hT, hP, hL, hSeen⟩ := h
  refine ⟨by rw [stepMPay_x]; exact msafeOwn_stepM s.x t hS, by rw [stepMPay_x]; exact mfit_stepM s.x t hS.1.1 hF,
    by rw [stepMPay_x]; exact monce_stepM s.x t hS.1.2 hO, by rw [stepMPay_x]; exact mtopo_step c s.x t hT, ?_,
    mloginv_step c s t hO hL, mseen_eq_log_step c s t hSeen⟩
  cases t with
  | writer i =>
    by_cases hi : i < s.x.P
    · exact mpayinv_writer c s i hi hS.1 hO hP
    · have : stepMPay c s (.writer i) = s := by
        rw [stepMPay_nowrite c s i (fun hc => hi hc.1)]
        simp [stepM, hi]
      rw [this]; exact hP
  | drainer => exact mpayinv_drainer c s hP
  | cons k j =>
    by_cases hkj : k < s.x.s.K ∧ j < s.x.s.h k
    · exact mpayinv_cons c s k j hkj.1 hkj.2 hS.1 hF hO hT hP
    · have : stepMPay c s (.cons k j) = s := by simp [stepMPay, hkj]
      rw [this]; exact hP

theorem mpaygood_run (c : MPCfg) (s : MPaySt) (sched : List MTid) (h : MPayGood c s) : MPayGood c (runMPay c s sched) :=
  List.foldlRecOn sched (stepMPay c) h (fun s hs t _ => mpaygood_step c s t hs)

theorem mpaygood_init (c : MPCfg) (e K : Nat) (h : Nat → Nat) (blocking : Bool) (batches : List (List Nat))
    (hK : 0 < K) (hh : ∀ k, k < K → 0 < h k) (hb : ∀ l, l ∈ batches → ∀ b, b ∈ l → 1 ≤ b)
    (hT : ∀ k j, k < K → j < h k → c.mutH k j = true → h k = 1) :
    MPayGood c (mkMPay (2 ^ e) K h blocking batches) := by
  have hS := msafe_init e K h blocking batches hK hh hb
  refine ⟨⟨hS, ?_⟩, ?_, ?_, hT, ?_, ?_, ?_⟩
  · refine ⟨?_, ?_, ?_⟩
    · intro i _ hp; simp [mkMPay, mkM] at hp
    · intro i _ cl hcl; simp [mkMPay, mkM] at hcl
    · intro q i hq; simp [mkMPay, mkM] at hq
  · intro k j _ _
    simp only [mkMPay, mkM]
    have := Nat.two_pow_pos e; omega
  · exact ⟨List.nodup_nil, nofun, nofun⟩
  · constructor
    · rintro q ⟨_, _, i, hq⟩; simp [mkMPay, mkM] at hq
    · intro k j _ _ e' he; simp [mkMPay] at he
  · constructor
    · simp [mkMPay, mkM]
    · intro e' he; simp [mkMPay] at he
    · intro i; simp [mkMPay]
    · intro pre e' post heq; simp [mkMPay] at heq
  · intro k j; rfl

theorem nodup_fst_unique {α β : Type} (l : List (α × β)) (h : (l.map (·.1)).Nodup) (a : α) (b b' : β)
    (h1 : (a, b) ∈ l) (h2 : (a, b') ∈ l) : b = b' := by
  induction l with
  | nil => simp at h1
  | cons x xs ih =>
    simp only [List.map_cons, List.nodup_cons] at h
    simp only [List.mem_cons] at h1 h2
    rcases h1 with rfl | h1 <;> rcases h2 with h2 | h2
    · exact (Prod.mk.inj h2).2.symm
    · exact absurd (List.mem_map.2 ⟨(a, b'), h2, rfl⟩) h.1
    · subst h2; exact absurd (List.mem_map.2 ⟨(a, b), h1, rfl⟩) h.1
    · exact ih h.2 h1 h2

end RingMultiPay
