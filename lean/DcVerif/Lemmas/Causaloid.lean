import DcVerif.Lemmas.GraphDfs
/-! Lemmas for C02 / C11: descendants against `Dfs.Reach`, structural induction over nesting trees (a wrapper inherits from its
members: `Causaloid.induct_mem`), and by it: the verdict of a nested model is the conjunction of what it contains, fuel,
termination, the evaluation log, contexts (the specification side, `desc`, `contained`, `Acyclic`, `ctxsOf`, `leafCells`,
`lastOutcome`, is `Spec/Causaloid.lean`). Each of these has a lemma for one member as the dispatch sees it, one for the
items of a collection, and the graph case on top of the stack-machine lemmas of `Lemmas/GraphDfs.lean`. -/
namespace Causal
open Dfs

theorem mem_outOf {n : Nat} {edges : List (Nat × Nat)} {a b : Nat} : b ∈ outOf n edges a → b < n := by
  intro h
  simp only [outOf, List.mem_filter, List.mem_range] at h
  exact h.1

theorem onStack_lt {n : Nat} {edges : List (Nat × Nat)} {ev : Nat → Option V} {r0 v : Nat}
    (hv : OnStack (gOf (outOf n edges) ev) [outOf n edges r0] v) : v < n := by
  obtain ⟨c, hc, hr⟩ := (onStack_single _ _ v).1 hv
  exact hr.bound (fun _ _ => mem_outOf) (mem_outOf hc)

end Causal

namespace Spec.Nest
open Causal Dfs

theorem desc_sound (out : Nat → List Nat) (ev : Nat → V) :
    ∀ k a v, v ∈ desc out k a → Reach ⟨out, ev⟩ a v := by
  intro k
  induction k with
  | zero => intro a v h; simp [desc] at h
  | succ k ih =>
    intro a v h
    simp only [desc, List.mem_cons, List.mem_flatMap] at h
    rcases h with rfl | ⟨b, hb, hv⟩
    · exact Reach.refl _
    · exact Reach.step (g := ⟨out, ev⟩) hb (ih b v hv)

theorem desc_complete (out : Nat → List Nat) (ev : Nat → V) (rank : Nat → Nat)
    (hacyc : ∀ a b, b ∈ out a → rank b < rank a) {a v : Nat} (h : Reach ⟨out, ev⟩ a v) :
    ∀ k, rank a < k → v ∈ desc out k a := by
  induction h with
  | refl a => intro k hk; cases k with
    | zero => omega
    | succ k => simp [desc]
  | @step a b c hb _ ih =>
    intro k hk
    cases k with
    | zero => omega
    | succ k =>
      simp only [desc, List.mem_cons, List.mem_flatMap]
      right
      exact ⟨b, hb, ih k (by have := hacyc a b hb; omega)⟩

end Spec.Nest

namespace Causal
open Dfs Spec.Nest

theorem mem_desc_iff_onStack {n : Nat} {edges : List (Nat × Nat)} (ev : Nat → Option V) (rank : Nat → Nat)
    (hrank : ∀ a b, b ∈ outOf n edges a → rank b < rank a) (hbound : ∀ a, rank a ≤ n) (r0 v : Nat) :
    v ∈ (outOf n edges r0).flatMap (desc (outOf n edges) n) ↔ OnStack (gOf (outOf n edges) ev) [outOf n edges r0] v := by
  rw [onStack_single, List.mem_flatMap]
  constructor
  · rintro ⟨c, hc, hv⟩; exact ⟨c, hc, desc_sound _ _ _ c v hv⟩
  · rintro ⟨c, hc, hv⟩
    refine ⟨c, hc, desc_complete _ _ rank hrank hv _ ?_⟩
    have := hrank r0 c hc; have := hbound r0; omega

/-- the principle Lean generates for structural recursion over `Causaloid`, for statements with a motive `Q` of their own on the
list of members (`Props/C11.lean`, `Props/C12Graph.lean`); when `Q cs` is `∀ c ∈ cs, P c`, `induct_mem` is the one to use -/
theorem Causaloid.induct2 (P : Causaloid → Prop) (Q : List Causaloid → Prop)
    (single : ∀ cell id fn, P (.single cell id fn))
    (coll : ∀ id items, Q items → P (.coll id items))
    (graph : ∀ id nodes edges root, Q nodes → P (.graph id nodes edges root))
    (nil : Q [])
    (cons : ∀ c cs, P c → Q cs → Q (c :: cs)) : (∀ c, P c) ∧ (∀ cs, Q cs) :=
  isActive.mutual_induct P Q single coll graph nil cons

theorem Causaloid.induct_mem (P : Causaloid → Prop)
    (single : ∀ cell id fn, P (.single cell id fn))
    (coll : ∀ id items, (∀ c ∈ items, P c) → P (.coll id items))
    (graph : ∀ id nodes edges root, (∀ c ∈ nodes, P c) → P (.graph id nodes edges root)) (c : Causaloid) : P c :=
  (isActive.mutual_induct P (fun cs => ∀ c ∈ cs, P c) single coll graph (by simp)
    (fun c cs hc hcs => by simpa using ⟨hc, hcs⟩)).1 c

theorem acyclicL_iff {cs : List Causaloid} : AcyclicL cs ↔ ∀ c ∈ cs, Acyclic c := by
  induction cs with
  | nil => simp [AcyclicL]
  | cons c cs ih => simp [AcyclicL, ih]

theorem nodeTable_get (mk : Nat → Nat) (fuel : Nat) (data : List Nat) (idx : Idx) (nodes : List Causaloid) (v : Nat) :
    ((nodeTable mk fuel nodes data idx)[v]?).bind id = (nodes[v]?).bind fun c =>
      (getObs c.id data idx).bind fun o => dispatch mk c (some o) (verifyAll mk fuel c data idx) := by
  induction nodes generalizing v with
  | nil => simp [nodeTable]
  | cons c cs ih =>
    cases v with
    | zero => simp only [nodeTable, List.getElem?_cons_zero, Option.bind_some, id]; cases getObs c.id data idx <;> rfl
    | succ v => simp only [nodeTable, List.getElem?_cons_succ, ih v]

theorem nodeTable_some {mk : Nat → Nat} {fuel : Nat} {data : List Nat} {idx : Idx} {nodes : List Causaloid} {v : Nat} {x : V} :
    ((nodeTable mk fuel nodes data idx)[v]?).bind id = some x ↔ ∃ c o, nodes[v]? = some c ∧ getObs c.id data idx = some o ∧
      dispatch mk c (some o) (verifyAll mk fuel c data idx) = some x := by
  rw [nodeTable_get]; simp [Option.bind_eq_some_iff]

theorem containedNodes_getD (mk : Nat → Nat) (data : List Nat) (idx : Idx) (nodes : List Causaloid) (v : Nat) :
    (containedNodes mk nodes data idx).getD v [] = ((nodes[v]?).map fun c => match getObs c.id data idx with
      | none => [none]
      | some o => memberContained mk c (some o) (contained mk c data idx)).getD [] := by
  induction nodes generalizing v with
  | nil => simp [containedNodes]
  | cons c cs ih =>
    cases v with
    | zero => simp only [containedNodes, List.getD_cons_zero, List.getElem?_cons_zero, Option.map_some, Option.getD_some]; cases getObs c.id data idx <;> rfl
    | succ v => simp only [containedNodes, List.getD_cons_succ, List.getElem?_cons_succ, ih v]

theorem nodeLogs_getD (mk : Nat → Nat) (fuel : Nat) (data : List Nat) (idx : Idx) (nodes : List Causaloid) (v : Nat) :
    (nodeLogs mk fuel nodes data idx).getD v [] = ((nodes[v]?).map fun c => match getObs c.id data idx with
      | none => []
      | some o => dispatchLog mk c (some o) (logAll mk fuel c data idx)).getD [] := by
  induction nodes generalizing v with
  | nil => simp [nodeLogs]
  | cons c cs ih =>
    cases v with
    | zero => simp only [nodeLogs, List.getD_cons_zero, List.getElem?_cons_zero, Option.map_some, Option.getD_some]; cases getObs c.id data idx <;> rfl
    | succ v => simp only [nodeLogs, List.getD_cons_succ, List.getElem?_cons_succ, ih v]

/-- a graph wrapper has a structural fault (no root, empty data, root out of range), or it starts at a node `c`, stops there
    unless `c` is true, and then runs the loop over the table of its nodes -/
theorem graph_eqs (mk : Nat → Nat) (gid : Nat) (nodes : List Causaloid) (edges : List (Nat × Nat)) (root : Option Nat)
    (data : List Nat) (idx : Idx) :
    (contained mk (.graph gid nodes edges root) data idx = [some .e] ∧
      ∀ fuel, verifyAll mk fuel (.graph gid nodes edges root) data idx = some .e ∧
        logAll mk fuel (.graph gid nodes edges root) data idx = []) ∨
    ∃ r0 c, nodes[r0]? = some c ∧
      contained mk (.graph gid nodes edges root) data idx = startVerdict mk c data idx ::
        ((outOf nodes.length edges r0).flatMap (desc (outOf nodes.length edges) nodes.length)).flatMap
          (fun v => (containedNodes mk nodes data idx).getD v []) ∧
      ((startVerdict mk c data idx ≠ some .t ∧
        ∀ fuel, verifyAll mk fuel (.graph gid nodes edges root) data idx = startVerdict mk c data idx ∧
          logAll mk fuel (.graph gid nodes edges root) data idx = startLog mk c data idx) ∨
       (startVerdict mk c data idx = some .t ∧
        ∀ fuel, verifyAll mk fuel (.graph gid nodes edges root) data idx =
            loopO (outOf nodes.length edges) (fun v => ((nodeTable mk fuel nodes data idx)[v]?).bind id)
              nodes.length fuel [outOf nodes.length edges r0] ∧
          logAll mk fuel (.graph gid nodes edges root) data idx = startLog mk c data idx ++
            (visited (outOf nodes.length edges) (fun v => ((nodeTable mk fuel nodes data idx)[v]?).bind id)
              nodes.length fuel [outOf nodes.length edges r0]).flatMap
                (fun v => (nodeLogs mk fuel nodes data idx).getD v []))) := by
  simp only [verifyAll, logAll, contained, reasonGraph, logGraph]
  cases root with
  | none => exact Or.inl ⟨rfl, fun _ => ⟨rfl, rfl⟩⟩
  | some r0 =>
    by_cases hd : data.isEmpty = true
    · exact Or.inl (by simp [hd])
    by_cases hn : nodes.length ≤ r0
    · exact Or.inl (by simp [hd, hn])
    have hc : nodes[r0]? = some nodes[r0] := List.getElem?_eq_getElem (by omega)
    refine Or.inr ⟨r0, _, hc, by simp [hd, hn, hc], ?_⟩
    match hsv : startVerdict mk nodes[r0] data idx with
    | some .t => exact Or.inr (by simp [hd, hn, hc, hsv])
    | none | some .f | some .e => exact Or.inl (by simp [hd, hn, hc, hsv])

theorem member_agrees {mk : Nat → Nat} {fuel : Nat} {c : Causaloid}
    (hc : ∀ data idx r, verifyAll mk fuel c data idx = some r → Agrees (some r) (contained mk c data idx))
    {obs : Option Nat} {data : List Nat} {idx : Idx} {x : V}
    (h : dispatch mk c obs (verifyAll mk fuel c data idx) = some x) :
    Agrees (some x) (memberContained mk c obs (contained mk c data idx)) := by
  cases c with
  | single => simp only [dispatch] at h; simp only [memberContained, h]; exact agrees_self _
  | coll => exact hc data idx x h
  | graph => exact hc data idx x h

theorem reasonFrom_agrees {mk : Nat → Nat} {fuel : Nat} : ∀ (cs : List Causaloid),
    (∀ c ∈ cs, ∀ data idx r, verifyAll mk fuel c data idx = some r → Agrees (some r) (contained mk c data idx)) →
    ∀ data i r, reasonFrom mk fuel cs data i = some r → Agrees (some r) (containedItems mk cs data i)
  | [], _, _, _, _, h => by simp only [reasonFrom] at h; cases h; exact agrees_nil
  | c :: cs, hcs, data, i, r, h => by
    simp only [reasonFrom] at h
    simp only [containedItems]
    cases hdv : dispatch mk c data[i]? (verifyAll mk fuel c data none) with
    | none => simp [hdv] at h
    | some s =>
      have hm := member_agrees (hcs c List.mem_cons_self) hdv
      rw [hdv] at h
      cases s with
      | e => cases h; exact hm.stop (by simp)
      | f => cases h; exact hm.stop (by simp)
      | t => exact hm.cont (reasonFrom_agrees cs (fun c hc => hcs c (List.mem_cons_of_mem _ hc)) data (i + 1) r h)

theorem verdict_agrees (mk : Nat → Nat) (fuel : Nat) (c : Causaloid) :
    Acyclic c → ∀ data idx r, verifyAll mk fuel c data idx = some r → Agrees (some r) (contained mk c data idx) := by
  induction c using Causaloid.induct_mem with
  | single cell id fn =>
    intro _ data idx r h
    simp only [verifyAll] at h; cases h; exact agrees_self _
  | coll id items ih =>
    intro hac data idx r h
    simp only [verifyAll] at h
    simp only [contained]
    split at h
    · rename_i he; cases h; rw [if_pos he]; exact agrees_self _
    · rename_i he; rw [if_neg he]
      exact reasonFrom_agrees items (fun c hc => ih c hc (acyclicL_iff.1 hac c hc)) data 0 r h
  | graph gid nodes edges root ih =>
    intro hac data idx r h
    obtain ⟨⟨rank, hrank, hbound⟩, hacl⟩ := hac
    rcases graph_eqs mk gid nodes edges root data idx with ⟨hc, hv⟩ | ⟨r0, c, _, hc, ⟨hsv, hv⟩ | ⟨hsv, hv⟩⟩
    · rw [(hv fuel).1] at h; cases h; rw [hc]; exact agrees_self _
    · rw [(hv fuel).1] at h; rw [hc, h] at *
      exact (agrees_self _).stop (Lt := _) hsv
    · rw [(hv fuel).1] at h; rw [hc, hsv]
      refine (agrees_self _).cont (Lh := [_]) (loopO_agrees (fun v hv => Nat.ne_of_lt (onStack_lt hv)) h
        (fun v => mem_desc_iff_onStack _ rank hrank hbound r0 v) fun v x hx => ?_)
      rw [nodeTable_get] at hx
      rw [containedNodes_getD]
      cases hn : nodes[v]? with
      | none => simp [hn] at hx
      | some c' =>
        cases ho : getObs c'.id data idx with
        | none => simp [hn, ho] at hx
        | some o =>
          simp only [hn, ho, Option.bind_some, Option.map_some, Option.getD_some] at hx ⊢
          exact member_agrees (ih c' (List.mem_of_getElem? hn) (acyclicL_iff.1 hacl c' (List.mem_of_getElem? hn))) hx

theorem member_mono {mk : Nat → Nat} {f f' : Nat} {c : Causaloid}
    (hc : ∀ data idx r, verifyAll mk f c data idx = some r → verifyAll mk f' c data idx = some r)
    {obs : Option Nat} {data : List Nat} {idx : Idx} {x : V}
    (h : dispatch mk c obs (verifyAll mk f c data idx) = some x) : dispatch mk c obs (verifyAll mk f' c data idx) = some x := by
  cases c with
  | single => exact h
  | coll => exact hc data idx x h
  | graph => exact hc data idx x h

theorem reasonFrom_mono {mk : Nat → Nat} {f f' : Nat} : ∀ (cs : List Causaloid),
    (∀ c ∈ cs, ∀ data idx r, verifyAll mk f c data idx = some r → verifyAll mk f' c data idx = some r) →
    ∀ data i r, reasonFrom mk f cs data i = some r → reasonFrom mk f' cs data i = some r
  | [], _, _, _, _, h => by simpa [reasonFrom] using h
  | c :: cs, hcs, data, i, r, h => by
    simp only [reasonFrom] at h ⊢
    cases hdv : dispatch mk c data[i]? (verifyAll mk f c data none) with
    | none => simp [hdv] at h
    | some s =>
      rw [member_mono (hcs c List.mem_cons_self) hdv]
      rw [hdv] at h
      cases s with
      | e => exact h
      | f => exact h
      | t => exact reasonFrom_mono cs (fun c hc => hcs c (List.mem_cons_of_mem _ hc)) data (i + 1) r h

theorem nodeTable_mono {mk : Nat → Nat} {f f' : Nat} {nodes : List Causaloid}
    (hcs : ∀ c ∈ nodes, ∀ data idx r, verifyAll mk f c data idx = some r → verifyAll mk f' c data idx = some r)
    {data : List Nat} {idx : Idx} {v : Nat} {x : V} (h : ((nodeTable mk f nodes data idx)[v]?).bind id = some x) :
    ((nodeTable mk f' nodes data idx)[v]?).bind id = some x := by
  obtain ⟨c, o, hn, ho, hx⟩ := nodeTable_some.1 h
  exact nodeTable_some.2 ⟨c, o, hn, ho, member_mono (hcs c (List.mem_of_getElem? hn)) hx⟩

theorem verdict_mono (mk : Nat → Nat) {f f' : Nat} (hle : f ≤ f') (c : Causaloid) :
    ∀ data idx r, verifyAll mk f c data idx = some r → verifyAll mk f' c data idx = some r := by
  induction c using Causaloid.induct_mem with
  | single cell id fn => intro data idx r h; simpa [verifyAll] using h
  | coll id items ih =>
    intro data idx r h
    simp only [verifyAll] at h ⊢
    split
    · rename_i he; rwa [if_pos he] at h
    · rename_i he; rw [if_neg he] at h; exact reasonFrom_mono items ih data 0 r h
  | graph gid nodes edges root ih =>
    intro data idx r h
    rcases graph_eqs mk gid nodes edges root data idx with ⟨_, hv⟩ | ⟨r0, c, _, _, ⟨_, hv⟩ | ⟨_, hv⟩⟩
    · rw [(hv f).1] at h; rw [(hv f').1]; exact h
    · rw [(hv f).1] at h; rw [(hv f').1]; exact h
    · rw [(hv f).1] at h; rw [(hv f').1]
      exact loopO_mono (fun v x hx => nodeTable_mono ih hx) hle h

theorem uniform_fuel (mk : Nat → Nat) (nodes : List Causaloid) (data : List Nat) (idx : Idx) :
    ∀ D : List Nat, (∀ v ∈ D, ∃ f x, ((nodeTable mk f nodes data idx)[v]?).bind id = some x) →
      ∃ F, ∀ v ∈ D, ∃ x, ((nodeTable mk F nodes data idx)[v]?).bind id = some x := by
  intro D
  induction D with
  | nil => intro _; exact ⟨0, fun v hv => by simp at hv⟩
  | cons d D ih =>
    intro h
    obtain ⟨F, hF⟩ := ih (fun v hv => h v (List.mem_cons_of_mem _ hv))
    obtain ⟨f, x, hx⟩ := h d (by simp)
    refine ⟨max F f, fun v hv => ?_⟩
    rcases List.mem_cons.1 hv with rfl | hv
    · exact ⟨x, nodeTable_mono (fun c _ => verdict_mono mk (Nat.le_max_right _ _) c) hx⟩
    · obtain ⟨y, hy⟩ := hF v hv
      exact ⟨y, nodeTable_mono (fun c _ => verdict_mono mk (Nat.le_max_left _ _) c) hy⟩

theorem member_terminates {mk : Nat → Nat} {c : Causaloid}
    (hc : ∀ data idx, (∀ l ∈ contained mk c data idx, l ≠ none) → ∃ f r, verifyAll mk f c data idx = some r)
    {obs : Option Nat} {data : List Nat} {idx : Idx}
    (hall : ∀ l ∈ memberContained mk c obs (contained mk c data idx), l ≠ none) :
    ∃ f x, dispatch mk c obs (verifyAll mk f c data idx) = some x := by
  cases c with
  | single cell cid fn =>
    cases hx : obs.bind (fn.apply mk) with
    | none => exact absurd hx (hall _ (by simp [memberContained]))
    | some x => exact ⟨0, x, hx⟩
  | coll => exact hc data idx hall
  | graph => exact hc data idx hall

theorem reasonFrom_terminates {mk : Nat → Nat} : ∀ (cs : List Causaloid),
    (∀ c ∈ cs, ∀ data idx, (∀ l ∈ contained mk c data idx, l ≠ none) → ∃ f r, verifyAll mk f c data idx = some r) →
    ∀ data i, (∀ l ∈ containedItems mk cs data i, l ≠ none) → ∃ f r, reasonFrom mk f cs data i = some r
  | [], _, _, _, _ => ⟨0, .t, by simp [reasonFrom]⟩
  | c :: cs, hcs, data, i, hall => by
    simp only [containedItems] at hall
    obtain ⟨f, x, hx⟩ := member_terminates (hcs c List.mem_cons_self) (fun l hl => hall l (List.mem_append_left _ hl))
    cases x with
    | e => exact ⟨f, .e, by simp only [reasonFrom, hx]⟩
    | f => exact ⟨f, .f, by simp only [reasonFrom, hx]⟩
    | t =>
      obtain ⟨f2, r, hr⟩ := reasonFrom_terminates cs (fun c hc => hcs c (List.mem_cons_of_mem _ hc)) data (i + 1)
        (fun l hl => hall l (List.mem_append_right _ hl))
      refine ⟨max f f2, r, ?_⟩
      simp only [reasonFrom, member_mono (verdict_mono mk (Nat.le_max_left f f2) c) hx]
      exact reasonFrom_mono cs (fun c _ => verdict_mono mk (Nat.le_max_right f f2) c) data (i + 1) r hr

theorem verdict_terminates (mk : Nat → Nat) (c : Causaloid) :
    Acyclic c → ∀ data idx, (∀ l ∈ contained mk c data idx, l ≠ none) → ∃ f r, verifyAll mk f c data idx = some r := by
  induction c using Causaloid.induct_mem with
  | single cell cid fn => intro _ data idx _; exact ⟨0, .e, by simp [verifyAll]⟩
  | coll cid items ih =>
    intro hac data idx hall
    simp only [contained] at hall
    by_cases he : items.isEmpty = true
    · exact ⟨0, .e, by simp [verifyAll, he]⟩
    · rw [if_neg he] at hall
      obtain ⟨f, r, hr⟩ := reasonFrom_terminates items (fun c hc => ih c hc (acyclicL_iff.1 hac c hc)) data 0 hall
      exact ⟨f, r, by simp only [verifyAll, he]; exact hr⟩
  | graph gid nodes edges root ih =>
    intro hac data idx hall
    obtain ⟨⟨rank, hrank, hbound⟩, hacl⟩ := hac
    rcases graph_eqs mk gid nodes edges root data idx with ⟨_, hv⟩ | ⟨r0, c, _, hc, ⟨_, hv⟩ | ⟨_, hv⟩⟩
    · exact ⟨0, .e, (hv 0).1⟩
    · rw [hc] at hall
      cases hsv : startVerdict mk c data idx with
      | none => exact absurd hsv (hall _ List.mem_cons_self)
      | some x => exact ⟨0, x, (hv 0).1.trans hsv⟩
    · rw [hc] at hall
      let D := (outOf nodes.length edges r0).flatMap (desc (outOf nodes.length edges) nodes.length)
      have hnodes : ∀ v ∈ D, ∃ f x, ((nodeTable mk f nodes data idx)[v]?).bind id = some x := by
        intro v hv
        have hlt : v < nodes.length := onStack_lt ((mem_desc_iff_onStack (fun _ => none) rank hrank hbound r0 v).1 hv)
        have hn : nodes[v]? = some nodes[v] := List.getElem?_eq_getElem hlt
        have hall' : ∀ l ∈ (containedNodes mk nodes data idx).getD v [], l ≠ none :=
          fun l hl => hall l (List.mem_cons_of_mem _ (List.mem_flatMap.2 ⟨v, hv, hl⟩))
        rw [containedNodes_getD, hn] at hall'
        cases ho : getObs nodes[v].id data idx with
        | none => simp [ho] at hall'
        | some o =>
          simp only [ho, Option.map_some, Option.getD_some] at hall'
          obtain ⟨f, x, hx⟩ := member_terminates
            (ih _ (List.mem_of_getElem? hn) (acyclicL_iff.1 hacl _ (List.mem_of_getElem? hn))) hall'
          exact ⟨f, x, nodeTable_some.2 ⟨_, o, hn, ho, hx⟩⟩
      obtain ⟨F, hF⟩ := uniform_fuel mk nodes data idx D hnodes
      obtain ⟨fuel2, r, hr⟩ := loopO_terminates (stop := nodes.length) rank hrank [outOf nodes.length edges r0]
        (ev := fun v => ((nodeTable mk F nodes data idx)[v]?).bind id) (fun v hv => by
          obtain ⟨x, hx⟩ := hF v ((mem_desc_iff_onStack _ rank hrank hbound r0 v).2 hv)
          simp [hx])
      refine ⟨max F fuel2, r, ?_⟩
      rw [(hv _).1]
      exact loopO_mono (fun v x hx => nodeTable_mono (fun c _ => verdict_mono mk (Nat.le_max_left _ _) c) hx)
        (Nat.le_max_right _ _) hr

structure LogOk (cells : List Nat) (verdict : Option V) (log : List Event) : Prop where
  cells : ∀ e ∈ log, e.1 ∈ cells
  allTrue : verdict = some .t → ∀ e ∈ log, e.2 = .t
  someFalse : verdict = some .f → ∃ e ∈ log, e.2 = .f

theorem LogOk.weaken {cells cells' : List Nat} {v : Option V} {log : List Event} (h : LogOk cells v log)
    (hsub : ∀ c ∈ cells, c ∈ cells') : LogOk cells' v log :=
  ⟨fun e he => hsub _ (h.cells e he), h.allTrue, h.someFalse⟩

theorem LogOk.nil {cells : List Nat} {v : Option V} (hv : v ≠ some .f) : LogOk cells v [] :=
  ⟨fun _ h => (nomatch h), fun _ _ h => (nomatch h), fun h => absurd h hv⟩

theorem LogOk.seq {cells : List Nat} {v : Option V} {l1 l2 : List Event} (h1 : LogOk cells (some .t) l1)
    (h2 : LogOk cells v l2) : LogOk cells v (l1 ++ l2) :=
  ⟨fun e he => (List.mem_append.1 he).elim (h1.cells e) (h2.cells e),
   fun hv e he => (List.mem_append.1 he).elim (h1.allTrue rfl e) (h2.allTrue hv e),
   fun hv => let ⟨e, he, hf⟩ := h2.someFalse hv; ⟨e, List.mem_append_right _ he, hf⟩⟩

theorem mem_leafCellsL {cs : List Causaloid} {x : Nat} : x ∈ leafCellsL cs ↔ ∃ c ∈ cs, x ∈ leafCells c := by
  induction cs with
  | nil => simp [leafCellsL]
  | cons c cs ih => simp [leafCellsL, ih]

theorem singleLog_ok (mk : Nat → Nat) (cell cid : Nat) (fn : Fn) (o : Nat) :
    LogOk [cell] (fn.apply mk o) (singleLog mk (.single cell cid fn) o) := by
  simp only [singleLog]
  cases h : fn.apply mk o with
  | none => exact .nil (by simp)
  | some x => exact ⟨by simp, by simp, by simp⟩

theorem startLog_ok (mk : Nat → Nat) (c : Causaloid) (data : List Nat) (idx : Idx) :
    LogOk (leafCells c) (startVerdict mk c data idx) (startLog mk c data idx) := by
  simp only [startVerdict, startLog]
  cases getObs c.id data idx with
  | none => exact .nil (by simp)
  | some o =>
    cases c with
    | single cell cid fn => exact singleLog_ok mk cell cid fn o
    | coll => exact .nil (by simp [verifySingle])
    | graph => exact .nil (by simp [verifySingle])

theorem loopO_logOk {cells : List Nat} {out : Nat → List Nat} {ev : Nat → Option V} {stop fuel : Nat} {st : List (List Nat)}
    {L : Nat → List Event} (hL : ∀ v, LogOk cells (ev v) (L v)) :
    LogOk cells (loopO out ev stop fuel st) ((visited out ev stop fuel st).flatMap L) := by
  refine ⟨fun e he => ?_, fun h e he => ?_, fun h => ?_⟩
  · obtain ⟨v, _, hv⟩ := List.mem_flatMap.1 he
    exact (hL v).cells e hv
  · obtain ⟨v, hvis, hv⟩ := List.mem_flatMap.1 he
    exact (hL v).allTrue ((loopO_visited h).1 rfl v hvis) e hv
  · obtain ⟨v, hvis, hev⟩ := (loopO_visited h).2 (by decide)
    obtain ⟨e, he, hf⟩ := (hL v).someFalse hev
    exact ⟨e, List.mem_flatMap.2 ⟨v, hvis, he⟩, hf⟩

theorem member_logOk {mk : Nat → Nat} {fuel : Nat} {c : Causaloid}
    (hc : ∀ data idx, LogOk (leafCells c) (verifyAll mk fuel c data idx) (logAll mk fuel c data idx))
    (obs : Option Nat) (data : List Nat) (idx : Idx) :
    LogOk (leafCells c) (dispatch mk c obs (verifyAll mk fuel c data idx)) (dispatchLog mk c obs (logAll mk fuel c data idx)) := by
  cases c with
  | single cell cid fn =>
    cases obs with
    | none => exact .nil (by simp [dispatch])
    | some o => exact singleLog_ok mk cell cid fn o
  | coll => exact hc data idx
  | graph => exact hc data idx

theorem logFrom_ok {mk : Nat → Nat} {fuel : Nat} : ∀ (cs : List Causaloid),
    (∀ c ∈ cs, ∀ data idx, LogOk (leafCells c) (verifyAll mk fuel c data idx) (logAll mk fuel c data idx)) →
    ∀ data i, LogOk (leafCellsL cs) (reasonFrom mk fuel cs data i) (logFrom mk fuel cs data i)
  | [], _, _, _ => .nil (by simp [reasonFrom])
  | c :: cs, hcs, data, i => by
    have hm := (member_logOk (hcs c List.mem_cons_self) data[i]? data none).weaken (cells' := leafCellsL (c :: cs))
      (fun x hx => mem_leafCellsL.2 ⟨c, List.mem_cons_self, hx⟩)
    have ht := (logFrom_ok cs (fun c hc => hcs c (List.mem_cons_of_mem _ hc)) data (i + 1)).weaken (cells' := leafCellsL (c :: cs))
      (fun x hx => by simp only [leafCellsL, List.mem_append]; exact Or.inr hx)
    simp only [logFrom, reasonFrom]
    generalize dispatch mk c data[i]? (verifyAll mk fuel c data none) = dv at hm ⊢
    match dv with
    | none => simpa using hm
    | some .e => simpa using hm
    | some .f => simpa using hm
    | some .t => exact hm.seq ht

theorem log_ok (mk : Nat → Nat) (fuel : Nat) (c : Causaloid) :
    ∀ data idx, LogOk (leafCells c) (verifyAll mk fuel c data idx) (logAll mk fuel c data idx) := by
  induction c using Causaloid.induct_mem with
  | single cell cid fn => intro data idx; exact .nil (by simp [verifyAll])
  | coll cid items ih =>
    intro data idx
    simp only [logAll, verifyAll, leafCells]
    split
    · rename_i he
      rw [List.isEmpty_iff.1 he]; exact .nil (by simp)
    · exact logFrom_ok items ih data 0
  | graph gid nodes edges root ih =>
    intro data idx
    rcases graph_eqs mk gid nodes edges root data idx with ⟨_, hv⟩ | ⟨r0, c, hc, _, ⟨hsv, hv⟩ | ⟨hsv, hv⟩⟩
    · rw [(hv fuel).1, (hv fuel).2]; exact .nil (by simp)
    · rw [(hv fuel).1, (hv fuel).2]
      exact (startLog_ok mk c data idx).weaken fun x hx => mem_leafCellsL.2 ⟨c, List.mem_of_getElem? hc, hx⟩
    · rw [(hv fuel).1, (hv fuel).2]
      refine LogOk.seq (hsv ▸ (startLog_ok mk c data idx).weaken fun x hx => mem_leafCellsL.2 ⟨c, List.mem_of_getElem? hc, hx⟩)
        (loopO_logOk fun v => ?_)
      rw [nodeTable_get, nodeLogs_getD]
      cases hn : nodes[v]? with
      | none => exact .nil (by simp)
      | some c' =>
        simp only [Option.bind_some, Option.map_some, Option.getD_some]
        cases getObs c'.id data idx with
        | none => exact .nil (by simp)
        | some o =>
          exact (member_logOk (ih c' (List.mem_of_getElem? hn)) (some o) data idx).weaken
            fun x hx => mem_leafCellsL.2 ⟨c', List.mem_of_getElem? hn, hx⟩

theorem applyLog_eq_lastOutcome (log : List Event) : ∀ (s : Cells) (cell : Nat),
    applyLog s log cell = (lastOutcome cell log).getD (s cell) := by
  induction log with
  | nil => intro s cell; rfl
  | cons e rest ih =>
    intro s cell
    obtain ⟨c, v⟩ := e
    have hstep : applyLog s ((c, v) :: rest) = applyLog (applyEvent s (c, v)) rest := rfl
    rw [hstep, ih]
    simp only [lastOutcome]
    cases hl : lastOutcome cell rest with
    | some b => rfl
    | none =>
      simp only [Option.getD_none]
      by_cases hc : c = cell
      · subst hc; cases v <;> simp [applyEvent]
      · have hc' : ¬ cell = c := fun h => hc h.symm
        cases v <;> simp [applyEvent, hc, hc']

theorem lastOutcome_none {cell : Nat} {log : List Event} (h : ∀ e ∈ log, e.1 ≠ cell) : lastOutcome cell log = none := by
  induction log with
  | nil => rfl
  | cons e rest ih =>
    obtain ⟨c, v⟩ := e
    simp only [lastOutcome, ih (fun e he => h e (List.mem_cons_of_mem _ he)), if_neg (h (c, v) List.mem_cons_self)]

theorem run_append (mk : Nat → Nat) (fuel : Nat) (ops : List Op) (op : Op) :
    run mk fuel (ops ++ [op]) = applyLog (run mk fuel ops) (opLog mk fuel op) := by
  simp [run, events, applyLog, List.flatMap_append, List.foldl_append]

theorem fn_apply_congr (mk mk' : Nat → Nat) (fn : Fn) (h : ∀ k ∈ fnCtxs fn, mk k = mk' k) (o : Nat) :
    fn.apply mk o = fn.apply mk' o := by
  cases fn with
  | plain => rfl
  | inv => rfl
  | ctx c =>
    cases c with
    | none => rfl
    | some k => simp [Fn.apply, h k (by simp [fnCtxs])]

theorem mem_ctxsOfL {cs : List Causaloid} {k : Nat} : k ∈ ctxsOfL cs ↔ ∃ c ∈ cs, k ∈ ctxsOf c := by
  induction cs with
  | nil => simp [ctxsOfL]
  | cons c cs ih => simp [ctxsOfL, ih]

theorem startVerdict_congr (mk mk' : Nat → Nat) (c : Causaloid) (h : ∀ k ∈ ctxsOf c, mk k = mk' k) (data : List Nat)
    (idx : Idx) : startVerdict mk c data idx = startVerdict mk' c data idx := by
  simp only [startVerdict]
  cases getObs c.id data idx with
  | none => rfl
  | some o =>
    cases c with
    | single cell cid fn => exact fn_apply_congr mk mk' fn h o
    | coll => rfl
    | graph => rfl

theorem member_congr {mk mk' : Nat → Nat} {fuel : Nat} {c : Causaloid} (h : ∀ k ∈ ctxsOf c, mk k = mk' k)
    (hc : ∀ data idx, verifyAll mk fuel c data idx = verifyAll mk' fuel c data idx) (obs : Option Nat) (data : List Nat)
    (idx : Idx) : dispatch mk c obs (verifyAll mk fuel c data idx) = dispatch mk' c obs (verifyAll mk' fuel c data idx) := by
  cases c with
  | single cell cid fn =>
    cases obs with
    | none => rfl
    | some o => exact fn_apply_congr mk mk' fn h o
  | coll => exact hc data idx
  | graph => exact hc data idx

theorem verdict_congr_ctx (mk mk' : Nat → Nat) (fuel : Nat) (c : Causaloid) :
    (∀ k ∈ ctxsOf c, mk k = mk' k) → ∀ data idx, verifyAll mk fuel c data idx = verifyAll mk' fuel c data idx := by
  induction c using Causaloid.induct_mem with
  | single cell cid fn => intro _ _ _; rfl
  | coll cid items ih =>
    intro h data idx
    have hitems : ∀ i, reasonFrom mk fuel items data i = reasonFrom mk' fuel items data i := by
      induction items with
      | nil => intro i; rfl
      | cons c cs ihcs =>
        intro i
        have hc : ∀ k ∈ ctxsOf c, mk k = mk' k := fun k hk => h k (mem_ctxsOfL.2 ⟨c, List.mem_cons_self, hk⟩)
        simp only [reasonFrom, member_congr hc (ih c List.mem_cons_self hc),
          ihcs (fun c hc => ih c (List.mem_cons_of_mem _ hc))
            (fun k hk => h k (by simp only [ctxsOf, ctxsOfL, List.mem_append] at hk ⊢; exact Or.inr hk))]
    simp only [verifyAll, hitems]
  | graph gid nodes edges root ih =>
    intro h data idx
    have hn : ∀ c ∈ nodes, ∀ k ∈ ctxsOf c, mk k = mk' k := fun c hc k hk => h k (mem_ctxsOfL.2 ⟨c, hc, hk⟩)
    have htbl : nodeTable mk fuel nodes data idx = nodeTable mk' fuel nodes data idx := by
      clear h
      induction nodes with
      | nil => rfl
      | cons c cs ihcs =>
        simp only [nodeTable, member_congr (hn c List.mem_cons_self) (ih c List.mem_cons_self (hn c List.mem_cons_self)),
          ihcs (fun c hc => ih c (List.mem_cons_of_mem _ hc)) (fun c hc => hn c (List.mem_cons_of_mem _ hc))]
    have hstart : ((root.bind (nodes[·]?)).bind fun c => startVerdict mk c data idx) =
        (root.bind (nodes[·]?)).bind fun c => startVerdict mk' c data idx := by
      cases hr : root.bind (nodes[·]?) with
      | none => rfl
      | some c =>
        obtain ⟨r0, _, hc⟩ := Option.bind_eq_some_iff.1 hr
        exact startVerdict_congr mk mk' c (hn c (List.mem_of_getElem? hc)) data idx
    simp only [verifyAll, htbl, hstart]

/-- a checkable sufficient condition for the rank hypothesis of `Spec.Nest.Acyclic` -/
theorem rank_of_edges (n : Nat) (edges : List (Nat × Nat)) (rk : Nat → Nat)
    (h : ∀ e ∈ edges, rk e.2 < rk e.1) : ∀ a b, b ∈ outOf n edges a → rk b < rk a := by
  intro a b hb
  simp only [outOf, List.mem_filter, List.mem_range, List.contains_iff_mem] at hb
  exact h (a, b) hb.2

end Causal
