import DcVerif.Model.Window
/-! Helper lemmas for C07: list facts about `lastN`, buffer windows and `memmove`, the representation invariant `Inv`
shared by all storages, and its preservation by the two building blocks of every `push`
(append at `tail` / move the window to the front), which together form the canonical next state `next`.
Nothing here mentions a generated definition; what the generated functions do under `Inv` is `Props/C07Gen.lean`. -/
namespace Lemmas.Window
open Spec.Window Model.Window

variable {α : Type}

theorem lastN_length (n : Nat) (xs : List α) : (lastN n xs).length = min xs.length n := by
  unfold lastN; rw [List.length_drop]; omega

theorem lastN_of_le (n : Nat) (xs : List α) (h : xs.length ≤ n) : lastN n xs = xs := by
  unfold lastN; rw [Nat.sub_eq_zero_of_le h]; rfl

theorem lastN_snoc {n k : Nat} (xs : List α) (v : α) (hn : 0 < n)
    (hk : xs.length < n ∧ k = 0 ∨ n ≤ xs.length ∧ k = 1) :
    lastN n (xs ++ [v]) = (lastN n xs).drop k ++ [v] := by
  unfold lastN
  rw [List.drop_drop, List.length_append, List.length_singleton, ← List.drop_append_of_le_length (by omega)]
  congr 1; omega

theorem lastN_getLast? (n : Nat) (xs : List α) (hn : 0 < n) : (lastN n xs).getLast? = xs.getLast? := by
  unfold lastN
  rw [List.getLast?_drop]
  cases xs with
  | nil => rfl
  | cons x xs => rw [if_neg (by rw [List.length_cons]; omega)]

theorem window_set (buf : List α) (h t : Nat) (v : α) (hl : t < buf.length) (hh : h ≤ t) :
    ((buf.set t v).drop h).take (t + 1 - h) = (buf.drop h).take (t - h) ++ [v] := by
  rw [← List.drop_take, ← List.drop_take, List.take_add_one, List.take_set_of_le (Nat.le_refl t),
    List.getElem?_set_self hl, List.drop_append_of_le_length (by rw [List.length_take]; omega)]
  rfl

theorem window_drop (buf : List α) (h len k : Nat) :
    ((buf.drop h).take len).drop k = (buf.drop (h + k)).take (len - k) := by
  rw [List.drop_take, List.drop_drop]

theorem window_getLast? (buf : List α) (h k : Nat) (hk : 0 < k) (hl : h + k ≤ buf.length) :
    ((buf.drop h).take k).getLast? = buf[h + k - 1]? := by
  rw [List.getLast?_eq_getElem?, List.length_take, List.length_drop, Nat.min_eq_left (by omega),
    List.getElem?_take_of_lt (by omega), List.getElem?_drop, Nat.add_sub_assoc hk]

theorem memmove_take (buf : List α) (s n : Nat) (h : s + n ≤ buf.length) :
    (memmove buf s 0 n).take n = (buf.drop s).take n := by
  unfold memmove
  rw [if_pos ⟨h, by omega⟩, List.take_zero, List.nil_append,
    List.take_append_of_le_length (by rw [List.length_take, List.length_drop]; omega),
    List.take_of_length_le (by rw [List.length_take]; omega)]

/-- `w` represents a window of size `n` in a buffer of `c` cells after the push history `xs` -/
structure Inv (n c : Nat) (w : St α) (xs : List α) : Prop where
  sz     : w.size = n
  cp     : w.cap = c
  len    : w.buf.length = c
  capgt  : n < c
  szpos  : 0 < n
  tl     : w.tail ≤ c
  hd     : w.head + min xs.length n = w.tail
  short  : xs.length < n → w.tail = xs.length
  vw     : (w.buf.drop w.head).take (w.tail - w.head) = lastN n xs

/-- the state every constructor builds -/
def init (size cap : Nat) (d : α) : St α :=
  { buf := List.replicate cap d, size := size, cap := cap, head := 0, tail := 0 }

theorem inv_init (n c : Nat) (d : α) (h : n < c) (hs : 0 < n) :
    Inv n c (init n c d) ([] : List α) :=
  ⟨rfl, rfl, List.length_replicate, h, hs, Nat.zero_le c, (Nat.zero_add _).trans (Nat.zero_min n), fun _ => rfl,
    List.drop_nil.symm⟩

def appended (n : Nat) (w : St α) (xs : List α) (v : α) : St α :=
  { w with buf := w.buf.set w.tail v, tail := w.tail + 1, head := if xs.length < n then w.head else w.head + 1 }

def rewound (n : Nat) (w : St α) : St α :=
  { w with buf := memmove w.buf (w.tail - n) 0 n, head := 0, tail := n }

def next (n c : Nat) (w : St α) (xs : List α) (v : α) : St α :=
  if w.tail < c then appended n w xs v else appended n (rewound n w) xs v

section
variable {n c : Nat} {w : St α} {xs : List α}

theorem inv_append (v : α) (h : Inv n c w xs) (hroom : w.tail < c) :
    Inv n c (appended n w xs v) (xs ++ [v]) := by
  have hd := h.hd; have hs := h.short; have hp := h.szpos
  have hl : (xs ++ [v]).length = xs.length + 1 := List.length_append
  obtain ⟨k, hk, hk'⟩ : ∃ k, (if xs.length < n then w.head else w.head + 1) = w.head + k ∧
      (xs.length < n ∧ k = 0 ∨ n ≤ xs.length ∧ k = 1) := by
    split
    · exact ⟨0, rfl, .inl ⟨‹_›, rfl⟩⟩
    · exact ⟨1, rfl, .inr ⟨Nat.le_of_not_lt ‹_›, rfl⟩⟩
  unfold appended; rw [hk]
  refine ⟨h.sz, h.cp, by rw [← h.len]; exact List.length_set, h.capgt, hp, hroom, ?_, ?_, ?_⟩
  · show w.head + k + min (xs ++ [v]).length n = w.tail + 1
    omega
  · intro hlt
    show w.tail + 1 = (xs ++ [v]).length
    omega
  · show ((w.buf.set w.tail v).drop (w.head + k)).take (w.tail + 1 - (w.head + k)) = _
    rw [window_set _ _ _ _ (h.len ▸ hroom) (by omega), lastN_snoc xs v hp hk', ← h.vw, window_drop,
      Nat.sub_add_eq]

theorem inv_rewind (h : Inv n c w xs) (hfull : n ≤ xs.length) : Inv n c (rewound n w) xs := by
  have hd : w.head + n = w.tail := by rw [← h.hd, Nat.min_eq_right hfull]
  have hc := h.capgt; have ht := h.tl
  refine ⟨h.sz, h.cp, by rw [← h.len]; exact memmove_length .., hc, h.szpos, Nat.le_of_lt hc, ?_, ?_, ?_⟩
  · exact (Nat.zero_add _).trans (Nat.min_eq_right hfull)
  · intro hlt; omega
  · show ((memmove w.buf (w.tail - n) 0 n).drop 0).take (n - 0) = _
    rw [List.drop_zero, Nat.sub_zero, memmove_take _ _ _ (by rw [h.len]; omega), ← h.vw]
    congr 2 <;> omega

theorem inv_tail_ge (h : Inv n c w xs) : (w.tail ≥ n) ↔ n ≤ xs.length := by
  have := h.hd; have := h.short; omega

theorem inv_full_of_tail_cap (h : Inv n c w xs) (ht : c ≤ w.tail) : n ≤ xs.length :=
  (inv_tail_ge h).1 (Nat.le_trans (Nat.le_of_lt h.capgt) ht)

theorem next_inv (w : St α) (xs : List α) (v : α) (h : Inv n c w xs) :
    Inv n c (next n c w xs v) (xs ++ [v]) := by
  unfold next
  split
  · exact inv_append v h ‹_›
  · exact inv_append v (inv_rewind h (inv_full_of_tail_cap h (by omega))) h.capgt

theorem inv_bounds (h : Inv n c w xs) :
    w.size = n ∧ w.buf.length = c ∧ w.tail ≤ c ∧ w.head ≤ w.tail ∧ w.tail - w.head = min xs.length n := by
  have := h.hd
  exact ⟨h.sz, h.len, h.tl, by omega, by omega⟩

theorem inv_tail_zero (h : Inv n c w xs) : w.tail = 0 ↔ xs = [] := by
  have := h.hd; have := h.short; have := h.szpos
  rw [← List.length_eq_zero_iff]; omega

theorem inv_head (h : Inv n c w xs) (hne : xs ≠ []) : w.buf[w.head]? = (lastN n xs).head? ∧ w.head < w.buf.length := by
  have := h.hd; have := h.szpos; have := h.tl
  have : 0 < xs.length := List.length_pos_iff.mpr hne
  rw [← h.vw, List.head?_take, if_neg (by omega), List.head?_drop, h.len]
  exact ⟨rfl, by omega⟩

theorem inv_newest (h : Inv n c w xs) (hf : n ≤ xs.length) :
    w.buf[w.tail - 1]? = xs.getLast? ∧ w.tail - 1 < w.buf.length ∧ 0 < w.tail := by
  have : w.head + n = w.tail := by rw [← h.hd, Nat.min_eq_right hf]
  have := h.szpos; have := h.tl
  rw [← lastN_getLast? n xs h.szpos, ← h.vw, window_getLast? _ _ _ (by omega) (by rw [h.len]; omega),
    Nat.add_sub_cancel' (by omega), h.len]
  exact ⟨rfl, by omega, by omega⟩
end

end Lemmas.Window
