import DcVerif.Lemmas.RingHandlerLive
import DcVerif.Lemmas.RingMultiSafe
import DcVerif.Lemmas.RingMultiStep
/-!
# Mutex / wake-up invariants of the pipeline with the multi-producer sequencer — any number of writers, every schedule

The counterpart of the every-schedule invariants of `Lemmas/RingLive.lean` for `Model/RingMulti.lean`: `XInv` (ownership
of the wait strategy's mutex and mutual exclusion among writer threads, the draining thread and the handlers; mode
consistency; `is_done`), `DInv` (facts local to the draining thread), `NInvM` (no lost wake-up), `GInv` (all of them, for
every reachable state), `no_lost_wakeup`, `exists_enabled` (no deadlock), stability of the wait conditions.
-/
namespace RingMulti
open Ring

/-- writer pcs at which the thread owns the mutex -/
def wHold : WPc → Bool
  | .sNotify | .sUnlock => true
  | _ => false

/-- pcs of the draining thread at which it owns the mutex -/
def dHold : DPc → Bool
  | .dNotify | .dUnlock | .eNotify | .eUnlock => true
  | _ => false

def wSpin : WPc → Bool
  | .sLock | .sNotify | .sUnlock => false
  | _ => true

def dSpin : DPc → Bool
  | .dLock | .dNotify | .dUnlock | .eLock | .eNotify | .eUnlock => false
  | _ => true

/-- pcs after `is_done.store(true)` of `drain` -/
def dAfterSet : DPc → Bool
  | .eLock | .eNotify | .eUnlock | .done => true
  | _ => false

/-- writer pcs between its cursor CAS and the `notify_all` of the `signal()` that follows -/
def wPend : WPc → Bool
  | .setLw | .sLock | .sNotify => true
  | _ => false

/-- pcs of the draining thread between a drain-loop iteration / the `is_done` store and the `notify_all` of `signal()` -/
def dPend : DPc → Bool
  | .dLock | .dNotify | .eLock | .eNotify => true
  | _ => false

def holdersP (x : MSt) : Prop := dHold x.dr.pc = true ∨ ∃ i, i < x.P ∧ wHold (x.wr i).pc = true

theorem writersDone_iff (x : MSt) :
    writersDone x = true ↔ ∀ i, i < x.P → ((x.wr i).pc = .done ∨ (x.wr i).pc = .panicked) := by
  unfold writersDone
  simp only [List.all_eq_true, List.mem_range, Bool.or_eq_true, beq_iff_eq]

/-- **mutual exclusion and ownership** (any number of writers): with the blocking strategy a handler is between its `lock`
and its `unlock` / `cvar.wait` exactly when it owns the mutex; the mutex is owned by the producer side exactly when a
writer thread or the draining thread is between `lock` and `unlock`, and at most one of them is; with the spin strategy
the mutex is never touched; `is_done` is set exactly from `drain`'s store on; a handler only leaves its loop after that;
no writer dies in `has_capacity` (F12 repaired). -/
structure XInv (x : MSt) : Prop where
  spinM : x.s.blocking = false → x.s.mtx = none
  spinW : x.s.blocking = false → ∀ i, i < x.P → wSpin (x.wr i).pc = true
  spinD : x.s.blocking = false → dSpin x.dr.pc = true
  spinC : x.s.blocking = false → ∀ k j, k < x.s.K → j < x.s.h k → Spin.cSpin (x.s.cons k j).pc = true
  blkC  : x.s.blocking = true → ∀ k j, k < x.s.K → j < x.s.h k →
            ((cHold (x.s.cons k j).pc = true ↔ x.s.mtx = some (.cons k j)) ∧ (x.s.cons k j).pc ≠ .checkAlert)
  blkP  : x.s.blocking = true → (x.s.mtx = some .prod ↔ holdersP x)
  uniqW : ∀ i j, i < x.P → j < x.P → wHold (x.wr i).pc = true → wHold (x.wr j).pc = true → i = j
  uniqD : ∀ i, i < x.P → wHold (x.wr i).pc = true → dHold x.dr.pc = false
  owner : ∀ k j, x.s.mtx = some (.cons k j) → k < x.s.K ∧ j < x.s.h k
  doneIff : x.s.isDone = true ↔ dAfterSet x.dr.pc = true
  consDone : ∀ k j, k < x.s.K → j < x.s.h k →
            ((x.s.cons k j).pc = .done ∨ (x.s.cons k j).pc = .bUnlockExit) → x.s.isDone = true
  noPanic : ∀ i, i < x.P → (x.wr i).pc ≠ .panicked

/-- nobody dies: when the writer threads have ended they have all returned -/
theorem XInv.writers_done {x : MSt} (h : XInv x) (hwd : writersDone x = true) : ∀ i, i < x.P → (x.wr i).pc = .done :=
  fun i hi => ((writersDone_iff x).1 hwd i hi).resolve_right (h.noPanic i hi)

theorem wSpin_not_hold {pc : WPc} (h : wSpin pc = true) : wHold pc = false := by
  cases pc <;> simp_all [wSpin, wHold]

theorem dSpin_not_hold {pc : DPc} (h : dSpin pc = true) : dHold pc = false := by
  cases pc <;> simp_all [dSpin, dHold]

theorem wSpin_ne {pc : WPc} (h : wSpin pc = true) : pc ≠ .sLock ∧ pc ≠ .sNotify ∧ pc ≠ .sUnlock := by
  cases pc <;> simp [wSpin] at h ⊢

theorem stepW_signal (x : MSt) (w : Writer) :
    (w.pc = .setLw ∧ (stepW x w).pc = if x.s.blocking then .sLock else .start) ∨
    (w.pc = .sLock ∧ (stepW x w).pc = if x.s.mtx = none then .sNotify else .sLock) ∨
    (w.pc = .sNotify ∧ (stepW x w).pc = .sUnlock) ∨
    (w.pc = .sUnlock ∧ (stepW x w).pc = .start) ∨
    (wSpin w.pc = true ∧ w.pc ≠ .setLw ∧ wSpin (stepW x w).pc = true ∧
      (w.pc ≠ .panicked → (stepW x w).pc ≠ .panicked)) := by
  by_cases h1 : w.pc = .setLw
  · exact Or.inl ⟨h1, by simp [stepW, h1]⟩
  by_cases h2 : w.pc = .sLock
  · refine Or.inr (Or.inl ⟨h2, ?_⟩); simp only [stepW, h2]; split <;> simp [*]
  by_cases h3 : w.pc = .sNotify
  · exact Or.inr (Or.inr (Or.inl ⟨h3, by simp [stepW, h3]⟩))
  by_cases h4 : w.pc = .sUnlock
  · exact Or.inr (Or.inr (Or.inr (Or.inl ⟨h4, by simp [stepW, h4]⟩)))
  refine Or.inr (Or.inr (Or.inr (Or.inr ⟨by revert h2 h3 h4; cases w.pc <;> simp [wSpin], h1, ?_⟩)))
  cases hpc : w.pc <;> simp only [stepW, hpc] <;> (repeat' split) <;> first | exact ⟨rfl, nofun⟩ | simp_all

theorem writer_mtx_step (x : MSt) (i : Nat) :
    ((stepWriter x i).s.mtx = x.s.mtx ∧ wHold ((stepWriter x i).wr i).pc = wHold (x.wr i).pc) ∨
    (x.s.mtx = none ∧ (stepWriter x i).s.mtx = some .prod ∧ wHold (x.wr i).pc = false ∧
      wHold ((stepWriter x i).wr i).pc = true) ∨
    (wHold (x.wr i).pc = true ∧ (stepWriter x i).s.mtx = none ∧ wHold ((stepWriter x i).wr i).pc = false) := by
  rw [stepWriter_own, stepWriter_eq]
  rcases stepW_signal x (x.wr i) with ⟨h, e⟩ | ⟨h, e⟩ | ⟨h, e⟩ | ⟨h, e⟩ | ⟨h, _, e, _⟩
  · left; cases hb : x.s.blocking <;> simp [sAfterW, h, e, hb, wHold]
  · by_cases hm : x.s.mtx = none
    · right; left; simp [sAfterW, h, e, hm, wHold]
    · left; simp [sAfterW, h, e, hm, wHold]
  · left; simp [sAfterW, h, e, wHold]
  · right; right; simp [sAfterW, h, e, wHold]
  · left
    obtain ⟨n1, _, n3⟩ := wSpin_ne h
    simp [sAfterW, n1, n3, wSpin_not_hold h, wSpin_not_hold e]

theorem stepW_spin (x : MSt) (w : Writer) (hb : x.s.blocking = false) (hp : wSpin w.pc = true) :
    wSpin (stepW x w).pc = true := by
  obtain ⟨n1, n2, n3⟩ := wSpin_ne hp
  rcases stepW_signal x w with ⟨_, e⟩ | ⟨h, _⟩ | ⟨h, _⟩ | ⟨h, _⟩ | ⟨_, _, e, _⟩
  · rw [e, hb]; rfl
  · exact absurd h n1
  · exact absurd h n2
  · exact absurd h n3
  · exact e

theorem stepW_noPanic (x : MSt) (w : Writer) (hp : w.pc ≠ .panicked) : (stepW x w).pc ≠ .panicked := by
  rcases stepW_signal x w with ⟨_, e⟩ | ⟨_, e⟩ | ⟨_, e⟩ | ⟨_, e⟩ | ⟨_, _, _, e⟩
  · rw [e]; split <;> nofun
  · rw [e]; split <;> nofun
  · rw [e]; nofun
  · rw [e]; nofun
  · exact e hp

theorem drainer_mtx_step (x : MSt) (hb : x.s.blocking = true)
    (hh : dHold x.dr.pc = true → x.s.mtx = some .prod) :
    ((stepDrainer x).s.mtx = x.s.mtx ∧ dHold (stepDrainer x).dr.pc = dHold x.dr.pc) ∨
    (x.s.mtx = none ∧ (stepDrainer x).s.mtx = some .prod ∧ dHold x.dr.pc = false ∧
      dHold (stepDrainer x).dr.pc = true) ∨
    (dHold x.dr.pc = true ∧ (stepDrainer x).s.mtx = none ∧ dHold (stepDrainer x).dr.pc = false) := by
  unfold stepDrainer
  cases hpc : x.dr.pc <;> simp only [hpc, dHold] at hh <;> simp only [hpc, hb] <;> (repeat' split) <;>
    simp_all [dHold]

theorem drainer_spin_step (x : MSt) (hb : x.s.blocking = false) (hm : x.s.mtx = none)
    (hp : dSpin x.dr.pc = true) :
    dSpin (stepDrainer x).dr.pc = true ∧ (stepDrainer x).s.mtx = none := by
  unfold stepDrainer
  cases hpc : x.dr.pc <;> simp only [hpc, dSpin] at hp <;> (try contradiction) <;>
    simp only [hpc, hb, hm] <;> (repeat' split) <;> simp_all [dSpin]

theorem drainer_done_step (x : MSt) (hd : x.s.isDone = true ↔ dAfterSet x.dr.pc = true) :
    ((stepDrainer x).s.isDone = true ↔ dAfterSet (stepDrainer x).dr.pc = true) ∧
    (x.s.isDone = true → (stepDrainer x).s.isDone = true) := by
  unfold stepDrainer
  cases hpc : x.dr.pc <;> simp only [hpc, dAfterSet] at hd <;>
    simp only [hpc] <;> (repeat' split) <;> simp_all [dAfterSet]

/-- thread `u` of the producer side — the draining thread (`none`) or writer `i` — is between `lock` and `unlock` -/
def pHolds (x : MSt) : Option Nat → Prop
  | none => dHold x.dr.pc = true
  | some i => i < x.P ∧ wHold (x.wr i).pc = true

theorem holdersP_iff (x : MSt) : holdersP x ↔ ∃ u, pHolds x u :=
  ⟨fun h => h.elim (fun hd => ⟨none, hd⟩) (fun ⟨i, hi⟩ => ⟨some i, hi⟩),
   fun ⟨u, hu⟩ => match u, hu with
     | none, hd => Or.inl hd
     | some i, hi => Or.inr ⟨i, hi⟩⟩

theorem not_pHolds_of_spin {x : MSt} (hw : ∀ i, i < x.P → wSpin (x.wr i).pc = true) (hd : dSpin x.dr.pc = true)
    (u : Option Nat) : ¬ pHolds x u := by
  intro hu
  match u, hu with
  | none, hu => exact nomatch (dSpin_not_hold hd).symm.trans (hu : dHold x.dr.pc = true)
  | some i, hu => exact nomatch (wSpin_not_hold (hw i hu.1)).symm.trans hu.2

theorem XInv.holder {x : MSt} (h : XInv x) :
    (x.s.mtx = some .prod ↔ ∃ u, pHolds x u) ∧ ∀ u v, pHolds x u → pHolds x v → u = v := by
  refine ⟨?_, fun u v hu hv => ?_⟩
  · cases hb : x.s.blocking
    · rw [h.spinM hb]
      exact ⟨nofun, fun ⟨u, hu⟩ => absurd hu (not_pHolds_of_spin (h.spinW hb) (h.spinD hb) u)⟩
    · rw [h.blkP hb, holdersP_iff]
  · match u, v, hu, hv with
    | none, none, _, _ => rfl
    | none, some i, hd, hw => exact nomatch (h.uniqD i hw.1 hw.2).symm.trans (hd : dHold x.dr.pc = true)
    | some i, none, hw, hd => exact nomatch (h.uniqD i hw.1 hw.2).symm.trans (hd : dHold x.dr.pc = true)
    | some i, some j, hi, hj => rw [h.uniqW i j hi.1 hj.1 hi.2 hj.2]

/-- a step of thread `u` of the producer side keeps `XInv`: it leaves the handlers alone, and the mutex and `u`'s being
between `lock` and `unlock` change together — not at all, or `u` takes the free mutex, or `u` releases it -/
theorem xinv_prod_step {x y : MSt} (u : Option Nat) (h : XInv x) (c : SameCfg x y) (ec : y.s.cons = x.s.cons)
    (hoth : ∀ v, v ≠ u → (pHolds y v ↔ pHolds x v))
    (hmtx : (y.s.mtx = x.s.mtx ∧ (pHolds y u ↔ pHolds x u)) ∨ (x.s.mtx = none ∧ y.s.mtx = some .prod ∧ pHolds y u) ∨
      (pHolds x u ∧ y.s.mtx = none ∧ ¬ pHolds y u))
    (hspin : x.s.blocking = false → (∀ i, i < y.P → wSpin (y.wr i).pc = true) ∧ dSpin y.dr.pc = true)
    (hdone : (y.s.isDone = true ↔ dAfterSet y.dr.pc = true) ∧ (x.s.isDone = true → y.s.isDone = true))
    (hnp : ∀ i, i < y.P → (y.wr i).pc ≠ .panicked) : XInv y := by
  obtain ⟨hx1, hx2⟩ := h.holder
  -- ownership by a handler is untouched, and the producer side owns the mutex as `XInv.holder` says
  obtain ⟨hcons, hy1, hy2⟩ : (∀ k j, y.s.mtx = some (.cons k j) ↔ x.s.mtx = some (.cons k j)) ∧
      (y.s.mtx = some .prod ↔ ∃ v, pHolds y v) ∧ ∀ v w, pHolds y v → pHolds y w → v = w := by
    rcases hmtx with ⟨hm, hu⟩ | ⟨hm1, hm2, hu⟩ | ⟨hu, hm2, hnu⟩
    · have hall : ∀ v, pHolds y v ↔ pHolds x v := fun v => by
        by_cases he : v = u
        · rw [he]; exact hu
        · exact hoth v he
      refine ⟨fun k j => by rw [hm], ?_, fun v w hv hw => hx2 v w ((hall v).1 hv) ((hall w).1 hw)⟩
      rw [hm, hx1]; exact exists_congr fun v => (hall v).symm
    · -- the mutex was free, so nobody held it: now `u` alone does
      have honly : ∀ v, pHolds y v → v = u := fun v hv => Classical.byContradiction fun he => by
        have := hx1.2 ⟨v, (hoth v he).1 hv⟩; rw [hm1] at this; cases this
      exact ⟨fun k j => by rw [hm1, hm2]; simp, ⟨fun _ => ⟨u, hu⟩, fun _ => hm2⟩,
        fun v w hv hw => (honly v hv).trans (honly w hw).symm⟩
    · -- `u` was the only holder: now nobody is
      have hnone : ∀ v, ¬ pHolds y v := fun v hv => by
        by_cases he : v = u
        · exact hnu (he ▸ hv)
        · exact he (hx2 v u ((hoth v he).1 hv) hu)
      exact ⟨fun k j => by rw [hx1.2 ⟨u, hu⟩, hm2]; simp,
        ⟨fun hh => (nomatch hm2.symm.trans hh), fun ⟨v, hv⟩ => (hnone v hv).elim⟩, fun v w hv => (hnone v hv).elim⟩
  have hbl : ∀ {b}, y.s.blocking = b → x.s.blocking = b := fun hb => c.blocking.symm.trans hb
  refine ⟨fun hb => ?_, fun hb => (hspin (hbl hb)).1, fun hb => (hspin (hbl hb)).2, ?_, ?_,
    fun _ => hy1.trans (holdersP_iff y).symm, fun i j hi hj pi pj => Option.some.inj (hy2 _ _ ⟨hi, pi⟩ ⟨hj, pj⟩),
    fun i hi pi => eq_false_of_ne_true fun hd => (nomatch hy2 (some i) none ⟨hi, pi⟩ hd), ?_, hdone.1, ?_, hnp⟩
  · cases hm : y.s.mtx with
    | none => rfl
    | some t =>
      cases t with
      | prod => exact (hy1.1 hm).elim fun v hv => absurd hv (not_pHolds_of_spin (hspin (hbl hb)).1 (hspin (hbl hb)).2 v)
      | cons k j => have := (hcons k j).1 hm; rw [h.spinM (hbl hb)] at this; cases this
  · rw [ec, c.K, c.h]; exact fun hb => h.spinC (hbl hb)
  · intro hb k j hk hj
    rw [c.K] at hk; rw [c.h] at hj; rw [ec, hcons]
    exact h.blkC (hbl hb) k j hk hj
  · intro k j hm
    rw [c.K, c.h]; exact h.owner k j ((hcons k j).1 hm)
  · rw [c.K, c.h, ec]; exact fun k j hk hj hpc => hdone.2 (h.consDone k j hk hj hpc)

theorem xinv_stepWriter (x : MSt) (i : Nat) (hi : i < x.P) (h : XInv x) : XInv (stepWriter x i) := by
  have c := stepM_cfg x (.writer i)
  rw [stepM_writer hi] at c
  obtain ⟨_, _, _, _, _, edn, edr, _⟩ := stepWriter_frame x i
  refine xinv_prod_step (some i) h c (by rw [stepWriter_eq]; rfl) (fun v hv => ?_) ?_ (fun hb => ⟨?_, by rw [edr]; exact h.spinD hb⟩)
    (by rw [edr, edn]; exact ⟨h.doneIff, id⟩) ?_
  · match v with
    | none => show dHold _ = true ↔ dHold _ = true; rw [edr]
    | some j =>
      show _ ∧ _ ↔ _ ∧ _
      rw [c.P, stepWriter_others x i j (fun e => hv (by rw [e]))]
  · show _ ∨ _ ∨ (_ ∧ _) ∧ _ ∧ ¬ (_ ∧ _)
    rcases writer_mtx_step x i with ⟨hm, hw⟩ | ⟨hm1, hm2, _, hw2⟩ | ⟨hw, hm2, hw2⟩
    · exact Or.inl ⟨hm, by show _ ∧ _ ↔ _ ∧ _; rw [c.P, hw]⟩
    · exact Or.inr (Or.inl ⟨hm1, hm2, c.P ▸ hi, hw2⟩)
    · exact Or.inr (Or.inr ⟨⟨hi, hw⟩, hm2, fun hh => nomatch hw2.symm.trans hh.2⟩)
  · exact forall_writers_step (Q := fun _ w => wSpin w.pc = true) x i (fun _ => stepW_spin x _ hb (h.spinW hb i hi))
      (fun j hj _ => h.spinW hb j hj)
  · exact forall_writers_step (Q := fun _ w => w.pc ≠ .panicked) x i (fun _ => stepW_noPanic x _ (h.noPanic i hi))
      (fun j hj _ => h.noPanic j hj)

theorem xinv_stepDrainer (x : MSt) (h : XInv x) : XInv (stepDrainer x) := by
  refine xinv_prod_step none h (stepM_cfg x .drainer) (by rw [stepDrainer_eq]; rfl) (fun v hv => ?_) ?_
    (fun hb => ⟨by rw [stepDrainer_eq]; exact h.spinW hb, (drainer_spin_step x hb (h.spinM hb) (h.spinD hb)).1⟩)
    (drainer_done_step x h.doneIff) (by rw [stepDrainer_eq]; exact h.noPanic)
  · match v with
    | none => exact absurd rfl hv
    | some j => rw [stepDrainer_eq]; exact Iff.rfl
  · show _ ∨ _ ∨ _ ∧ _ ∧ ¬ _
    cases hb : x.s.blocking
    · -- spin strategy: the mutex stays free and the thread stays outside its signal sections
      obtain ⟨s1, s2⟩ := drainer_spin_step x hb (h.spinM hb) (h.spinD hb)
      exact Or.inl ⟨s2.trans (h.spinM hb).symm, by
        show dHold _ = true ↔ dHold _ = true; rw [dSpin_not_hold s1, dSpin_not_hold (h.spinD hb)]⟩
    rcases drainer_mtx_step x hb (fun hd => (h.blkP hb).2 (Or.inl hd)) with
      ⟨hm, hw⟩ | ⟨hm1, hm2, _, hw2⟩ | ⟨hw, hm2, hw2⟩
    · exact Or.inl ⟨hm, by show dHold _ = true ↔ dHold _ = true; rw [hw]⟩
    · exact Or.inr (Or.inl ⟨hm1, hm2, hw2⟩)
    · exact Or.inr (Or.inr ⟨hw, hm2, fun hh => nomatch hw2.symm.trans hh⟩)

theorem XInv.hinv {x : MSt} (h : XInv x) : HInv x.s := ⟨h.spinM, h.spinC, h.blkC, h.owner, h.consDone⟩

theorem xinv_stepCons (x : MSt) (k j : Nat) (hk : k < x.s.K) (hj : j < x.s.h k) (h : XInv x) :
    XInv { x with s := stepC x.s k j } := by
  obtain ⟨g, hp⟩ := hinv_stepC x.s k j hk hj h.hinv
  exact ⟨g.spinM, h.spinW, h.spinD, g.spinC, g.blkC, fun hb => hp.trans (h.blkP hb), h.uniqW, h.uniqD, g.owner,
    h.doneIff, g.consDone, h.noPanic⟩

theorem xinv_stepM (x : MSt) (t : MTid) (h : XInv x) : XInv (stepM x t) :=
  stepM_cases x t (fun i hi => xinv_stepWriter x i hi h) (xinv_stepDrainer x h)
    (fun k j hk hj => xinv_stepCons x k j hk hj h) h

theorem xinv_init (n K : Nat) (h : Nat → Nat) (bl : Bool) (batches : List (List Nat)) :
    XInv (mkM n K h bl batches) :=
  { spinM := fun _ => rfl, spinW := fun _ _ _ => rfl, spinD := fun _ => rfl, spinC := fun _ _ _ _ _ => rfl
    blkC := fun _ _ _ _ _ => ⟨⟨fun h => (by cases h), fun h => (by cases h)⟩, fun h => (by cases h)⟩
    blkP := fun _ => ⟨fun h => (by cases h), fun h => by rcases h with h | ⟨_, _, h⟩ <;> cases h⟩
    uniqW := fun _ _ _ _ h => (by cases h)
    uniqD := fun _ _ _ => rfl
    owner := fun _ _ h => (by cases h)
    doneIff := ⟨fun h => (by cases h), fun h => (by cases h)⟩
    consDone := fun _ _ _ _ h => by rcases h with h | h <;> cases h
    noPanic := fun _ _ h => (by cases h) }

theorem stepWriter_done (x : MSt) (i : Nat) (h : (x.wr i).pc = .done ∨ (x.wr i).pc = .panicked) : stepWriter x i = x := by
  unfold stepWriter
  rcases h with h | h <;> simp [h]

theorem stepM_writer_done (x : MSt) (i : Nat) (h : writersDone x = true) : stepM x (.writer i) = x := by
  by_cases hi : i < x.P
  · rw [stepM_writer hi]; exact stepWriter_done x i ((writersDone_iff x).1 h i hi)
  · exact if_neg hi

/-- facts local to the draining thread: it only gets past the join once every writer thread has ended; the cursor value it
waits for was read from the cursor; bookkeeping of its `get_min_cursor_sequence` loop -/
structure DInv (x : MSt) : Prop where
  joined  : x.dr.pc ≠ .waitJoin → writersDone x = true
  curLe   : x.dr.pc ≠ .waitJoin → x.dr.pc ≠ .readCur → x.dr.current ≤ x.s.cursor
  accSome : x.dr.pc = .drainLoad → 0 < x.dr.idx → x.dr.acc.isSome
  idxLe   : x.dr.pc = .drainLoad → x.dr.idx ≤ ngate x.s

theorem writersDone_congr {x y : MSt} (hP : y.P = x.P) (hwr : y.wr = x.wr) : writersDone y = writersDone x := by
  unfold writersDone; rw [hP, hwr]

theorem drainer_local_step (x : MSt) :
    ((stepDrainer x).dr.pc ≠ .waitJoin → x.dr.pc ≠ .waitJoin ∨ writersDone x = true) ∧
    ((stepDrainer x).dr.pc ≠ .waitJoin → (stepDrainer x).dr.pc ≠ .readCur →
      (stepDrainer x).dr.current = x.s.cursor ∨
      (x.dr.pc ≠ .waitJoin ∧ x.dr.pc ≠ .readCur ∧ (stepDrainer x).dr.current = x.dr.current)) ∧
    ((stepDrainer x).dr.pc = .drainLoad → (stepDrainer x).dr.idx = 0 ∨
      (x.dr.pc = .drainLoad ∧ x.dr.idx < ngate x.s ∧ (stepDrainer x).dr.idx = x.dr.idx + 1 ∧
        (stepDrainer x).dr.acc = minOpt x.dr.acc (gate x.s x.dr.idx))) := by
  rw [stepDrainer_eq]
  cases hpc : x.dr.pc <;> simp only [stepD, hpc] <;> (repeat' split) <;> simp [*]

theorem dinv_stepDrainer (x : MSt) (h : DInv x) : DInv (stepDrainer x) := by
  obtain ⟨_, _, _, _, _, ecur, ewr, eP, _⟩ := stepDrainer_frame x
  obtain ⟨l1, l2, l3⟩ := drainer_local_step x
  refine ⟨fun hp => ?_, fun hp hq => ?_, fun hp hpos => ?_, fun hp => ?_⟩
  · rw [writersDone_congr eP ewr]
    exact (l1 hp).elim h.joined id
  · rw [ecur]
    rcases l2 hp hq with e | ⟨a, b, e⟩
    · exact Nat.le_of_eq e
    · rw [e]; exact h.curLe a b
  · rcases l3 hp with e | ⟨_, _, _, e⟩
    · omega
    · rw [e]; exact minOpt_isSome _ _
  · rw [show ngate (stepDrainer x).s = ngate x.s from (stepM_cfg x .drainer).ngate_eq]
    rcases l3 hp with e | ⟨hq, hlt, e, _⟩ <;> omega

theorem dinv_stepM (x : MSt) (t : MTid) (h : DInv x) : DInv (stepM x t) := by
  refine stepM_cases x t (fun i hi => ?_) (dinv_stepDrainer x h) (fun k j _ _ => ⟨h.1, h.2, h.3, h.4⟩) h
  by_cases hw : x.dr.pc = .waitJoin
  · -- at the join `DInv` says nothing
    have edr : (stepWriter x i).dr = x.dr := (stepWriter_frame x i).2.2.2.2.2.2.1
    constructor <;> rw [edr, hw] <;> intro hp <;> first | exact absurd rfl hp | cases hp
  · rw [← stepM_writer hi, stepM_writer_done x i (h.joined hw)]; exact h

theorem dinv_init (n K : Nat) (h : Nat → Nat) (bl : Bool) (batches : List (List Nat)) :
    DInv (mkM n K h bl batches) := by
  constructor <;> simp [mkM]

/-- some thread is at a pc from which it executes `notify_all` before it can block -/
def pendingM (x : MSt) : Prop :=
  dPend x.dr.pc = true ∨ (∃ i, i < x.P ∧ wPend (x.wr i).pc = true) ∨
    ∃ k j, k < x.s.K ∧ j < x.s.h k ∧ cPend (x.s.cons k j).pc = true

/-- **no lost wake-up** (invariant form): a handler that is parked, or under the mutex on its way to park, although its
wait condition holds or `is_done` is set, implies a thread between its store and its `notify_all` -/
def NInvM (x : MSt) : Prop := ∀ k j, k < x.s.K → j < x.s.h k → owed x.s k j → pendingM x

theorem writer_nlw_cases (x : MSt) (i : Nat) (hb : x.s.blocking = true) :
    wPend ((stepWriter x i).wr i).pc = true ∨
    (wHold (x.wr i).pc = true ∧ (stepWriter x i).s.woken = fun _ _ => true) ∨
    (wPend (x.wr i).pc = false ∧ (stepWriter x i).s.cursor = x.s.cursor ∧ (stepWriter x i).s.woken = x.s.woken) := by
  rw [stepWriter_own, stepWriter_eq]
  rcases stepW_signal x (x.wr i) with ⟨_, e⟩ | ⟨_, e⟩ | ⟨h, _⟩ | ⟨h, _⟩ | ⟨h, h', _⟩
  · left; rw [e, hb]; rfl
  · left; rw [e]; split <;> rfl
  · right; left; simp [sAfterW, h, wHold]
  · right; right; simp [sAfterW, h, wPend]
  · -- outside the signal section only the successful CAS moves the cursor, and that step goes to `setLw`
    by_cases hc : (x.wr i).pc = .casCur ∧ x.s.cursor = (x.wr i).cur
    · left; simp [stepW, hc.1, hc.2, wPend]
    · right; right
      refine ⟨?_, by simp [sAfterW, hc], by simp [sAfterW, (wSpin_ne h).2.1]⟩
      revert h h'; cases (x.wr i).pc <;> simp [wSpin, wPend]

theorem drainer_nlw_cases (x : MSt) (hb : x.s.blocking = true) :
    dPend (stepDrainer x).dr.pc = true ∨
    (dHold x.dr.pc = true ∧ (stepDrainer x).s.woken = fun _ _ => true) ∨
    (dPend x.dr.pc = false ∧ (stepDrainer x).s.isDone = x.s.isDone ∧ (stepDrainer x).s.woken = x.s.woken) := by
  unfold stepDrainer
  cases hpc : x.dr.pc <;> simp only [hpc, hb] <;> (repeat' split) <;> simp_all [dPend, dHold]

/-- a step of the producer side (a writer thread or the draining thread) keeps `NInvM`: the stepping thread is pending
afterwards, or it has just notified under the mutex, or it has touched neither the cursor, nor `is_done`, nor the wake-up
flags, and whoever was pending still is -/
theorem ninv_prod_step (x y : MSt) (hX : XInv x) (hN : NInvM x) (ec : y.s.cons = x.s.cons) (eK : y.s.K = x.s.K)
    (eh : y.s.h = x.s.h) (ebl : y.s.blocking = x.s.blocking)
    (hcase : pendingM y ∨ (x.s.mtx = some .prod ∧ y.s.woken = fun _ _ => true) ∨
      (y.s.cursor = x.s.cursor ∧ y.s.isDone = x.s.isDone ∧ y.s.woken = x.s.woken ∧ (pendingM x → pendingM y))) :
    NInvM y := by
  intro k j hk hj ho
  rw [eK] at hk; rw [eh] at hj
  have hb : x.s.blocking = true := by rw [← ebl]; exact ho.1
  rcases hcase with hp | ⟨hm, hw⟩ | ⟨ecur, edn, ewk, hp⟩
  · exact hp
  · exact (not_parkish_after_notify x.s hX.hinv hb _ hm y.s k j hk hj (fun e => by cases e) (by rw [ec]) (by rw [hw]) ho.2.2).elim
  · apply hp
    obtain ⟨_, hc, hpk⟩ := ho
    refine hN k j hk hj ⟨hb, ?_, ?_⟩
    · rw [condC_congr x.s y.s k _ (by rw [ec]; intros; rfl) ecur eh, ec, edn] at hc; exact hc
    · unfold parkish at hpk ⊢; rw [ec, edn, ewk] at hpk; exact hpk

theorem ninv_stepWriter (x : MSt) (i : Nat) (hi : i < x.P) (hX : XInv x) (hN : NInvM x) : NInvM (stepWriter x i) := by
  obtain ⟨ec, eK, eh, en, ebl, edn, edr, eP⟩ := stepWriter_frame x i
  by_cases hb : x.s.blocking = true
  · refine ninv_prod_step x _ hX hN ec eK eh ebl ?_
    rcases writer_nlw_cases x i hb with h | ⟨h1, h2⟩ | ⟨h1, h2, h3⟩
    · exact Or.inl (Or.inr (Or.inl ⟨i, by rw [eP]; exact hi, h⟩))
    · exact Or.inr (Or.inl ⟨(hX.blkP hb).2 (Or.inr ⟨i, hi, h1⟩), h2⟩)
    · refine Or.inr (Or.inr ⟨h2, edn, h3, ?_⟩)
      rintro (hp | ⟨a, ha, hp⟩ | ⟨a, b, ha, hb', hc⟩)
      · exact Or.inl (by rw [edr]; exact hp)
      · have hne : a ≠ i := by intro e; subst e; rw [h1] at hp; cases hp
        exact Or.inr (Or.inl ⟨a, by rw [eP]; exact ha, by rw [stepWriter_others x i a hne]; exact hp⟩)
      · exact Or.inr (Or.inr ⟨a, b, by rw [eK]; exact ha, by rw [eh]; exact hb', by rw [ec]; exact hc⟩)
  · intro k j _ _ ho; exact absurd (ebl ▸ ho.1) hb

theorem ninv_stepDrainer (x : MSt) (hX : XInv x) (hN : NInvM x) : NInvM (stepDrainer x) := by
  obtain ⟨ec, eK, eh, en, ebl, ecur, ewr, eP, ehw⟩ := stepDrainer_frame x
  by_cases hb : x.s.blocking = true
  · refine ninv_prod_step x _ hX hN ec eK eh ebl ?_
    rcases drainer_nlw_cases x hb with h | ⟨h1, h2⟩ | ⟨h1, h2, h3⟩
    · exact Or.inl (Or.inl h)
    · exact Or.inr (Or.inl ⟨(hX.blkP hb).2 (Or.inl h1), h2⟩)
    · refine Or.inr (Or.inr ⟨ecur, h2, h3, ?_⟩)
      rintro (hp | ⟨a, ha, hp⟩ | ⟨a, b, ha, hb', hc⟩)
      · rw [h1] at hp; cases hp
      · exact Or.inr (Or.inl ⟨a, by rw [eP]; exact ha, by rw [ewr]; exact hp⟩)
      · exact Or.inr (Or.inr ⟨a, b, by rw [eK]; exact ha, by rw [eh]; exact hb', by rw [ec]; exact hc⟩)
  · intro k j _ _ ho; exact absurd (ebl ▸ ho.1) hb

theorem ninvM_iff (x : MSt) :
    NInvM x ↔ NInvH x.s (dPend x.dr.pc = true ∨ ∃ i, i < x.P ∧ wPend (x.wr i).pc = true) := by
  simp only [NInvM, NInvH, pendingM, or_assoc]

theorem ninv_stepM (x : MSt) (t : MTid) (hI : Inv x.s) (hX : XInv x) (hN : NInvM x) : NInvM (stepM x t) :=
  stepM_cases x t (fun i hi => ninv_stepWriter x i hi hX hN) (ninv_stepDrainer x hX hN)
    (fun k j hk hj => (ninvM_iff _).2 (ninvH_stepC x.s k j hk hj hI hX.hinv _ ((ninvM_iff x).1 hN))) hN

theorem ninv_init (n K : Nat) (h : Nat → Nat) (bl : Bool) (batches : List (List Nat)) : NInvM (mkM n K h bl batches) := by
  intro k j _ _ ho
  obtain ⟨_, _, hp⟩ := ho
  simp [parkish, mkM] at hp

structure GInv (x : MSt) : Prop where
  good : MGood x
  mtx  : XInv x
  dr   : DInv x
  nlw  : NInvM x

theorem ginv_stepM (x : MSt) (t : MTid) (h : GInv x) : GInv (stepM x t) :=
  ⟨mgood_stepM x t h.good, xinv_stepM x t h.mtx, dinv_stepM x t h.dr, ninv_stepM x t h.good.2.1 h.mtx h.nlw⟩

theorem ginv_init (n K : Nat) (h : Nat → Nat) (bl : Bool) (batches : List (List Nat))
    (hK : 0 < K) (hh : ∀ k, k < K → 0 < h k) (hb : ∀ l, l ∈ batches → ∀ b, b ∈ l → 1 ≤ b) : GInv (mkM n K h bl batches) :=
  ⟨mgood_init n K h bl batches hK hh hb, xinv_init n K h bl batches, dinv_init n K h bl batches,
   ninv_init n K h bl batches⟩

theorem mreachableWF_ginv {x : MSt} (hr : MReachableWF x) : GInv x := by
  obtain ⟨n, K, h, bl, bs, sched, hK, hh, hb, rfl⟩ := hr
  exact runM_induct ginv_stepM _ sched (ginv_init n K h bl bs hK hh hb)

/-- the run is over: every writer thread has returned from all its `write` calls, `drain` has returned, every handler
thread has left its loop -/
def terminalM (x : MSt) : Prop :=
  (∀ i, i < x.P → (x.wr i).pc = .done) ∧ x.dr.pc = .done ∧
    ∀ k j, k < x.s.K → j < x.s.h k → (x.s.cons k j).pc = .done

def inTopoM (P K : Nat) (h : Nat → Nat) : MTid → Prop
  | .writer i => i < P
  | .drainer => True
  | .cons k j => k < K ∧ j < h k

theorem SameCfg.inTopoM_eq {x y : MSt} (c : SameCfg x y) : inTopoM y.P y.s.K y.s.h = inTopoM x.P x.s.K x.s.h := by
  rw [c.P, c.K, c.h]

/-- **no lost wake-up**: a handler parked on the condvar (`bRelock`) whose wait condition holds, or for which `is_done` is
set, has been woken — or some *other* thread is between its store and the `notify_all` of its `signal()` -/
theorem no_lost_wakeup {x : MSt} (h : GInv x) (k j : Nat) (hk : k < x.s.K) (hj : j < x.s.h k)
    (hpark : (x.s.cons k j).pc = .bRelock) (hc : condC x.s k (x.s.cons k j) ∨ x.s.isDone = true) :
    x.s.woken k j = true ∨ dPend x.dr.pc = true ∨ (∃ i, i < x.P ∧ wPend (x.wr i).pc = true) ∨
      ∃ k' j', k' < x.s.K ∧ j' < x.s.h k' ∧ (k', j') ≠ (k, j) ∧ cPend (x.s.cons k' j').pc = true := by
  have hb : x.s.blocking = true := by
    cases hbl : x.s.blocking
    · have := h.mtx.spinC hbl k j hk hj
      simp [hpark, Spin.cSpin] at this
    · rfl
  cases hw : x.s.woken k j
  · right
    have ho : owed x.s k j := ⟨hb, hc, by simp [parkish, hpark, hw]⟩
    rcases h.nlw k j hk hj ho with hp | hp | ⟨a, b, ha, hb', hc'⟩
    · exact Or.inl hp
    · exact Or.inr (Or.inl hp)
    · refine Or.inr (Or.inr ⟨a, b, ha, hb', ?_, hc'⟩)
      intro he
      injection he with e1 e2; subst e1; subst e2
      simp [hpark, cPend] at hc'
  · exact Or.inl rfl

theorem not_terminalM_iff (x : MSt) : ¬ terminalM x ↔
    (∃ i, i < x.P ∧ (x.wr i).pc ≠ .done) ∨ x.dr.pc ≠ .done ∨
      ∃ k j, k < x.s.K ∧ j < x.s.h k ∧ (x.s.cons k j).pc ≠ .done := by
  simp only [terminalM, Classical.not_and_iff_not_or_not, Classical.not_forall, exists_prop, ne_eq]

/-! Which steps can be disabled: a `lock` on a taken mutex, the re-acquisition of a parked handler that has not been
notified, the join of a writer thread that is still running. -/

theorem enabledM_writer {x : MSt} {i : Nat} (hd : (x.wr i).pc ≠ .done) (hp : (x.wr i).pc ≠ .panicked)
    (hl : (x.wr i).pc = .sLock → x.s.mtx = none) : enabledM x (.writer i) = true := by
  simp only [enabledM]
  cases hpc : (x.wr i).pc <;> simp_all

theorem enabledM_drainer {x : MSt} (hd : x.dr.pc ≠ .done) (hj : x.dr.pc = .waitJoin → writersDone x = true)
    (hl : x.dr.pc = .dLock ∨ x.dr.pc = .eLock → x.s.mtx = none) : enabledM x .drainer = true := by
  simp only [enabledM]
  cases hpc : x.dr.pc <;> simp_all

theorem enabledM_cons {x : MSt} {k j : Nat} (hd : (x.s.cons k j).pc ≠ .done)
    (hl : (x.s.cons k j).pc = .bLock ∨ (x.s.cons k j).pc = .sLock ∨ (x.s.cons k j).pc = .bRelock → x.s.mtx = none)
    (hp : (x.s.cons k j).pc = .bRelock → x.s.woken k j = true) : enabledM x (.cons k j) = true := by
  simp only [enabledM, enabled]
  cases hpc : (x.s.cons k j).pc <;> simp_all

theorem enabledM_of_wHold {x : MSt} {i : Nat} (h : wHold (x.wr i).pc = true) : enabledM x (.writer i) = true := by
  simp only [enabledM]
  cases hpc : (x.wr i).pc <;> simp_all [wHold]

theorem enabledM_of_dHold {x : MSt} (h : dHold x.dr.pc = true) : enabledM x .drainer = true := by
  simp only [enabledM]
  cases hpc : x.dr.pc <;> simp_all [dHold]

theorem enabledM_of_cHold {x : MSt} {k j : Nat} (h : cHold (x.s.cons k j).pc = true) :
    enabledM x (.cons k j) = true := by
  simp only [enabledM, enabled]
  cases hpc : (x.s.cons k j).pc <;> simp_all [cHold]

/-- **no deadlock** (both strategies, any number of writers): in every non-terminal state satisfying the invariants some
thread of the configuration has an enabled step — not a `lock` on a taken mutex, not the re-acquisition of a parked,
un-notified handler, not the join of a writer thread that is still running -/
theorem exists_enabled {x : MSt} (h : GInv x) (hnt : ¬ terminalM x) :
    ∃ t, inTopoM x.P x.s.K x.s.h t ∧ enabledM x t = true := by
  have hM := h.mtx
  cases hm : x.s.mtx with
  | some t =>
    -- the owner of the mutex is between `lock` and `unlock`, where no step blocks
    have hbl : x.s.blocking = true := by
      cases hbl : x.s.blocking
      · rw [hM.spinM hbl] at hm; cases hm
      · rfl
    cases t with
    | prod =>
      rcases (hM.blkP hbl).1 hm with hd | ⟨i, hi, hw⟩
      · exact ⟨.drainer, trivial, enabledM_of_dHold hd⟩
      · exact ⟨.writer i, hi, enabledM_of_wHold hw⟩
    | cons k j =>
      obtain ⟨hk, hj⟩ := hM.owner k j hm
      exact ⟨.cons k j, ⟨hk, hj⟩, enabledM_of_cHold (((hM.blkC hbl k j hk hj).1).2 hm)⟩
  | none =>
    -- the mutex is free: the first thread that has not finished is enabled, unless it is a parked handler, and then
    -- whoever owes it the wake-up is
    by_cases hw : ∀ i, i < x.P → (x.wr i).pc = .done
    · by_cases hd : x.dr.pc = .done
      · obtain ⟨k, j, hk, hj, hne⟩ : ∃ k j, k < x.s.K ∧ j < x.s.h k ∧ (x.s.cons k j).pc ≠ .done := by
          rcases (not_terminalM_iff x).1 hnt with ⟨i, hi, hne⟩ | hne | hc
          · exact absurd (hw i hi) hne
          · exact absurd hd hne
          · exact hc
        by_cases hpark : (x.s.cons k j).pc = .bRelock
        · have hdn : x.s.isDone = true := hM.doneIff.2 (by rw [hd]; rfl)
          rcases no_lost_wakeup h k j hk hj hpark (Or.inr hdn) with hwk | hp | ⟨i, hi, hp⟩ | ⟨a, b, ha, hb, _, hc⟩
          · exact ⟨.cons k j, ⟨hk, hj⟩, enabledM_cons hne (fun _ => hm) (fun _ => hwk)⟩
          · rw [hd] at hp; cases hp
          · rw [hw i hi] at hp; cases hp
          · refine ⟨.cons a b, ⟨ha, hb⟩, enabledM_cons ?_ (fun _ => hm) ?_⟩ <;> intro hpc <;> rw [hpc] at hc <;> cases hc
        · exact ⟨.cons k j, ⟨hk, hj⟩, enabledM_cons hne (fun _ => hm) (fun hpc => absurd hpc hpark)⟩
      · exact ⟨.drainer, trivial,
          enabledM_drainer hd (fun _ => (writersDone_iff x).2 (fun i hi => Or.inl (hw i hi))) (fun _ => hm)⟩
    · obtain ⟨i, hi, hne⟩ : ∃ i, i < x.P ∧ (x.wr i).pc ≠ .done := by
        simpa only [Classical.not_forall, exists_prop] using hw
      exact ⟨.writer i, hi, enabledM_writer hne (hM.noPanic i hi) (fun _ => hm)⟩

/-- the capacity condition of writer `i` inside `next`: with the current high watermark the requested batch fits below
every gating cursor plus one ring -/
def condCap (x : MSt) (i : Nat) : Prop := ∀ d, d < ngate x.s → x.hw + (x.wr i).count < gate x.s d + x.s.n

/-- the drain condition: every gating cursor has reached the cursor value `drain` read -/
def condDM (x : MSt) : Prop := ∀ d, d < ngate x.s → x.dr.current ≤ gate x.s d

theorem dep_mono_stepM (x : MSt) (t : MTid) (h : MGood x) (k d : Nat) : dep x.s k d ≤ dep (stepM x t).s k d := by
  -- the producer side leaves the handlers' cursors alone and only moves the cursor up
  have hprod : ∀ y : MSt, y.s.cons = x.s.cons → x.s.cursor ≤ y.s.cursor → dep x.s k d ≤ dep y.s k d := by
    intro y hc hcur
    unfold dep; rw [hc]; split
    · exact hcur
    · exact Nat.le_refl _
  have hcur := cursor_mono_stepM x t h.1
  revert hcur
  exact stepM_cases (Q := fun y => x.s.cursor ≤ y.s.cursor → dep x.s k d ≤ dep y.s k d) x t
    (fun i _ => hprod _ (by rw [stepWriter_eq]; rfl)) (hprod _ (by rw [stepDrainer_eq]; rfl))
    (fun a b ha hb _ => dep_mono_stepC x.s a b ha hb h.2.1 k d) (fun _ => Nat.le_refl _)

theorem gate_mono_stepM (x : MSt) (t : MTid) (h : MGood x) (d : Nat) : gate x.s d ≤ gate (stepM x t).s d :=
  stepM_cases (Q := fun y => gate x.s d ≤ gate y.s d) x t
    (fun i _ => by rw [stepWriter_eq]; exact Nat.le_refl _) (by rw [stepDrainer_eq]; exact Nat.le_refl _)
    (fun a b ha hb => gate_mono_stepC x.s a b ha hb h.2.1 d) (Nat.le_refl _)

theorem condC_stable (x : MSt) (t : MTid) (h : MGood x) (k j : Nat)
    (hcur : ((stepM x t).s.cons k j).cur = (x.s.cons k j).cur)
    (hc : condC x.s k (x.s.cons k j)) : condC (stepM x t).s k ((stepM x t).s.cons k j) := by
  intro d hd
  have hn : ndeps (stepM x t).s k = ndeps x.s k := by simp [ndeps, (stepM_cfg x t).h]
  rw [hn] at hd
  have := hc d hd
  have := dep_mono_stepM x t h k d
  omega

/-- the gating cursors only grow: the capacity condition and the drain condition survive every step that leaves alone what
they compare the cursors with -/
theorem condCap_stable (x : MSt) (t : MTid) (hG : MGood x) (i : Nat) (hhw : (stepM x t).hw = x.hw)
    (hcnt : ((stepM x t).wr i).count = (x.wr i).count) (hc : condCap x i) : condCap (stepM x t) i := by
  intro d hd
  rw [(stepM_cfg x t).ngate_eq] at hd
  have := hc d hd
  have := gate_mono_stepM x t hG d
  rw [hhw, hcnt, (stepM_cfg x t).n]; omega

theorem condDM_stable (x : MSt) (t : MTid) (hG : MGood x) (hcur : (stepM x t).dr.current = x.dr.current)
    (hc : condDM x) : condDM (stepM x t) := by
  intro d hd
  rw [(stepM_cfg x t).ngate_eq] at hd
  have := hc d hd
  have := gate_mono_stepM x t hG d
  rw [hcur]; omega

theorem isDone_stable (x : MSt) (t : MTid) (h : XInv x) (hd : x.s.isDone = true) : (stepM x t).s.isDone = true :=
  stepM_cases (Q := fun y => y.s.isDone = true) x t
    (fun i _ => by rw [stepWriter_eq]; exact hd) ((drainer_done_step x h.doneIff).2 hd) (fun _ _ _ _ => hd) hd

end RingMulti
