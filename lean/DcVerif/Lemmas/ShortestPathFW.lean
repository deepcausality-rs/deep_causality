import DcVerif.Spec.ShortestPathFW
/-! Correctness of the Floyd–Warshall oracle (`fw_le`, `fw_attained`, `fw_correct`: minimum over all walks, `none` iff no
walk), of its tabulated form (`table_get`, `dist_eq_fw`) and of the path validator (`checkPath_sound`, `checkPath_minimal`). -/
namespace FW

def OLe (a : Option Nat) (c : Nat) : Prop := ∃ d, a = some d ∧ d ≤ c

theorem ole_omin_left {a b : Option Nat} {c : Nat} (h : OLe a c) : OLe (omin a b) c := by
  obtain ⟨d, rfl, hd⟩ := h
  cases b with
  | none => exact ⟨d, rfl, hd⟩
  | some e => exact ⟨min d e, rfl, Nat.le_trans (Nat.min_le_left _ _) hd⟩

theorem ole_omin_right {a b : Option Nat} {c : Nat} (h : OLe b c) : OLe (omin a b) c := by
  obtain ⟨d, rfl, hd⟩ := h
  cases a with
  | none => exact ⟨d, rfl, hd⟩
  | some e => exact ⟨min e d, rfl, Nat.le_trans (Nat.min_le_right _ _) hd⟩

theorem ole_oadd {a b : Option Nat} {c1 c2 : Nat} (h1 : OLe a c1) (h2 : OLe b c2) : OLe (oadd a b) (c1 + c2) := by
  obtain ⟨d1, rfl, hd1⟩ := h1
  obtain ⟨d2, rfl, hd2⟩ := h2
  exact ⟨d1 + d2, rfl, by omega⟩

theorem walk_split (w : Wt) {u v x : Nat} {is1 is2 : List Nat} {c : Nat} (h : Walk w u v (is1 ++ x :: is2) c) :
    ∃ c1 c2, Walk w u x is1 c1 ∧ Walk w x v is2 c2 ∧ c = c1 + c2 := by
  induction is1 generalizing u c with
  | nil => cases h with
    | cons he hr => exact ⟨_, _, Walk.edge he, hr, rfl⟩
  | cons y ys ih => cases h with
    | cons he hr =>
      obtain ⟨c1, c2, h1, h2, rfl⟩ := ih hr
      exact ⟨_, c2, Walk.cons he h1, h2, (Nat.add_assoc ..).symm⟩

theorem walk_append (w : Wt) {u x v : Nat} {is1 is2 : List Nat} {c1 c2 : Nat} (h1 : Walk w u x is1 c1)
    (h2 : Walk w x v is2 c2) : Walk w u v (is1 ++ x :: is2) (c1 + c2) := by
  induction h1 with
  | edge he => exact Walk.cons he h2
  | cons he _ ih => rw [Nat.add_assoc]; exact Walk.cons he (ih h2)

/-- going through `k` from `k` never helps: `fw (k+1) k v = fw k k v` -/
theorem fw_succ_from_k (w : Wt) (k v : Nat) : fw w (k+1) k v = fw w k k v := by
  simp only [fw]
  cases fw w k k v <;> cases fw w k k k <;> simp [omin, oadd]

theorem fw_le (w : Wt) (k : Nat) : ∀ (is : List Nat) (u v c : Nat),
    Walk w u v is c → (∀ x, x ∈ is → x < k) → OLe (fw w k u v) c := by
  induction k with
  | zero =>
    intro is u v c hw hall
    cases hw with
    | edge he => exact ⟨c, he, Nat.le_refl _⟩
    | cons he hr => exact absurd (hall _ List.mem_cons_self) (Nat.not_lt_zero _)
  | succ k ih =>
    intro is
    induction hn : is.length using Nat.strongRecOn generalizing is with
    | ind n ihl =>
    intro u v c hw hall
    by_cases hk : k ∈ is
    · -- cut at the first visit of `k`: before it all intermediates are `< k`, after it a shorter walk starts at `k`
      obtain ⟨is1, is2, rfl, hnot⟩ := List.eq_append_cons_of_mem hk
      obtain ⟨c1, c2, h1, h2, rfl⟩ := walk_split w hw
      have e1 := ih is1 u k c1 h1 fun x hx => by
        have := hall x (by simp [hx]); have : x ≠ k := fun h => hnot (h ▸ hx); omega
      have e2 := ihl is2.length (by simp at hn; omega) is2 rfl k v c2 h2 fun x hx => hall x (by simp [hx])
      rw [fw_succ_from_k] at e2
      exact ole_omin_right (ole_oadd e1 e2)
    · exact ole_omin_left (ih is u v c hw fun x hx => by
        have := hall x hx; have : x ≠ k := fun h => hk (h ▸ hx); omega)

theorem omin_eq_some {a b : Option Nat} {d : Nat} (h : omin a b = some d) : a = some d ∨ b = some d := by
  cases a <;> cases b <;> simp [omin] at h ⊢ <;> omega

theorem oadd_eq_some {a b : Option Nat} {d : Nat} (h : oadd a b = some d) : ∃ x y, a = some x ∧ b = some y ∧ x + y = d := by
  cases a <;> cases b <;> simp [oadd] at h ⊢ <;> exact h

theorem fw_attained (w : Wt) (k : Nat) : ∀ (u v d : Nat), fw w k u v = some d →
    ∃ is, Walk w u v is d ∧ ∀ x, x ∈ is → x < k := by
  induction k with
  | zero => intro u v d h; exact ⟨[], Walk.edge h, by simp⟩
  | succ k ih =>
    intro u v d h
    rcases omin_eq_some h with h | h
    · obtain ⟨is, hw, ha⟩ := ih u v d h
      exact ⟨is, hw, fun x hx => Nat.lt_succ_of_lt (ha x hx)⟩
    · obtain ⟨a, b, h1, h2, rfl⟩ := oadd_eq_some h
      obtain ⟨is1, w1, a1⟩ := ih u k a h1
      obtain ⟨is2, w2, a2⟩ := ih k v b h2
      refine ⟨is1 ++ k :: is2, walk_append w w1 w2, fun x hx => ?_⟩
      rcases List.mem_append.1 hx with hx | hx
      · exact Nat.lt_succ_of_lt (a1 x hx)
      · rcases List.mem_cons.1 hx with rfl | hx
        · exact Nat.lt_succ_self _
        · exact Nat.lt_succ_of_lt (a2 x hx)

theorem fw_correct (w : Wt) (n u v : Nat) :
    (∀ d, fw w n u v = some d →
        (∃ is, Walk w u v is d) ∧ ∀ is c, Walk w u v is c → (∀ x, x ∈ is → x < n) → d ≤ c) ∧
    (fw w n u v = none → ∀ is c, Walk w u v is c → (∀ x, x ∈ is → x < n) → False) := by
  constructor
  · intro d hd
    refine ⟨?_, ?_⟩
    · obtain ⟨is, hw, _⟩ := fw_attained w n u v d hd; exact ⟨is, hw⟩
    · intro is c hw hall
      obtain ⟨d', hd', hle⟩ := fw_le w n is u v c hw hall
      rw [hd] at hd'; cases hd'; exact hle
  · intro hn is c hw hall
    obtain ⟨d', hd', _⟩ := fw_le w n is u v c hw hall
    rw [hn] at hd'; cases hd'

theorem mat_mk_get (n : Nat) (f : Nat → Nat → Option Nat) (u v : Nat) :
    (Mat.mk n f).get u v = if u < n ∧ v < n then f u v else none := by
  by_cases hu : u < n <;> by_cases hv : v < n <;> simp [Mat.get, Mat.mk, hu, hv]

theorem table_get (w : Wt) (n : Nat) : ∀ k, k ≤ n → ∀ u v, u < n → v < n → (table w n k).get u v = fw w k u v := by
  intro k
  induction k with
  | zero => intro _ u v hu hv; simp only [table, fw, mat_mk_get, hu, hv, and_self, if_true]
  | succ k ih =>
    intro hk u v hu hv
    have hk' : k < n := hk
    simp only [table, fw]
    rw [mat_mk_get, if_pos ⟨hu, hv⟩, ih (by omega) u v hu hv, ih (by omega) u k hu hk', ih (by omega) k v hk' hv]

theorem dist_eq_fw (w : Wt) (n u v : Nat) (hu : u < n) (hv : v < n) : dist w n u v = fw w n u v :=
  table_get w n n (Nat.le_refl _) u v hu hv

theorem mem_of_find_weight {l : List (Nat × Nat × Nat)} {a b c : Nat}
    (h : (l.find? fun e => e.1 == a && e.2.1 == b).map (·.2.2) = some c) : (a, b, c) ∈ l := by
  obtain ⟨⟨x, y, z⟩, hf, rfl⟩ := Option.map_eq_some_iff.1 h
  have hp := List.find?_some hf
  simp only [Bool.and_eq_true, beq_iff_eq] at hp
  obtain ⟨rfl, rfl⟩ := hp
  exact List.mem_of_find?_eq_some hf

def Bounded (w : Wt) (n : Nat) : Prop := ∀ a b c, w a b = some c → a < n ∧ b < n

theorem walk_bounded {w : Wt} {n : Nat} (hb : Bounded w n) : ∀ {u v is c}, Walk w u v is c →
    u < n ∧ v < n ∧ ∀ x, x ∈ is → x < n := by
  intro u v is c h
  induction h with
  | edge he => exact ⟨(hb _ _ _ he).1, (hb _ _ _ he).2, by simp⟩
  | cons he _ ih =>
    refine ⟨(hb _ _ _ he).1, ih.2.1, ?_⟩
    intro x hx
    simp at hx
    rcases hx with rfl | hx
    · exact ih.1
    · exact ih.2.2 x hx

/-- **the oracle the drivers run**: for weights bounded by `n`, `dist w n u v` is the minimum weight over *all* walks
    `u → v`, attained, and `none` exactly when there is no walk -/
theorem dist_correct (w : Wt) (n u v : Nat) (hb : Bounded w n) :
    (∀ d, dist w n u v = some d → (∃ is, Walk w u v is d) ∧ ∀ is c, Walk w u v is c → d ≤ c) ∧
    (dist w n u v = none ↔ ¬ ∃ is c, Walk w u v is c) := by
  by_cases hu : u < n ∧ v < n
  · rw [dist_eq_fw w n u v hu.1 hu.2]
    have hc := fw_correct w n u v
    refine ⟨?_, ?_⟩
    · intro d hd
      exact ⟨(hc.1 d hd).1, fun is c hw => (hc.1 d hd).2 is c hw (walk_bounded hb hw).2.2⟩
    · constructor
      · intro hn ⟨is, c, hw⟩; exact hc.2 hn is c hw (walk_bounded hb hw).2.2
      · intro hno
        cases hd : fw w n u v with
        | none => rfl
        | some d => exact absurd ⟨_, d, (hc.1 d hd).1.choose_spec⟩ hno
  · -- out of range: the table has no such cell
    have hnone : dist w n u v = none := by
      unfold dist
      cases n <;> simp only [table, mat_mk_get, if_neg hu]
    refine ⟨by simp [hnone], ?_⟩
    simp only [hnone, true_iff]
    intro ⟨is, c, hw⟩
    have := walk_bounded hb hw
    exact hu ⟨this.1, this.2.1⟩

theorem pathWeight_walk (w : Wt) : ∀ (p : List Nat) (a : Nat) (c : Nat), pathWeight w (a :: p) = some c →
    ∃ is b, a :: p = a :: is ++ [b] ∧ Walk w a b is c := by
  intro p
  induction p with
  | nil => intro a c h; cases h
  | cons b rest ih =>
    intro a c h
    cases rest with
    | nil => exact ⟨[], b, rfl, Walk.edge h⟩
    | cons d rest' =>
      obtain ⟨c1, c2, hab, hr, rfl⟩ := oadd_eq_some h
      obtain ⟨is, e, hp, hw⟩ := ih b c2 hr
      exact ⟨b :: is, e, by rw [hp]; rfl, Walk.cons hab hw⟩

theorem checkPath_sound (w : Wt) (s t : Nat) (p : List Nat) (c : Nat) (h : checkPath w s t p = some c) :
    ∃ is, p = s :: is ++ [t] ∧ Walk w s t is c := by
  unfold checkPath at h
  split at h
  · rename_i hst
    obtain ⟨rest, rfl⟩ := List.head?_eq_some_iff.1 hst.1
    obtain ⟨is, b, hp, hw⟩ := pathWeight_walk w rest s c h
    have hb : b = t := by
      have := hst.2
      rw [hp, List.getLast?_append] at this
      simpa using this
    exact ⟨is, hb ▸ hp, hb ▸ hw⟩
  · cases h

theorem checkPath_minimal (w : Wt) (n s t : Nat) (hb : Bounded w n) (p : List Nat) (c : Nat)
    (h : checkPath w s t p = some c) (hd : dist w n s t = some c) :
    (∃ is, p = s :: is ++ [t] ∧ Walk w s t is c) ∧ ∀ is' c', Walk w s t is' c' → c ≤ c' :=
  ⟨checkPath_sound w s t p c h, ((dist_correct w n s t hb).1 c hd).2⟩

end FW
