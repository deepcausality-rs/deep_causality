import DcVerif.Model.CausalGraph
import DcVerif.Spec.Causaloid
/-! The DFS stack machine. `Dfs.loop`, `Causal.loopO` (+ `visited`) and `CausalGraph.loopT` are one machine; `loopT` says
most (it tells a panic from an error and keeps the log), so the facts are proved about `loopT`, by its functional
induction, and carried over: `loopO` is `loopT` with a panic as no answer (`loopO_eq`), its `visited` is the log
(`loopT_visited`), and `Dfs.loop` is `loopO` when every evaluation answers (`loop_eq_loopO`).
Verdict and log facts go down, from `loopT` to `loopO` and `Dfs.loop`; termination goes up: it is proved on `Dfs.loop`
(`Term`, `loop_terminates`, before `loopT` appears) and carried to `loopT` and `loopO` through `loopT_toV`.
The cases of `fun_induction loopT` are: 1 fuel 0, 2 stack `[]`, 3 frame `[] :: rest`, then by the verdict of the head `c`:
4 none (panic), 5 `.e`, 6 `.f`, 7 `.t` with `c = stop`, 8 `.t` with `c ≠ stop` (the only one with an induction hypothesis
besides 3).
The two models decode an observation differently: `CausalGraph.decode` has `0 ↦ t, 1 ↦ f`, `Causal.decode` has `1 ↦ t, 0 ↦ f`
(mod 3); nothing here depends on it, `ev` is a variable.
Partial correctness holds for every fuel, termination on acyclic graphs. -/
namespace Dfs

/-- nodes a stack will (potentially) visit: everything reachable from any node on the stack -/
def OnStack (g : G) (st : List (List Nat)) (v : Nat) : Prop := ∃ fr ∈ st, ∃ c ∈ fr, Reach g c v

theorem reach_iff (g : G) (c v : Nat) : Reach g c v ↔ v = c ∨ ∃ b ∈ g.out c, Reach g b v := by
  constructor
  · intro h
    cases h with
    | refl => exact Or.inl rfl
    | step hb hr => exact Or.inr ⟨_, hb, hr⟩
  · rintro (rfl | ⟨b, hb, hr⟩)
    · exact Reach.refl _
    · exact Reach.step hb hr

theorem Reach.congr_out {g g' : G} (h : g.out = g'.out) {a b : Nat} (hr : Reach g a b) : Reach g' a b := by
  induction hr with
  | refl v => exact Reach.refl v
  | step hb _ ih => exact Reach.step (h ▸ hb) ih

theorem Reach.bound {g : G} {n : Nat} (hout : ∀ a b, b ∈ g.out a → b < n) {a b : Nat} (hr : Reach g a b) (ha : a < n) :
    b < n := by
  induction hr with
  | refl v => exact ha
  | step hb _ ih => exact ih (hout _ _ hb)

theorem onStack_nil (g : G) (v : Nat) : ¬ OnStack g [] v := by simp [OnStack]

theorem onStack_drop_empty (g : G) (rest : List (List Nat)) (v : Nat) :
    OnStack g ([] :: rest) v ↔ OnStack g rest v := by simp [OnStack]

theorem onStack_expand (g : G) (c : Nat) (cs : List Nat) (rest : List (List Nat)) (v : Nat) :
    OnStack g ((c :: cs) :: rest) v ↔ v = c ∨ OnStack g (g.out c :: cs :: rest) v := by
  simp [OnStack, reach_iff g c v, or_assoc]

theorem onStack_head (g : G) (c : Nat) (cs : List Nat) (rest : List (List Nat)) : OnStack g ((c :: cs) :: rest) c :=
  (onStack_expand g c cs rest c).2 (Or.inl rfl)

theorem onStack_tail {g : G} {c : Nat} {cs : List Nat} {rest : List (List Nat)} {v : Nat}
    (h : OnStack g (g.out c :: cs :: rest) v) : OnStack g ((c :: cs) :: rest) v :=
  (onStack_expand g c cs rest v).2 (Or.inr h)

theorem onStack_single (g : G) (cs : List Nat) (v : Nat) : OnStack g [cs] v ↔ ∃ c ∈ cs, Reach g c v := by
  simp [OnStack]

theorem reach_start (g : G) (s v : Nat) : Reach g s v ↔ v = s ∨ OnStack g [g.out s] v := by
  rw [onStack_single, reach_iff]

/-- the graph `Dfs.loop` sees when evaluations may panic: a panicking node counts as an error -/
def gOf (out : Nat → List Nat) (ev : Nat → Option V) : G := ⟨out, fun v => (ev v).getD .e⟩

/-- `x` is the conjunction of the verdicts `L`: `t` only if all of `L` are `t`; otherwise `x` occurs in `L` (a false verdict is
    caused by a false member, an error by an error, a panic by a panic). `Spec.Nest.conj` is the executable form. -/
def Agrees (x : Option V) (L : List (Option V)) : Prop := (x = some .t → ∀ l ∈ L, l = some .t) ∧ (x ≠ some .t → x ∈ L)

theorem Agrees.true_iff {r : V} {L : List (Option V)} (h : Agrees (some r) L) : r = .t ↔ ∀ l ∈ L, l = some .t :=
  ⟨fun hr => h.1 (congrArg some hr), fun hall => Classical.byContradiction fun hr =>
    hr (Option.some.inj (hall _ (h.2 fun hx => hr (Option.some.inj hx))))⟩

theorem agrees_self (x : Option V) : Agrees x [x] :=
  ⟨fun h l hl => by rw [List.mem_singleton.1 hl, h], fun _ => List.mem_singleton.2 rfl⟩

theorem agrees_nil : Agrees (some .t) [] := ⟨fun _ _ h => (nomatch h), fun h => absurd rfl h⟩

theorem Agrees.stop {x : Option V} {Lh Lt : List (Option V)} (h : Agrees x Lh) (hx : x ≠ some .t) : Agrees x (Lh ++ Lt) :=
  ⟨fun h' => absurd h' hx, fun _ => List.mem_append_left _ (h.2 hx)⟩

theorem Agrees.cont {x : Option V} {Lh Lt : List (Option V)} (hh : Agrees (some .t) Lh) (ht : Agrees x Lt) :
    Agrees x (Lh ++ Lt) :=
  ⟨fun hx l hl => (List.mem_append.1 hl).elim (hh.1 rfl l) (ht.1 hx l), fun hx => List.mem_append_right _ (ht.2 hx)⟩

theorem conj_of_agrees {x : Option V} {L : List (Option V)} (h : Agrees x L) : Spec.Nest.conj L x = true := by
  unfold Spec.Nest.conj
  by_cases hx : x = some .t
  · rw [if_pos (List.all_eq_true.2 fun l hl => by simp [h.1 hx l hl])]; simp [hx]
  · have hm := h.2 hx
    rw [if_neg fun ha => hx (by simpa using List.all_eq_true.1 ha x hm)]
    split
    · rename_i h2; simpa [hx] using List.all_eq_true.1 h2 x hm
    · split
      · rename_i h3
        have := List.all_eq_true.1 h3 x hm
        match x, hx with
        | some .f, _ => rfl
        | some .e, _ => rfl
      · simpa using hx

/-! Termination on acyclic graphs (no visited set, so the traversal may be exponential, but it is finite):
`rank` strictly decreases along every edge. -/

def Term (g : G) (stop : Nat) (st : List (List Nat)) : Prop := ∃ fuel r, loop g stop fuel st = some r

theorem term_pop (g : G) (stop : Nat) (rest : List (List Nat)) (h : Term g stop rest) :
    Term g stop ([] :: rest) := by
  obtain ⟨fuel, r, hr⟩ := h
  exact ⟨fuel + 1, r, by simpa [loop] using hr⟩

/-- a node on top of a terminating stack: its children (of smaller rank) first, then the stack below; `n` bounds `rank c`
    and carries the induction -/
theorem term_node (g : G) (stop : Nat) (rank : Nat → Nat)
    (hacyc : ∀ a b, b ∈ g.out a → rank b < rank a) :
    ∀ (n c : Nat), rank c < n → ∀ cs rest, Term g stop (cs :: rest) → Term g stop ((c :: cs) :: rest) := by
  intro n
  induction n with
  | zero => intro c hc; omega
  | succ n ih =>
    intro c hc cs rest hT
    cases hev : g.eval c with
    | e => exact ⟨1, .e, by simp [loop, hev]⟩
    | f => exact ⟨1, .f, by simp [loop, hev]⟩
    | t =>
      by_cases hs : c = stop
      · subst hs; exact ⟨1, .t, by simp [loop, hev]⟩
      · have hchildren : ∀ ds, (∀ d, d ∈ ds → d ∈ g.out c) → Term g stop (ds :: cs :: rest) := by
          intro ds
          induction ds with
          | nil => intro _; exact term_pop g stop (cs :: rest) hT
          | cons d ds ihd =>
            intro hsub
            have hd := hacyc c d (hsub d (by simp))
            exact ih d (by omega) ds (cs :: rest) (ihd (fun x hx => hsub x (by simp [hx])))
        obtain ⟨fuel, r, hr⟩ := hchildren (g.out c) (fun _ h => h)
        exact ⟨fuel + 1, r, by simp [loop, hev, hs]; exact hr⟩

theorem loop_terminates (g : G) (stop : Nat) (rank : Nat → Nat)
    (hacyc : ∀ a b, b ∈ g.out a → rank b < rank a) (st : List (List Nat)) : Term g stop st := by
  induction st with
  | nil => exact ⟨1, .t, rfl⟩
  | cons fr rest ih =>
    induction fr with
    | nil => exact term_pop g stop rest ih
    | cons c cs ihc => exact term_node g stop rank hacyc (rank c + 1) c (Nat.lt_succ_self _) cs rest ihc

end Dfs

namespace CausalGraph
open Dfs

/-- `Ok(b)` / `Err` as verdicts, a panic as no verdict -/
def Res.toOV : Res → Option V
  | .ok true => some .t
  | .ok false => some .f
  | .err => some .e
  | .panic => none

theorem toOV_t {r : Res} : r.toOV = some .t ↔ r = .ok true := by
  cases r with
  | ok b => cases b <;> simp [Res.toOV]
  | err => simp [Res.toOV]
  | panic => simp [Res.toOV]

variable {out : Nat → List Nat} {ev : Nat → Option V} {stop : Nat}

theorem loopT_toV (fuel : Nat) (st : List (List Nat)) (acc : List Nat) :
    Dfs.loop (gOf out ev) stop fuel st = (loopT out ev stop fuel st acc).map (·.1.toV) := by
  fun_induction loopT out ev stop fuel st acc <;> simp_all [Dfs.loop, gOf, Res.toV]

theorem loopO_eq (fuel : Nat) (st : List (List Nat)) (acc : List Nat) :
    Causal.loopO out ev stop fuel st = (loopT out ev stop fuel st acc).bind (·.1.toOV) := by
  fun_induction loopT out ev stop fuel st acc <;> simp_all [Causal.loopO, Res.toOV]

theorem loopT_visited {fuel st acc r acc'} (h : loopT out ev stop fuel st acc = some (r, acc')) (hr : r ≠ .panic) :
    acc' = (Causal.visited out ev stop fuel st).reverse ++ acc := by
  fun_induction loopT out ev stop fuel st acc <;> simp_all [Causal.visited]

theorem loopT_witness {fuel st acc r acc'} (h : loopT out ev stop fuel st acc = some (r, acc')) (hr : r ≠ .ok true) :
    ∃ v, OnStack (gOf out ev) st v ∧ ev v = r.toOV ∧ (r ≠ .panic → v ∈ acc') := by
  fun_induction loopT out ev stop fuel st acc with
  | case1 => cases h
  | case2 => cases h; exact absurd rfl hr
  | case3 _ rest _ ih => obtain ⟨v, hv, he⟩ := ih h; exact ⟨v, (onStack_drop_empty _ rest v).2 hv, he⟩
  | case4 _ c _ _ _ hev => cases h; exact ⟨c, onStack_head .., hev, fun h => absurd rfl h⟩
  | case5 _ c _ _ _ hev => cases h; exact ⟨c, onStack_head .., hev, fun _ => List.mem_cons_self⟩
  | case6 _ c _ _ _ hev => cases h; exact ⟨c, onStack_head .., hev, fun _ => List.mem_cons_self⟩
  | case7 => cases h; exact absurd rfl hr
  | case8 _ c cs rest _ _ _ ih => obtain ⟨v, hv, he⟩ := ih h; exact ⟨v, onStack_tail hv, he⟩

theorem loopT_log {fuel st acc r acc'} (h : loopT out ev stop fuel st acc = some (r, acc')) :
    ∃ l, acc' = l ++ acc ∧ (∀ v ∈ l, OnStack (gOf out ev) st v) ∧ (r = .ok true → ∀ v ∈ l, ev v = some .t) := by
  fun_induction loopT out ev stop fuel st acc with
  | case1 => cases h
  | case2 => cases h; exact ⟨[], rfl, by simp, by simp⟩
  | case3 _ rest _ ih =>
    obtain ⟨l, h1, h2, h3⟩ := ih h
    exact ⟨l, h1, fun v hv => (onStack_drop_empty _ rest v).2 (h2 v hv), h3⟩
  | case4 => cases h; exact ⟨[], rfl, by simp, by simp⟩
  | case5 _ c => cases h; exact ⟨[c], rfl, by simp [onStack_head], by simp⟩
  | case6 _ c => cases h; exact ⟨[c], rfl, by simp [onStack_head], by simp⟩
  | case7 _ _ _ _ hev => cases h; exact ⟨[stop], rfl, by simp [onStack_head], by simp [hev]⟩
  | case8 _ c cs rest _ hev _ ih =>
    obtain ⟨l, h1, h2, h3⟩ := ih h
    refine ⟨l ++ [c], by simp [h1], fun v hv => ?_, fun hr v hv => ?_⟩
    · rcases List.mem_append.1 hv with hv | hv
      · exact onStack_tail (h2 v hv)
      · cases List.mem_singleton.1 hv; exact onStack_head ..
    · rcases List.mem_append.1 hv with hv | hv
      · exact h3 hr v hv
      · cases List.mem_singleton.1 hv; exact hev

theorem loopT_true {fuel st acc acc'} (hs : ∀ v, OnStack (gOf out ev) st v → v ≠ stop)
    (h : loopT out ev stop fuel st acc = some (.ok true, acc')) :
    ∀ v, OnStack (gOf out ev) st v → ev v = some .t ∧ v ∈ acc' := by
  fun_induction loopT out ev stop fuel st acc with
  | case1 => cases h
  | case2 => intro v hv; exact absurd hv (onStack_nil _ v)
  | case3 _ rest _ ih => simp only [onStack_drop_empty] at hs ⊢; exact ih hs h
  | case4 => cases h
  | case5 => cases h
  | case6 => cases h
  | case7 => exact absurd rfl (hs stop (onStack_head ..))
  | case8 _ c cs rest _ hev _ ih =>
    intro v hv
    rcases (onStack_expand _ c cs rest v).1 hv with rfl | hv
    · obtain ⟨l, hl, _⟩ := loopT_log h
      exact ⟨hev, by simp [hl]⟩
    · exact ih (fun v hv => hs v (onStack_tail hv)) h v hv

/-- more fuel, and more answered nodes, never change an answer (a panic stays one only if the panicking node still panics);
    both runs take the same branch at every step -/
theorem loopT_mono {ev' : Nat → Option V} {fuel fuel' st acc r acc'} (hev : ∀ v x, ev v = some x → ev' v = some x)
    (hp : r = .panic → ∀ v, ev v = none → ev' v = none) (hle : fuel ≤ fuel')
    (h : loopT out ev stop fuel st acc = some (r, acc')) : loopT out ev' stop fuel' st acc = some (r, acc') := by
  fun_induction loopT out ev stop fuel st acc generalizing fuel' with
  | case1 => cases h
  | _ =>
    obtain ⟨k, rfl⟩ : ∃ k, fuel' = k + 1 := ⟨fuel' - 1, by omega⟩
    simp_all [loopT]

end CausalGraph

namespace Causal
open Dfs CausalGraph

variable {out : Nat → List Nat} {ev : Nat → Option V} {stop : Nat}

theorem loopO_some {fuel : Nat} {st : List (List Nat)} {x : V} : loopO out ev stop fuel st = some x ↔
    ∃ r acc', loopT out ev stop fuel st [] = some (r, acc') ∧ r.toOV = some x := by
  rw [loopO_eq fuel st [], Option.bind_eq_some_iff]
  exact ⟨fun ⟨⟨r, acc'⟩, h⟩ => ⟨r, acc', h⟩, fun ⟨r, acc', h⟩ => ⟨(r, acc'), h⟩⟩

/-- a conjunction of conjunctions: if the verdict of every node agrees with a list of its own, the verdict of the loop
    agrees with these lists over everything the stack reaches (`D`) -/
theorem loopO_agrees {fuel : Nat} {st : List (List Nat)} {r : V} (hs : ∀ v, OnStack (gOf out ev) st v → v ≠ stop)
    (h : loopO out ev stop fuel st = some r) {D : List Nat} (hD : ∀ v, v ∈ D ↔ OnStack (gOf out ev) st v)
    {C : Nat → List (Option V)} (hC : ∀ v x, ev v = some x → Agrees (some x) (C v)) : Agrees (some r) (D.flatMap C) := by
  obtain ⟨r', acc', hl, hr⟩ := loopO_some.1 h
  constructor
  · intro hrt l hm
    cases toOV_t.1 (hr.trans hrt)
    obtain ⟨v, hv, hm⟩ := List.mem_flatMap.1 hm
    exact (hC v .t (loopT_true hs hl v ((hD v).1 hv)).1).1 rfl l hm
  · intro hrt
    obtain ⟨v, hv, he, _⟩ := loopT_witness hl (fun h' => hrt (by rw [← hr, h']; rfl))
    exact List.mem_flatMap.2 ⟨v, (hD v).2 hv, (hC v r (he.trans hr)).2 hrt⟩

theorem loopO_visited {fuel : Nat} {st : List (List Nat)} {r : V} (h : loopO out ev stop fuel st = some r) :
    (r = .t → ∀ v ∈ visited out ev stop fuel st, ev v = some .t) ∧
    (r ≠ .t → ∃ v ∈ visited out ev stop fuel st, ev v = some r) := by
  obtain ⟨r', acc', hl, hr⟩ := loopO_some.1 h
  have hp : r' ≠ .panic := fun h' => by rw [h'] at hr; cases hr
  have hvis : ∀ v, v ∈ acc' ↔ v ∈ visited out ev stop fuel st := by simp [loopT_visited hl hp]
  constructor
  · rintro rfl v hv
    obtain ⟨l, hl', _, htrue⟩ := loopT_log hl
    exact htrue (toOV_t.1 hr) v (by simpa [hl'] using (hvis v).2 hv)
  · intro hrt
    obtain ⟨v, _, he, hm⟩ := loopT_witness hl (fun h' => hrt (by rw [h'] at hr; exact (Option.some.inj hr).symm))
    exact ⟨v, (hvis v).1 (hm hp), he.trans hr⟩

theorem loopO_mono {ev' : Nat → Option V} {fuel fuel' : Nat} {st : List (List Nat)} {r : V}
    (hev : ∀ v x, ev v = some x → ev' v = some x) (hle : fuel ≤ fuel') (h : loopO out ev stop fuel st = some r) :
    loopO out ev' stop fuel' st = some r := by
  obtain ⟨r', acc', hl, hr⟩ := loopO_some.1 h
  exact loopO_some.2 ⟨r', acc', loopT_mono hev (fun h' => by rw [h'] at hr; cases hr) hle hl, hr⟩

theorem loopT_terminates (rank : Nat → Nat) (hacyc : ∀ a b, b ∈ out a → rank b < rank a) (st : List (List Nat))
    (acc : List Nat) : ∃ fuel p, loopT out ev stop fuel st acc = some p := by
  obtain ⟨fuel, x, hx⟩ := loop_terminates (gOf out ev) stop rank hacyc st
  rw [loopT_toV fuel st acc] at hx
  obtain ⟨p, hp, _⟩ := Option.map_eq_some_iff.1 hx
  exact ⟨fuel, p, hp⟩

theorem loopO_terminates (rank : Nat → Nat) (hacyc : ∀ a b, b ∈ out a → rank b < rank a) (st : List (List Nat))
    (hdef : ∀ v, OnStack (gOf out ev) st v → ev v ≠ none) : ∃ fuel r, loopO out ev stop fuel st = some r := by
  obtain ⟨fuel, ⟨r', acc'⟩, hl⟩ := loopT_terminates (ev := ev) (stop := stop) rank hacyc st []
  cases hr : r'.toOV with
  | some r => exact ⟨fuel, r, loopO_some.2 ⟨r', acc', hl, hr⟩⟩
  | none =>
    obtain ⟨v, hv, he, _⟩ := loopT_witness hl (fun h' => by rw [h'] at hr; cases hr)
    exact absurd (he.trans hr) (hdef v hv)

end Causal

namespace Dfs
open CausalGraph

theorem loop_eq_loopO (g : G) (stop fuel : Nat) (st : List (List Nat)) :
    loop g stop fuel st = Causal.loopO g.out (fun v => some (g.eval v)) stop fuel st := by
  fun_induction loop g stop fuel st <;> simp_all [Causal.loopO]

/-- partial correctness, for every fuel: if the loop answers, the answer is `t` exactly when
    everything reachable from the stack evaluates to `t`; `stop` never being on the stack. -/
theorem loop_true_iff (g : G) (stop : Nat) :
    ∀ fuel st r, (∀ v, OnStack g st v → v ≠ stop) → loop g stop fuel st = some r →
      (r = .t ↔ ∀ v, OnStack g st v → g.eval v = .t) := by
  intro fuel st r hs h
  obtain ⟨r', acc', hl, hr⟩ := Causal.loopO_some.1 (loop_eq_loopO g stop fuel st ▸ h)
  constructor
  · rintro rfl v hv
    cases toOV_t.1 hr
    exact Option.some.inj (loopT_true (ev := fun v => some (g.eval v)) hs hl v hv).1
  · intro hall
    refine Classical.byContradiction fun hne => ?_
    obtain ⟨v, hv, he, _⟩ := loopT_witness hl (fun h' => hne (by cases h'; cases hr; rfl))
    rw [hr, hall v hv] at he; exact hne (Option.some.inj he).symm

theorem loop_false (g : G) (stop : Nat) :
    ∀ fuel st r, (∀ v, OnStack g st v → v ≠ stop) → loop g stop fuel st = some r →
      (∀ v, OnStack g st v → g.eval v ≠ .e) → (∃ v, OnStack g st v ∧ g.eval v = .f) → r = .f := by
  intro fuel st r hs h hne ⟨u, hu, hf⟩
  obtain ⟨r', acc', hl, hr⟩ := Causal.loopO_some.1 (loop_eq_loopO g stop fuel st ▸ h)
  have hrt : r' ≠ .ok true := fun h' => by
    cases h'; have := (loopT_true (ev := fun v => some (g.eval v)) hs hl u hu).1; rw [hf] at this; cases this
  obtain ⟨v, hv, he, _⟩ := loopT_witness hl hrt
  rw [hr] at he; cases Option.some.inj he
  match h' : g.eval v with
  | .f => rfl
  | .e => exact absurd h' (hne v hv)
  | .t => exact absurd (toOV_t.1 (h' ▸ hr)) hrt

end Dfs
