import DcVerif.Model.Ctx
import DcVerif.Lemmas.UGraph
/-! Lemmas for C09: the invariant of `Model.Ctx`, the abstraction to `Spec.Context`, selection of the current
extra context, and "every graph operation of a context is the `UltraGraph` operation on the addressed component". -/
namespace Model.Ctx
open Spec Spec.DiGraph Spec.Context Model Model.UGraph

/-- the extra contexts as a list (`None` = no map yet) -/
def extrasList (c : Ctx) : List (Nat × UGraph) := c.extras.getD []

/-- what holds in every reachable context: all graphs well-formed (C08), extra contexts are exactly the ids
`1 … count`, the selection is `0` or one of them -/
structure Inv (c : Ctx) : Prop where
  baseWF : WF c.base
  none0 : c.extras = none → c.count = 0
  keysNodup : (c.extrasList.map (·.1)).Nodup
  keys : ∀ k, has c.extrasList k = (decide (1 ≤ k) && decide (k ≤ c.count))
  len : c.extrasList.length = c.count
  allWF : ∀ e ∈ c.extrasList, WF e.2
  cur : c.current ≤ c.count

theorem inv_init : Inv init :=
  ⟨wf_init, fun _ => rfl, List.nodup_nil, fun k => by simp [init, extrasList, has]; omega, rfl,
    fun _ h => by simp [init, extrasList] at h, Nat.le_refl _⟩

theorem Inv.congr {c c' : Ctx} (h : Inv c) (hb : WF c'.base) (he : c'.extras = c.extras) (hc : c'.count = c.count)
    (hcur : c'.current ≤ c.count) : Inv c' := by
  have hl : c'.extrasList = c.extrasList := by unfold extrasList; rw [he]
  exact ⟨hb, fun hn => hc ▸ h.none0 (he ▸ hn), hl ▸ h.keysNodup, by rw [hl, hc]; exact h.keys, by rw [hl, hc]; exact h.len,
    hl ▸ h.allWF, hc ▸ hcur⟩

def absCtx (c : Ctx) : Context :=
  { base := abs c.base, extras := c.extrasList.map (fun e => (e.1, abs e.2)), current := c.current,
    cur := c.curMap, prev := c.prevMap }

theorem component_eq (c : Ctx) (k : Nat) :
    c.component k = if k == 0 then some c.base else mGet c.extrasList k := by
  unfold component extrasList; cases c.extras <;> rfl

theorem find_abs (m : List (Nat × UGraph)) (k : Nat) :
    ((m.map (fun e => (e.1, abs e.2))).find? (fun e => e.1 == k)).map (·.2) = (mGet m k).map abs := by
  induction m with
  | nil => rfl
  | cons e m ih =>
    rw [List.map_cons, List.find?_cons, mGet_cons]
    cases h : e.1 == k
    · rw [if_neg (ne_of_beq_false h)]; exact ih
    · rw [if_pos (eq_of_beq h)]; rfl

theorem getCurrent_spec {c : Ctx} (h : Inv c) :
    (c.current = 0 ∧ (∃ r, c.getCurrent = r ∧ (r = Sel.err)) ∧ (absCtx c).selected = none) ∨
    (c.current ≠ 0 ∧ ∃ g, c.getCurrent = .ok g ∧ (absCtx c).selected = some (abs g) ∧
      mGet c.extrasList c.current = some g ∧ WF g ∧ c.extras = some c.extrasList) := by
  by_cases h0 : c.current = 0
  · left
    refine ⟨h0, ⟨_, rfl, ?_⟩, ?_⟩
    · unfold getCurrent; simp [h0]
    · unfold selected absCtx; simp [h0]
  · right
    refine ⟨h0, ?_⟩
    have hc := h.cur
    have hhas : has c.extrasList c.current = true := by rw [h.keys]; simp; omega
    obtain ⟨g, hg⟩ := Option.isSome_iff_exists.1 ((mGet_isSome _ _).trans hhas)
    have hex : c.extras = some c.extrasList := by
      cases he : c.extras with
      | none => have := h.none0 he; omega
      | some m => simp [extrasList, he]
    refine ⟨g, ?_, ?_, hg, h.allWF _ (mem_of_mGet hg), hex⟩
    · unfold getCurrent checkExists
      rw [hex]
      simp [h0, hc, hg]
    · unfold selected
      rw [if_neg (by simpa [absCtx] using h0)]
      show ((c.extrasList.map (fun e => (e.1, abs e.2))).find? (fun e => e.1 == c.current)).map (·.2) = _
      rw [find_abs, hg]; rfl

theorem extrasList_putCurrent (c : Ctx) (g : UGraph) :
    (c.putCurrent g).extrasList = c.extrasList.map (fun e => if e.1 == c.current then (e.1, g) else e) := by
  unfold putCurrent extrasList
  cases c.extras <;> rfl

theorem absCtx_putCurrent (c : Ctx) (g : UGraph) : absCtx (c.putCurrent g) = (absCtx c).putSelected (abs g) := by
  unfold absCtx putSelected
  rw [extrasList_putCurrent]
  simp only [List.map_map]
  have : (c.putCurrent g).base = c.base ∧ (c.putCurrent g).current = c.current ∧
      (c.putCurrent g).curMap = c.curMap ∧ (c.putCurrent g).prevMap = c.prevMap := ⟨rfl, rfl, rfl, rfl⟩
  rw [this.1, this.2.1, this.2.2.1, this.2.2.2]
  congr 1
  apply List.map_congr_left
  intro e _
  simp only [Function.comp]
  cases hb : e.1 == c.current
  · simp
  · simp [eq_of_beq hb]

theorem map_put_keys (m : List (Nat × UGraph)) (k : Nat) (g : UGraph) :
    (m.map (fun e => if e.1 == k then (e.1, g) else e)).map (·.1) = m.map (·.1) := by
  rw [List.map_map]; apply List.map_congr_left; intro e _
  simp only [Function.comp]; split <;> rfl

theorem inv_putCurrent {c : Ctx} (h : Inv c) (g : UGraph) (hg : WF g) : Inv (c.putCurrent g) := by
  have hl := extrasList_putCurrent c g
  refine ⟨h.baseWF, ?_, ?_, ?_, ?_, ?_, h.cur⟩
  · intro hn
    apply h.none0
    unfold putCurrent at hn
    cases he : c.extras with
    | none => rfl
    | some m => simp [he] at hn
  · rw [hl, map_put_keys]; exact h.keysNodup
  · intro k
    have : has (c.putCurrent g).extrasList k = has c.extrasList k := by
      have e1 := has_iff_mem (c.putCurrent g).extrasList k
      have e2 := has_iff_mem c.extrasList k
      rw [hl, map_put_keys] at e1
      rw [Bool.eq_iff_iff, e2, hl, e1]
    rw [this]; exact h.keys k
  · rw [hl, List.length_map]; exact h.len
  · intro e he
    rw [hl] at he
    obtain ⟨x, hx, hxe⟩ := List.mem_map.1 he
    split at hxe
    · rw [← hxe]; exact hg
    · rw [← hxe]; exact h.allWF x hx

theorem map_put_self {β : Type} (m : List (Nat × β)) (k : Nat) (g : β) (hn : (m.map (·.1)).Nodup)
    (hg : mGet m k = some g) : m.map (fun e => if e.1 == k then (e.1, g) else e) = m := by
  refine (List.map_congr_left fun e he => ?_).trans (List.map_id m)
  cases hb : e.1 == k
  · rfl
  · exact (eq_of_nodup_map (·.1) hn he (mem_of_mGet hg) (eq_of_beq hb)).symm ▸ rfl

theorem putCurrent_self {c : Ctx} (h : Inv c) (g : UGraph) (hg : mGet c.extrasList c.current = some g)
    (hex : c.extras = some c.extrasList) : c.putCurrent g = c := by
  unfold putCurrent
  rw [hex]
  simp only [Option.map_some, map_put_self _ _ _ h.keysNodup hg]
  cases c with
  | mk b e cnt cur cm pm => simp only at hex ⊢; rw [← hex]

theorem putSelected_self {c : Ctx} (h : Inv c) (g : UGraph) (hg : mGet c.extrasList c.current = some g)
    (hex : c.extras = some c.extrasList) : (absCtx c).putSelected (abs g) = absCtx c := by
  rw [← absCtx_putCurrent, putCurrent_self h g hg hex]

theorem step_xSetCurrent (c : Ctx) (k : Nat) :
    Ctx.step c (.xSetCurrent k) = if k ≤ c.count then ({ c with current := k }, .ok) else (c, .err) := by
  simp only [Ctx.step, checkExists]
  by_cases hk : k ≤ c.count <;> simp [hk]

theorem eta_base (c : Ctx) : { c with base := c.base } = c := rfl

/-- base operations: `Context` forwards to `base_context` (its own guards are redundant) -/
theorem base_step {c : Ctx} (h : WF c.base) (op : Op) (gop : DiGraph.Op) (hg : op.graphOp = some (.base, gop)) :
    Ctx.step c op = ({ c with base := (UGraph.step .repaired c.base gop).1 }, (UGraph.step .repaired c.base gop).2) := by
  cases op <;> simp only [Op.graphOp, Option.some.injEq, Prod.mk.injEq, reduceCtorEq, false_and, true_and] at hg
  all_goals subst hg
  case addNode v => rfl
  case containsNode i => rfl
  case getNode i => rfl
  case containsEdge a b => rfl
  case edgeCount => rfl
  case size => simp only [Ctx.step, UGraph.step, lenOut]; cases c.base.ids.len <;> rfl
  case isEmpty => simp only [Ctx.step, UGraph.step, lenOut]; cases c.base.ids.len <;> rfl
  case nodeCount => simp only [Ctx.step, UGraph.step, lenOut]; cases c.base.ids.len <;> rfl
  case removeNode i =>
    rcases removeNode_answers h i with he | ⟨hi, g', hg'⟩
    · simp only [Ctx.step, UGraph.step, he]; cases c.base.containsNode i <;> rfl
    · simp only [Ctx.step, UGraph.step, hg', hi]; rfl
  case addEdge a b w =>
    rcases addEdgeW_answers h a b w with he | ⟨⟨ha, hb⟩, g', hg'⟩
    · simp only [Ctx.step, UGraph.step, he]; cases c.base.containsNode a <;> cases c.base.containsNode b <;> rfl
    · simp only [Ctx.step, UGraph.step, hg', ha, hb]; rfl
  case removeEdge a b =>
    rcases removeEdge_answers h a b with he | ⟨⟨ha, hb⟩, g', hg'⟩
    · simp only [Ctx.step, UGraph.step, he]; cases c.base.containsNode a <;> cases c.base.containsNode b <;> rfl
    · simp only [Ctx.step, UGraph.step, hg', ha, hb]; rfl

theorem extra_step_nosel {c : Ctx} (hsel : c.getCurrent = .err) (op : Op) (gop : DiGraph.Op)
    (hg : op.graphOp = some (.extra, gop)) : Ctx.step c op = (c, noSel gop) := by
  have hcn : ∀ i, c.extraContainsNode i = false := by intro i; unfold extraContainsNode; rw [hsel]
  cases op <;> simp only [Op.graphOp, Option.some.injEq, Prod.mk.injEq, reduceCtorEq, false_and, true_and] at hg
  all_goals subst hg
  all_goals simp only [Ctx.step, hsel, hcn, noSel, Bool.not_false, if_true]

theorem extra_step_sel {c : Ctx} (hinv : Inv c) (g : UGraph) (h : WF g) (hsel : c.getCurrent = .ok g)
    (hget : mGet c.extrasList c.current = some g) (hex : c.extras = some c.extrasList)
    (op : Op) (gop : DiGraph.Op) (hg : op.graphOp = some (.extra, gop)) :
    Ctx.step c op = (c.putCurrent (UGraph.step .repaired g gop).1, wrapX gop (UGraph.step .repaired g gop).2) := by
  have hcn : ∀ i, c.extraContainsNode i = g.containsNode i := by intro i; unfold extraContainsNode; rw [hsel]
  have hself := putCurrent_self hinv g hget hex
  cases op <;> simp only [Op.graphOp, Option.some.injEq, Prod.mk.injEq, reduceCtorEq, false_and, true_and] at hg
  all_goals subst hg
  case xAddNode v => simp only [Ctx.step, hsel, UGraph.step]; rfl
  case xContainsNode i => simp only [Ctx.step, hcn, UGraph.step, hself]; rfl
  case xGetNode i =>
    simp only [Ctx.step, hsel, UGraph.step, hself]
    cases g.getNode i <;> rfl
  case xContainsEdge a b =>
    simp only [Ctx.step, hsel, hcn, UGraph.step, hself]
    rw [h.containsNode, h.containsNode, h.containsEdge]
    cases hc : g.hasCell a b
    · cases has g.nodeMap a <;> cases has g.nodeMap b <;> simp [wrapX]
    · obtain ⟨ha, hb⟩ := h.hasCell_live hc
      simp [wrapX, ha, hb]
  case xEdgeCount => simp only [Ctx.step, hsel, UGraph.step, hself]; rfl
  case xSize =>
    simp only [Ctx.step, hsel, UGraph.step, lenOut, h.len, hself]; rfl
  case xIsEmpty =>
    simp only [Ctx.step, hsel, UGraph.step, lenOut, h.len, hself]; rfl
  case xNodeCount =>
    simp only [Ctx.step, hsel, UGraph.step, lenOut, h.len, hself]; rfl
  case xRemoveNode i =>
    rcases removeNode_answers h i with he | ⟨_, g', hg'⟩
    · simp only [Ctx.step, hsel, UGraph.step, he, hself]; rfl
    · simp only [Ctx.step, hsel, UGraph.step, hg']; rfl
  case xAddEdge a b w =>
    rcases addEdgeW_answers h a b w with he | ⟨⟨ha, hb⟩, g', hg'⟩
    · simp only [Ctx.step, hsel, hcn, UGraph.step, he, hself]; cases g.containsNode a <;> cases g.containsNode b <;> rfl
    · simp only [Ctx.step, hsel, hcn, UGraph.step, hg', ha, hb]; rfl
  case xRemoveEdge a b =>
    rcases removeEdge_answers h a b with he | ⟨⟨ha, hb⟩, g', hg'⟩
    · simp only [Ctx.step, hsel, hcn, UGraph.step, he, hself]; cases g.containsNode a <;> cases g.containsNode b <;> rfl
    · simp only [Ctx.step, hsel, hcn, UGraph.step, hg', ha, hb]; rfl

end Model.Ctx
