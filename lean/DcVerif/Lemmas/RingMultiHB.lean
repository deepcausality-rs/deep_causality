import DcVerif.Model.RingMultiHB
import DcVerif.Lemmas.RingHB
import DcVerif.Lemmas.RingMultiSafe
/-!
The ghost (vector-clock) invariant of `Model/RingMultiHB.lean`, part 1: clock algebra, knowledge of slot writes, the
invariant `HMInv`, and its preservation by every step of a handler thread and of the draining thread.
Part 2 (`Lemmas/RingMultiHBW.lean`) treats the writer threads and puts the pieces together for every schedule.

All clauses are of the form "clock entry ≥ local counter" / "clock knows the write of sequence `q`"; they are monotone in the
clock and in the ghost write log, thread clocks only grow, the clocks of RMW-only locations (cursor, high watermark, bitmap
words) only grow, the clock of a plainly stored location (handler cursors, low watermark) is replaced by its storer's.
-/
namespace RingMultiHB
open Ring RingMulti Gen.Orderings
open RingHB (availPc upd_same upd_other)
open RingPay (progress)

def VC.le (a b : VC) : Prop := (∀ i, a.pw i ≤ b.pw i) ∧ ∀ k j, a.ha k j ≤ b.ha k j

theorem le_refl' (a : VC) : a.le a := ⟨fun _ => Nat.le_refl _, fun _ _ => Nat.le_refl _⟩
theorem le_trans' {a b c : VC} (h1 : a.le b) (h2 : b.le c) : a.le c :=
  ⟨fun i => Nat.le_trans (h1.1 i) (h2.1 i), fun k j => Nat.le_trans (h1.2 k j) (h2.2 k j)⟩
theorem le_join_left (a b : VC) : a.le (a.join b) := ⟨fun _ => Nat.le_max_left _ _, fun _ _ => Nat.le_max_left _ _⟩
theorem le_join_right (a b : VC) : b.le (a.join b) := ⟨fun _ => Nat.le_max_right _ _, fun _ _ => Nat.le_max_right _ _⟩
theorem le_incH (a : VC) (k j : Nat) : a.le (a.incH k j) := by
  refine ⟨fun _ => Nat.le_refl _, fun k' j' => ?_⟩
  simp only [VC.incH]; split <;> omega
theorem le_incW (a : VC) (i : Nat) : a.le (a.incW i) := by
  refine ⟨fun i' => ?_, fun _ _ => Nat.le_refl _⟩
  simp only [VC.incW]; split <;> omega
theorem le_loadClock (o : Ord) (t l : VC) : t.le (loadClock o t l) := by
  unfold loadClock; split
  · exact le_join_left _ _
  · exact le_refl' _
theorem loc_le_loadClock (o : Ord) (ho : o.isAcquire = true) (t l : VC) : l.le (loadClock o t l) := by
  simp only [loadClock, ho, if_true]; exact le_join_right _ _
theorem le_rmwClock (o : Ord) (t l : VC) : l.le (rmwClock o t l) := by
  unfold rmwClock; split
  · exact le_join_left _ _
  · exact le_refl' _
theorem thread_le_rmwClock (o : Ord) (ho : o.isRelease = true) (t l : VC) : t.le (rmwClock o t l) := by
  simp only [rmwClock, ho, if_true]; exact le_join_right _ _

@[simp] theorem updV_same (f : Nat → Nat → VC) (k j : Nat) (v : VC) : updV f k j v k j = v := by simp [updV]
theorem updV_other (f : Nat → Nat → VC) (k j k' j' : Nat) (v : VC) (h : ¬(k' = k ∧ j' = j)) :
    updV f k j v k' j' = f k' j' := by simp [updV, h]
@[simp] theorem updV1_same (f : Nat → VC) (i : Nat) (v : VC) : updV1 f i v i = v := by simp [updV1]
theorem updV1_other (f : Nat → VC) (i i' : Nat) (v : VC) (h : i' ≠ i) : updV1 f i v i' = f i' := by simp [updV1, h]

/-- clock `c` is dominated by the owners' own entries `ow` (writers) and `oh` (handlers) -/
def Dom (ow : Nat → Nat) (oh : Nat → Nat → Nat) (c : VC) : Prop := (∀ a, c.pw a ≤ ow a) ∧ ∀ k j, c.ha k j ≤ oh k j

def ow (s : HMSt) : Nat → Nat := fun a => (s.vcW a).pw a
def oh (s : HMSt) : Nat → Nat → Nat := fun k j => (s.vcC k j).ha k j

theorem dom_mono {ow ow' : Nat → Nat} {oh oh' : Nat → Nat → Nat} {c : VC} (h : Dom ow oh c)
    (h1 : ∀ a, ow a ≤ ow' a) (h2 : ∀ k j, oh k j ≤ oh' k j) : Dom ow' oh' c :=
  ⟨fun a => Nat.le_trans (h.1 a) (h1 a), fun k j => Nat.le_trans (h.2 k j) (h2 k j)⟩
theorem dom_empty (ow : Nat → Nat) (oh : Nat → Nat → Nat) : Dom ow oh {} := ⟨fun _ => Nat.zero_le _, fun _ _ => Nat.zero_le _⟩
theorem dom_join {ow : Nat → Nat} {oh : Nat → Nat → Nat} {a b : VC} (ha : Dom ow oh a) (hb : Dom ow oh b) :
    Dom ow oh (a.join b) :=
  ⟨fun i => Nat.max_le.2 ⟨ha.1 i, hb.1 i⟩, fun k j => Nat.max_le.2 ⟨ha.2 k j, hb.2 k j⟩⟩
theorem dom_load {ow : Nat → Nat} {oh : Nat → Nat → Nat} (o : Ord) {t l : VC} (ht : Dom ow oh t) (hl : Dom ow oh l) :
    Dom ow oh (loadClock o t l) := by
  unfold loadClock; split
  · exact dom_join ht hl
  · exact ht
theorem dom_rmw {ow : Nat → Nat} {oh : Nat → Nat → Nat} (o : Ord) {t l : VC} (ht : Dom ow oh t) (hl : Dom ow oh l) :
    Dom ow oh (rmwClock o t l) := by
  unfold rmwClock; split
  · exact dom_join hl ht
  · exact hl
theorem dom_store {ow : Nat → Nat} {oh : Nat → Nat → Nat} (o : Ord) {t : VC} (ht : Dom ow oh t) :
    Dom ow oh (storeClock o t) := by
  unfold storeClock; split
  · exact ht
  · exact dom_empty _ _

structure HDom (s : HMSt) : Prop where
  dCur : Dom (ow s) (oh s) s.lcCur
  dHw  : Dom (ow s) (oh s) s.lcHw
  dLw  : Dom (ow s) (oh s) s.lcLw
  dH   : ∀ a b, Dom (ow s) (oh s) (s.lcH a b)
  dB   : ∀ ix, Dom (ow s) (oh s) (s.lcB ix)
  dW   : ∀ i, Dom (ow s) (oh s) (s.vcW i)
  dC   : ∀ a b, Dom (ow s) (oh s) (s.vcC a b)
  dD   : Dom (ow s) (oh s) s.vcD

theorem wlog_append (W L : List (Nat × Nat)) (a : Nat) : wlog (W ++ L) a = wlog W a ++ wlog L a := by
  simp [wlog, List.filter_append]

theorem wlog_single (w i a : Nat) : wlog [(w, i)] a = if i = a then [w] else [] := by
  by_cases h : i = a <;> simp [wlog, h]

theorem knowsW_mono {W : List (Nat × Nat)} {v v' : VC} {q : Nat} (h : KnowsW W v q) (hv : v.le v')
    (L : List (Nat × Nat)) : KnowsW (W ++ L) v' q := by
  obtain ⟨a, m, h1, h2⟩ := h
  refine ⟨a, m, ?_, Nat.lt_of_lt_of_le h2 (hv.1 a)⟩
  rw [wlog_append]
  have hm : m < (wlog W a).length := by
    rcases Nat.lt_or_ge m (wlog W a).length with h | h
    · exact h
    · rw [List.getElem?_eq_none h] at h1; cases h1
  rw [List.getElem?_append_left hm]; exact h1

theorem knowsW_le {W : List (Nat × Nat)} {v v' : VC} {q : Nat} (h : KnowsW W v q) (hv : v.le v') : KnowsW W v' q := by
  have := knowsW_mono h hv []; simpa using this

theorem knowsW_mem {W : List (Nat × Nat)} {v : VC} {q : Nat} (h : KnowsW W v q) : ∃ a, (q, a) ∈ W ∧ 0 < v.pw a := by
  obtain ⟨a, m, h1, h2⟩ := h
  refine ⟨a, ?_, by omega⟩
  have hm := List.mem_of_getElem? h1
  simp only [wlog, List.mem_map, List.mem_filter] at hm
  obtain ⟨e, ⟨he, hea⟩, hq⟩ := hm
  have : e = (q, a) := by
    cases e with
    | mk e1 e2 => simp at hea hq; simp [hea, hq]
  rw [← this]; exact he

/-- clock `v` knows the slot write of every sequence `1 … b` -/
def KnowsUpTo (W : List (Nat × Nat)) (v : VC) (b : Nat) : Prop := ∀ q, 1 ≤ q → q ≤ b → KnowsW W v q

theorem KnowsUpTo.mono {W : List (Nat × Nat)} {v v' : VC} {b b' : Nat} (h : KnowsUpTo W v b) (hv : v.le v') (hb : b' ≤ b)
    (L : List (Nat × Nat)) : KnowsUpTo (W ++ L) v' b' :=
  fun q h1 h2 => knowsW_mono (h q h1 (by omega)) hv L

theorem KnowsUpTo.le {W : List (Nat × Nat)} {v v' : VC} {b b' : Nat} (h : KnowsUpTo W v b) (hv : v.le v') (hb : b' ≤ b) :
    KnowsUpTo W v' b' :=
  fun q h1 h2 => knowsW_le (h q h1 (by omega)) hv

theorem CoversM.mono {W : List (Nat × Nat)} {K : Nat} {h : Nat → Nat} {n : Nat} {v v' : VC} {k b b' : Nat}
    (hc : CoversM W K h n v k b) (hv : v.le v') (hb : b' ≤ b) (L : List (Nat × Nat)) :
    CoversM (W ++ L) K h n v' k b' := by
  obtain ⟨h1, h2, h3⟩ := hc
  constructor
  · intro q hq1 hq2; exact knowsW_mono (h1 q hq1 (by omega)) hv L
  · intro k' j' hk hK hj; have := h2 k' j' hk hK hj; have := hv.2 k' j'; omega
  · intro k' j' hK hj; have := h3 k' j' hK hj; have := hv.2 k' j'; omega

theorem CoversM.le {W : List (Nat × Nat)} {K : Nat} {h : Nat → Nat} {n : Nat} {v v' : VC} {k b b' : Nat}
    (hc : CoversM W K h n v k b) (hv : v.le v') (hb : b' ≤ b) : CoversM W K h n v' k b' := by
  have := hc.mono hv hb []; simpa using this

theorem CoversM.weaken {W : List (Nat × Nat)} {K : Nat} {h : Nat → Nat} {n : Nat} {v : VC} {k k' b : Nat}
    (hc : CoversM W K h n v k b) (hk : k' ≤ k) : CoversM W K h n v k' b :=
  ⟨hc.pw, fun a j ha hK hj => hc.prev a j (by omega) hK hj, hc.old⟩

theorem coversM_combine {W : List (Nat × Nat)} {K : Nat} {h : Nat → Nat} {n : Nat} {v : VC} {k m : Nat}
    (h1 : CoversM W K h n v (k - 1) m) (h2 : 0 < k → ∀ d, d < h (k-1) → m ≤ v.ha (k-1) d) :
    CoversM W K h n v k m := by
  refine ⟨h1.pw, ?_, h1.old⟩
  intro k' j' hk hK hj
  by_cases hlt : k' < k - 1
  · exact h1.prev k' j' hlt hK hj
  · have : k' = k - 1 := by omega
    subst this
    exact h2 (by omega) j' hj

theorem coversM_zero (W : List (Nat × Nat)) (K : Nat) (h : Nat → Nat) (n : Nat) (v : VC) (k : Nat) : CoversM W K h n v k 0 :=
  ⟨fun q h1 h2 => by omega, fun _ _ _ _ _ => Nat.zero_le _, fun _ _ _ _ => Nat.zero_le _⟩

/-- what the clock of a bitmap word knows about a published sequence `q0` whose bit is set: the slot write of `q0`, the
slot write of every sequence at least one lap below `q0` (the claimant of `q0` learnt those in `has_capacity`), and every
handler's access of `q0 - n` -/
structure SeqK (W : List (Nat × Nat)) (K : Nat) (h : Nat → Nat) (n : Nat) (v : VC) (q0 : Nat) : Prop where
  self : KnowsW W v q0
  lap  : ∀ q, 1 ≤ q → q + n ≤ q0 → KnowsW W v q
  old  : ∀ k j, k < K → j < h k → q0 ≤ v.ha k j + n

theorem SeqK.mono {W : List (Nat × Nat)} {K : Nat} {h : Nat → Nat} {n : Nat} {v v' : VC} {q0 : Nat}
    (hs : SeqK W K h n v q0) (hv : v.le v') (L : List (Nat × Nat)) : SeqK (W ++ L) K h n v' q0 :=
  ⟨knowsW_mono hs.self hv L, fun q h1 h2 => knowsW_mono (hs.lap q h1 h2) hv L,
   fun k j hk hj => by have := hs.old k j hk hj; have := hv.2 k j; omega⟩

/-- the clock operations of a handler's step, for the generic treatment in `Lemmas/HandlerClock.lean` -/
def clocks : RingHB.Clocks VC :=
  { ha := VC.ha, bot := {}, join := VC.join, incH := VC.incH, ha_join := fun _ _ _ _ => rfl, ha_incH := fun _ _ _ _ _ => rfl }

theorem coverage (W : List (Nat × Nat)) (K : Nat) (h : Nat → Nat) (n : Nat) :
    RingHB.Coverage clocks h (CoversM W K h n) :=
  ⟨fun hc => hc.le (le_join_left _ _) (Nat.le_refl _), fun hc hb => hc.le (le_join_right _ _) hb,
   fun hc => hc.le (le_incH _ _ _) (Nat.le_refl _), coversM_combine⟩

theorem consV_eq (get : Ord) (s : HMSt) (k j : Nat) :
    consV get s k j =
      RingHB.consClock clocks get s.x.s k j (s.x.s.cons k j) (s.vcC k j) (s.lcH k j) (depClock s k) := rfl

theorem consL_eq (set : Ord) (s : HMSt) (k j : Nat) :
    consL set s k j = RingHB.cursorClock clocks set (s.x.s.cons k j) (s.vcC k j) (s.lcH k j) := rfl

/-- handlers and their cursors (as for the single producer, with `CoversM`) -/
def HCons (W : List (Nat × Nat)) (sx : St) (vcC lcH : Nat → Nat → VC) : Prop :=
  ∀ k j, k < sx.K → j < sx.h k →
    RingHB.HKnow clocks (CoversM W sx.K sx.h sx.n) k j (sx.cons k j) (vcC k j) (lcH k j)

/-- the producer-side locations: the cursor's and the low watermark's clock cover their values; the clock of the word of a
published sequence above the cursor whose bit is set knows that sequence -/
structure HLoc (x : MSt) (lcCur lcLw : VC) (lcB : Nat → VC) : Prop where
  lCur : CoversM x.written x.s.K x.s.h x.s.n lcCur 0 x.s.cursor
  lLw  : CoversM x.written x.s.K x.s.h x.s.n lcLw 0 x.lw
  lB   : ∀ q0, Pub x q0 → x.s.cursor < q0 → bmIsSet x.bm q0 = true →
           SeqK x.written x.s.K x.s.h x.s.n (lcB (C19.slotOf x.s.n q0)) q0

def goodPc (pc : WPc) : Prop :=
  pc = .scan ∨ pc = .relCheck ∨ pc = .unsetBit ∨ pc = .casCur ∨ pc = .reloadCur ∨ pc = .setLw

/-- what the clock `v` of a writer thread with local state `w` knows -/
structure WKnow (W : List (Nat × Nat)) (K : Nat) (h : Nat → Nat) (n : Nat) (v : VC) (w : Writer) : Prop where
  /-- `has_capacity`'s acquire loads: every handler's accesses up to `minG`, every slot write up to `minG` -/
  min    : ∀ k j, k < K → j < h k → w.minG ≤ v.ha k j
  minW   : KnowsUpTo W v w.minG
  ld     : w.pc = .capLoad → ∀ m, w.acc = some m →
             (0 < w.idx → (∀ k j, k < K - 1 → j < h k → m ≤ v.ha k j) ∧ KnowsUpTo W v m) ∧
             (∀ d, d < w.idx → m ≤ v.ha (K - 1) d)
  /-- its own slot writes of the current claim -/
  claimW : w.pc = .write → ∀ q, w.lo ≤ q → q < w.w → KnowsW W v q
  claimS : w.pc = .setBit → ∀ q, w.lo ≤ q → q ≤ w.hi → KnowsW W v q
  /-- the release phase: everything up to `good_to_release` -/
  good   : goodPc w.pc → CoversM W K h n v 0 w.good

theorem WKnow.mono {W : List (Nat × Nat)} {K : Nat} {h : Nat → Nat} {n : Nat} {v v' : VC} {w : Writer}
    (hw : WKnow W K h n v w) (hv : v.le v') (L : List (Nat × Nat)) : WKnow (W ++ L) K h n v' w := by
  obtain ⟨a1, a2, a3, a4, a5, a6⟩ := hw
  refine ⟨?_, a2.mono hv (Nat.le_refl _) L, ?_, ?_, ?_, ?_⟩
  · intro k j hk hj; have := a1 k j hk hj; have := hv.2 k j; omega
  · intro hp m hm
    obtain ⟨b1, b2⟩ := a3 hp m hm
    refine ⟨fun hi => ⟨fun k j hk hj => ?_, ((b1 hi).2).mono hv (Nat.le_refl _) L⟩, fun d hd => ?_⟩
    · have := (b1 hi).1 k j hk hj; have := hv.2 k j; omega
    · have := b2 d hd; have := hv.2 (K - 1) d; omega
  · intro hp q h1 h2; exact knowsW_mono (a4 hp q h1 h2) hv L
  · intro hp q h1 h2; exact knowsW_mono (a5 hp q h1 h2) hv L
  · intro hp; exact (a6 hp).mono hv (Nat.le_refl _) L

structure HWr (x : MSt) (vcW : Nat → VC) : Prop where
  own  : ∀ i, i < x.P → (vcW i).pw i = (wlog x.written i).length
  know : ∀ i, i < x.P → WKnow x.written x.s.K x.s.h x.s.n (vcW i) (x.wr i)

structure HMInv (s : HMSt) : Prop where
  hc : HCons s.x.written s.x.s s.vcC s.lcH
  hl : HLoc s.x s.lcCur s.lcLw s.lcB
  hw : HWr s.x s.vcW
  hz : HDom s

theorem hcons_mono {W : List (Nat × Nat)} {sx : St} {vcC lcH : Nat → Nat → VC} (h : HCons W sx vcC lcH)
    (L : List (Nat × Nat)) : HCons (W ++ L) sx vcC lcH :=
  fun k j hk hj => (h k j hk hj).imp fun _ _ _ hc => hc.mono (le_refl' _) (Nat.le_refl _) L

theorem depClock_dom (s : HMSt) (hZ : HDom s) (k d : Nat) : Dom (ow s) (oh s) (depClock s k d) := by
  unfold depClock; split
  · exact hZ.dCur
  · exact hZ.dH _ _

/-- a handler's step preserves the handler clauses (cursor stores Release, cursor loads Acquire) -/
theorem hcons_cons (og os : Ord) (hset : os.isRelease = true) (hget : og.isAcquire = true)
    (s : HMSt) (k j : Nat) (hk : k < s.x.s.K) (hj : j < s.x.s.h k) (hI : Inv s.x.s)
    (hC : HCons s.x.written s.x.s s.vcC s.lcH)
    (hLc : CoversM s.x.written s.x.s.K s.x.s.h s.x.s.n s.lcCur 0 s.x.s.cursor) (hZ : HDom s) :
    HCons s.x.written (stepC s.x.s k j) (updV s.vcC k j (consV og s k j)) (updV s.lcH k j (consL os s k j)) := by
  intro a b ha hb
  by_cases he : a = k ∧ b = j
  · obtain ⟨rfl, rfl⟩ := he
    simp only [updV_same, stepC_cons, upd_same, consV_eq, consL_eq]
    exact RingHB.HKnow.step clocks og os hset hget s.x.s a b (coverage _ _ _ _) _ (hI.2 a b hk hj)
      (ndeps_pos s.x.s hI.1 a hk) _ _ _ (RingHB.dep_covered clocks s.x.s a hk s.lcCur s.vcC s.lcH hLc hC)
      ((hZ.dH a b).2 a b) (fun d => (depClock_dom s hZ a d).2 a b) (hC a b hk hj)
  · simp only [updV_other _ _ _ _ _ _ he, stepC_cons, upd_other _ _ _ _ _ _ he]; exact hC a b ha hb

theorem hdom_cons (og os : Ord) (s : HMSt) (k j : Nat) (hZ : HDom s) :
    HDom { s with x := { s.x with s := stepC s.x.s k j },
                  vcC := updV s.vcC k j (consV og s k j), lcH := updV s.lcH k j (consL os s k j) } := by
  let s' : HMSt :=
    { s with x := { s.x with s := stepC s.x.s k j },
             vcC := updV s.vcC k j (consV og s k j), lcH := updV s.lcH k j (consL os s k j) }
  have hv : (s.vcC k j).le (consV og s k j) :=
    RingHB.consClock_cases clocks og s.x.s k j _ _ _ _ (s.vcC k j).le (le_refl' _) (le_join_left _ _)
      (fun _ => le_join_left _ _) (fun _ _ => le_incH _ _ _)
  have hoh : ∀ a b, oh s a b ≤ oh s' a b := by
    intro a b
    by_cases he : a = k ∧ b = j
    · obtain ⟨rfl, rfl⟩ := he; simp only [oh, s', updV_same]; exact hv.2 a b
    · simp only [oh, s', updV_other _ _ _ _ _ _ he]; exact Nat.le_refl _
  have old : ∀ c, Dom (ow s) (oh s) c → Dom (ow s') (oh s') c :=
    fun c hc => dom_mono hc (fun _ => Nat.le_refl _) hoh
  have hv' : Dom (ow s') (oh s') (consV og s k j) := by
    refine RingHB.consClock_cases clocks og s.x.s k j _ _ _ _ (Dom (ow s') (oh s')) (old _ (hZ.dC k j))
      (dom_join (old _ (hZ.dC k j)) (old _ (hZ.dH k j)))
      (fun d => dom_join (old _ (hZ.dC k j)) (old _ (depClock_dom s hZ k d))) (fun hpc hle => ⟨(hZ.dC k j).1, fun a b => ?_⟩)
    -- the slot access: the new own entry is the new clock's
    have e : consV og s k j = (s.vcC k j).incH k j := by simp [consV, hpc, hle]
    by_cases he : a = k ∧ b = j
    · obtain ⟨rfl, rfl⟩ := he; simp only [oh, s', updV_same, e]; exact Nat.le_refl _
    · simp only [oh, s', updV_other _ _ _ _ _ _ he]
      show ((s.vcC k j).incH k j).ha a b ≤ _
      simp only [VC.incH, he, if_false]; exact (hZ.dC k j).2 a b
  have hl' : Dom (ow s') (oh s') (consL os s k j) :=
    RingHB.cursorClock_cases clocks os _ _ _ (Dom (ow s') (oh s')) (old _ (hZ.dC k j)) (old _ (hZ.dH k j)) (dom_empty _ _)
  refine ⟨old _ hZ.dCur, old _ hZ.dHw, old _ hZ.dLw, ?_, fun ix => old _ (hZ.dB ix), fun i => old _ (hZ.dW i), ?_,
    old _ hZ.dD⟩
  · intro a b
    show Dom (ow s') (oh s') (updV s.lcH k j (consL os s k j) a b)
    by_cases he : a = k ∧ b = j
    · obtain ⟨rfl, rfl⟩ := he; simp only [updV_same]; exact hl'
    · rw [updV_other _ _ _ _ _ _ he]; exact old _ (hZ.dH a b)
  · intro a b
    show Dom (ow s') (oh s') (updV s.vcC k j (consV og s k j) a b)
    by_cases he : a = k ∧ b = j
    · obtain ⟨rfl, rfl⟩ := he; simp only [updV_same]; exact hv'
    · rw [updV_other _ _ _ _ _ _ he]; exact old _ (hZ.dC a b)

theorem hminv_cons (o : Ords) (hset : o.set.isRelease = true) (hget : o.get.isAcquire = true)
    (s : HMSt) (k j : Nat) (hk : k < s.x.s.K) (hj : j < s.x.s.h k) (hI : Inv s.x.s) (hH : HMInv s) :
    HMInv (stepMH o s (.cons k j)) := by
  simp only [stepMH, hk, hj, and_self, if_true]
  refine ⟨hcons_cons o.get o.set hset hget s k j hk hj hI hH.hc hH.hl.lCur hH.hz, ?_, ?_, hdom_cons o.get o.set s k j hH.hz⟩
  · exact ⟨hH.hl.lCur, hH.hl.lLw, hH.hl.lB⟩
  · exact ⟨hH.hw.own, hH.hw.know⟩

/-- the draining thread only loads: of the shared state it changes `isDone`, the mutex and the wake-up flags, which no
clause reads -/
theorem hminv_drainer (o : Ords) (s : HMSt) (hH : HMInv s) : HMInv (stepMH o s .drainer) := by
  simp only [stepMH, stepDrainer_eq]
  have hZ := hH.hz
  have hd : Dom (ow s) (oh s) (drainV o s) := by
    cases hpc : s.x.dr.pc <;> simp only [drainV, hpc] <;> (try split) <;>
      first | exact hZ.dD | exact dom_load _ hZ.dD hZ.dCur | exact dom_load _ hZ.dD (hZ.dH _ _)
  exact ⟨hH.hc, ⟨hH.hl.lCur, hH.hl.lLw, hH.hl.lB⟩, ⟨hH.hw.own, hH.hw.know⟩,
    ⟨hZ.dCur, hZ.dHw, hZ.dLw, hZ.dH, hZ.dB, hZ.dW, hZ.dC, hd⟩⟩

end RingMultiHB
